import GBModel.Assemble
import GBModel.TwoElec
import GBProofs.Layout
import GBProofs.ContractionLaws
import Mathlib.Data.List.Basic
import Mathlib.Tactic.Ring

/-!
# Layout of one-index and four-index assembled arrays

The analogues of `GBProofs/Layout.lean` (two-index arrays) for `assemble1` and `assemble4g`: the entry
at `offset i + m · nfun + f` in each index is the entry of the normalised, transformed block of the shell
(of the quartet of shells), the flat arrays are row-major, and the array of four bases that are runs of
shells of bigger bases is a sub-array of the array of those, in particular of the array of the union
basis.  Over a field, the array in physicists' notation is the chemists' array with the two middle
indices exchanged (`entry4_middle_swap`): the two index conventions of C04.

Tables are total (`tab_get` holds for every index), so the statements about table entries need no
range hypotheses on the trailing index `e`; range hypotheses appear only where `locate` needs them.
-/
namespace GB
variable {K : Type}

section
variable [Transc K]

/-! ## one-index arrays -/

theorem oneBlocks_get (b : Basis K) (nextra : Nat) (blk : Nat → Tab3 K) (i : Nat) (hi : i < b.size)
    (m f e : Nat) :
    ((oneBlocks b nextra blk).get i).get3 m f e
      = if b[i].sph then sumN b[i].ncart fun a => b[i].weights.get3 m f a * (blk i).get3 m a e
        else b[i].weights.get3 m f f * (blk i).get3 m f e := by
  unfold oneBlocks
  simp only [tab_get, tab3_get, getD_eq_getElem b i hi]

/-- the one-index analogue of `entry2_layout` -/
theorem entry1_layout (b : Basis K) (nextra : Nat) (blk : Nat → Tab3 K)
    (i : Nat) (hi : i < b.size) (m f e : Nat) (hm : m < b[i].nseg) (hf : f < b[i].nfun) :
    entry1 b (oneBlocks b nextra blk) (b.offset i + m * b[i].nfun + f) e
      = ((oneBlocks b nextra blk).get i).get3 m f e := by
  unfold entry1
  simp only [locate_offset b i hi m f hm hf]

theorem applyW_cart (s : Shell K) (w : Tab3 K) (F : Nat → Nat → K) (m g : Nat)
    (hs : s.sph = false) : applyW s w F m g = w.get3 m g g * F m g := by
  simp [applyW, hs]

theorem applyW_sph (s : Shell K) (w : Tab3 K) (F : Nat → Nat → K) (m g : Nat)
    (hs : s.sph = true) : applyW s w F m g = sumN s.ncart fun a => w.get3 m g a * F m a := by
  simp [applyW, hs]

theorem entry1_of_locate (b : Basis K) (nextra : Nat) (blk : Nat → Tab3 K) {r i m f : Nat} (e : Nat)
    (hr : b.locate r = (i, m, f)) (hi : i < b.size) :
    entry1 b (oneBlocks b nextra blk) r e
      = applyW b[i] b[i].weights (fun m a => (blk i).get3 m a e) m f := by
  simp only [entry1, hr]
  rw [oneBlocks_get b nextra blk i hi, applyW]

theorem entry1_layout_sph (b : Basis K) (nextra : Nat) (blk : Nat → Tab3 K)
    (i : Nat) (hi : i < b.size) (hs : b[i].sph = true) (m f e : Nat)
    (hm : m < b[i].nseg) (hf : f < b[i].nfun) :
    entry1 b (oneBlocks b nextra blk) (b.offset i + m * b[i].nfun + f) e
      = sumN b[i].ncart fun a => b[i].weights.get3 m f a * (blk i).get3 m a e := by
  rw [entry1_of_locate b nextra blk e (locate_offset b i hi m f hm hf) hi, applyW_sph _ _ _ _ _ hs]

theorem entry1_layout_cart (b : Basis K) (nextra : Nat) (blk : Nat → Tab3 K)
    (i : Nat) (hi : i < b.size) (hs : b[i].sph = false) (m f e : Nat)
    (hm : m < b[i].nseg) (hf : f < b[i].nfun) :
    entry1 b (oneBlocks b nextra blk) (b.offset i + m * b[i].nfun + f) e
      = b[i].weights.get3 m f f * (blk i).get3 m f e := by
  rw [entry1_of_locate b nextra blk e (locate_offset b i hi m f hm hf) hi, applyW_cart _ _ _ _ _ hs]

theorem assemble1_size (b : Basis K) (nextra : Nat) (blk : Nat → Tab3 K) :
    (assemble1 b nextra blk).size = b.total * nextra := by
  simp [assemble1]

theorem assemble1_getElem (b : Basis K) (nextra : Nat) (blk : Nat → Tab3 K)
    (r e : Nat) (he : e < nextra) (h : r * nextra + e < (assemble1 b nextra blk).size) :
    (assemble1 b nextra blk)[r * nextra + e] = entry1 b (oneBlocks b nextra blk) r e := by
  simp only [assemble1, Array.getElem_ofFn]
  rw [mul_add_div_self he, mul_add_mod_self he]

theorem assemble1_get [Inhabited K] (b : Basis K) (nextra : Nat) (blk : Nat → Tab3 K)
    (r e : Nat) (hr : r < b.total) (he : e < nextra) :
    (assemble1 b nextra blk)[r * nextra + e]! = entry1 b (oneBlocks b nextra blk) r e := by
  have h : r * nextra + e < (assemble1 b nextra blk).size := by
    rw [assemble1_size]; exact mul_add_lt hr he
  rw [getElem!_pos (assemble1 b nextra blk) (r * nextra + e) h]
  exact assemble1_getElem b nextra blk r e he h

/-! ## the block of a quartet of shells -/

omit [Transc K] in
theorem tab8_get (n1 n2 n3 n4 n5 n6 n7 n8 : Nat)
    (F : Nat → Nat → Nat → Nat → Nat → Nat → Nat → Nat → K) (a b c d e f g h : Nat) :
    Tab.get8 (tab4 n1 n2 n3 n4 fun a b c d => tab4 n5 n6 n7 n8 fun e f g h => F a b c d e f g h)
      a b c d e f g h = F a b c d e f g h := by
  simp only [Tab.get8, tab4_get]

/-- `wBlock4` is the four nested applications of the weights, in the order `a, b, c, d`
(innermost first). -/
theorem wBlock4_get8 (sa sb sc sd : Shell K) (wa wb wc wd : Tab3 K) (raw : Tab8 K)
    (ma fa mb fb mc fc md fd : Nat) :
    (wBlock4 sa sb sc sd wa wb wc wd raw).get8 ma fa mb fb mc fc md fd
      = applyW sd wd (fun m4 a4 =>
          applyW sc wc (fun m3 a3 =>
            applyW sb wb (fun m2 a2 =>
              applyW sa wa (fun m1 a1 => raw.get8 m1 a1 m2 a2 m3 a3 m4 a4) ma fa) mb fb) mc fc)
          md fd := by
  simp only [wBlock4, Tab.get8, tab4_get]

/-- the four nested applications of the weights of `wBlock4`: slot 1 innermost, slot 4 outermost;
`G` takes its index pairs in the order of the slots -/
def nest4 (s1 s2 s3 s4 : Shell K) (w1 w2 w3 w4 : Tab3 K)
    (G : Nat → Nat → Nat → Nat → Nat → Nat → Nat → Nat → K) (m1 f1 m2 f2 m3 f3 m4 f4 : Nat) : K :=
  applyW s4 w4 (fun x4 a4 =>
    applyW s3 w3 (fun x3 a3 =>
      applyW s2 w2 (fun x2 a2 =>
        applyW s1 w1 (fun x1 a1 => G x1 a1 x2 a2 x3 a3 x4 a4) m1 f1) m2 f2) m3 f3) m4 f4

theorem wBlock4_get8_nest (sa sb sc sd : Shell K) (wa wb wc wd : Tab3 K) (raw : Tab8 K)
    (ma fa mb fb mc fc md fd : Nat) :
    (wBlock4 sa sb sc sd wa wb wc wd raw).get8 ma fa mb fb mc fc md fd
      = nest4 sa sb sc sd wa wb wc wd raw.get8 ma fa mb fb mc fc md fd :=
  wBlock4_get8 sa sb sc sd wa wb wc wd raw ma fa mb fb mc fc md fd

/-- the factors stand in the order of multiplication of the definition: `K` has no ring laws here -/
theorem wBlock4_get8_cart (sa sb sc sd : Shell K) (wa wb wc wd : Tab3 K) (raw : Tab8 K)
    (ha : sa.sph = false) (hb : sb.sph = false) (hc : sc.sph = false) (hd : sd.sph = false)
    (ma fa mb fb mc fc md fd : Nat) :
    (wBlock4 sa sb sc sd wa wb wc wd raw).get8 ma fa mb fb mc fc md fd
      = wd.get3 md fd fd * (wc.get3 mc fc fc * (wb.get3 mb fb fb * (wa.get3 ma fa fa
          * raw.get8 ma fa mb fb mc fc md fd))) := by
  rw [wBlock4_get8, applyW_cart _ _ _ _ _ hd, applyW_cart _ _ _ _ _ hc, applyW_cart _ _ _ _ _ hb,
    applyW_cart _ _ _ _ _ ha]

theorem wBlock4_get8_sph (sa sb sc sd : Shell K) (wa wb wc wd : Tab3 K) (raw : Tab8 K)
    (ha : sa.sph = true) (hb : sb.sph = true) (hc : sc.sph = true) (hd : sd.sph = true)
    (ma fa mb fb mc fc md fd : Nat) :
    (wBlock4 sa sb sc sd wa wb wc wd raw).get8 ma fa mb fb mc fc md fd
      = sumN sd.ncart fun a4 => wd.get3 md fd a4 * sumN sc.ncart fun a3 => wc.get3 mc fc a3 *
          sumN sb.ncart fun a2 => wb.get3 mb fb a2 * sumN sa.ncart fun a1 => wa.get3 ma fa a1 *
            raw.get8 ma a1 mb a2 mc a3 md a4 := by
  rw [wBlock4_get8, applyW_sph _ _ _ _ _ hd]
  simp only [applyW_sph _ _ _ _ _ hc, applyW_sph _ _ _ _ _ hb, applyW_sph _ _ _ _ _ ha]

/-! ## four-index arrays -/

theorem weightTabs_get (b : Basis K) (i : Nat) (hi : i < b.size) :
    b.weightTabs.get i = b[i].weights := by
  unfold Basis.weightTabs
  simp only [tab_get]
  rw [Array.getElem?_eq_getElem hi]

theorem quartetBlocks_get (b1 b2 b3 b4 : Basis K) (blk : Nat → Nat → Nat → Nat → Tab8 K)
    (i j k l : Nat) (hi : i < b1.size) (hj : j < b2.size) (hk : k < b3.size) (hl : l < b4.size) :
    (quartetBlocks b1 b2 b3 b4 blk).get4 i j k l
      = wBlock4 b1[i] b2[j] b3[k] b4[l] b1[i].weights b2[j].weights b3[k].weights b4[l].weights
          (blk i j k l) := by
  unfold quartetBlocks
  simp only [tab4_get]
  rw [weightTabs_get b1 i hi, weightTabs_get b2 j hj, weightTabs_get b3 k hk, weightTabs_get b4 l hl,
    getD_eq_getElem b1 i hi, getD_eq_getElem b2 j hj, getD_eq_getElem b3 k hk,
    getD_eq_getElem b4 l hl]

theorem entry4_of_locate (b1 b2 b3 b4 : Basis K) (blk : Nat → Nat → Nat → Nat → Tab8 K)
    {r1 r2 r3 r4 i1 i2 i3 i4 m1 f1 m2 f2 m3 f3 m4 f4 : Nat}
    (hr1 : b1.locate r1 = (i1, m1, f1)) (hr2 : b2.locate r2 = (i2, m2, f2))
    (hr3 : b3.locate r3 = (i3, m3, f3)) (hr4 : b4.locate r4 = (i4, m4, f4))
    (h1 : i1 < b1.size) (h2 : i2 < b2.size) (h3 : i3 < b3.size) (h4 : i4 < b4.size) :
    entry4 b1 b2 b3 b4 (quartetBlocks b1 b2 b3 b4 blk) r1 r2 r3 r4
      = (wBlock4 b1[i1] b2[i2] b3[i3] b4[i4] b1[i1].weights b2[i2].weights b3[i3].weights
          b4[i4].weights (blk i1 i2 i3 i4)).get8 m1 f1 m2 f2 m3 f3 m4 f4 := by
  simp only [entry4, hr1, hr2, hr3, hr4]
  rw [quartetBlocks_get b1 b2 b3 b4 blk i1 i2 i3 i4 h1 h2 h3 h4]

/-- the four-index analogue of `entry2_layout` -/
theorem entry4_layout (b1 b2 b3 b4 : Basis K) (blk : Nat → Nat → Nat → Nat → Tab8 K)
    (i1 i2 i3 i4 : Nat) (h1 : i1 < b1.size) (h2 : i2 < b2.size) (h3 : i3 < b3.size)
    (h4 : i4 < b4.size) (m1 f1 m2 f2 m3 f3 m4 f4 : Nat)
    (hm1 : m1 < b1[i1].nseg) (hf1 : f1 < b1[i1].nfun) (hm2 : m2 < b2[i2].nseg)
    (hf2 : f2 < b2[i2].nfun) (hm3 : m3 < b3[i3].nseg) (hf3 : f3 < b3[i3].nfun)
    (hm4 : m4 < b4[i4].nseg) (hf4 : f4 < b4[i4].nfun) :
    entry4 b1 b2 b3 b4 (quartetBlocks b1 b2 b3 b4 blk)
        (b1.offset i1 + m1 * b1[i1].nfun + f1) (b2.offset i2 + m2 * b2[i2].nfun + f2)
        (b3.offset i3 + m3 * b3[i3].nfun + f3) (b4.offset i4 + m4 * b4[i4].nfun + f4)
      = (wBlock4 b1[i1] b2[i2] b3[i3] b4[i4] b1[i1].weights b2[i2].weights b3[i3].weights
          b4[i4].weights (blk i1 i2 i3 i4)).get8 m1 f1 m2 f2 m3 f3 m4 f4 :=
  entry4_of_locate b1 b2 b3 b4 blk (locate_offset b1 i1 h1 m1 f1 hm1 hf1)
    (locate_offset b2 i2 h2 m2 f2 hm2 hf2) (locate_offset b3 i3 h3 m3 f3 hm3 hf3)
    (locate_offset b4 i4 h4 m4 f4 hm4 hf4) h1 h2 h3 h4

theorem assemble4g_size (b1 b2 b3 b4 : Basis K) (blk : Nat → Nat → Nat → Nat → Tab8 K) :
    (assemble4g b1 b2 b3 b4 blk).size = b1.total * b2.total * b3.total * b4.total := by
  simp [assemble4g]

theorem assemble4_size (b : Basis K) (blk : Nat → Nat → Nat → Nat → Tab8 K) :
    (assemble4 b blk).size = b.total * b.total * b.total * b.total :=
  assemble4g_size b b b b blk

theorem assemble4g_getElem (b1 b2 b3 b4 : Basis K) (blk : Nat → Nat → Nat → Nat → Tab8 K)
    (r1 r2 r3 r4 : Nat) (h2 : r2 < b2.total) (h3 : r3 < b3.total) (h4 : r4 < b4.total)
    (h : ((r1 * b2.total + r2) * b3.total + r3) * b4.total + r4 < (assemble4g b1 b2 b3 b4 blk).size) :
    (assemble4g b1 b2 b3 b4 blk)[((r1 * b2.total + r2) * b3.total + r3) * b4.total + r4]
      = entry4 b1 b2 b3 b4 (quartetBlocks b1 b2 b3 b4 blk) r1 r2 r3 r4 := by
  simp only [assemble4g, Array.getElem_ofFn]
  -- peel the last position off every slot, then the third, then the second
  rw [mul_add_div_mul _ h4, mul_add_div_mul _ h4, mul_add_div_self h4, mul_add_mod_self h4,
    mul_add_div_mul _ h3, mul_add_div_self h3, mul_add_mod_self h3,
    mul_add_div_self h2, mul_add_mod_self h2]

/-- chemists' order `[r1][r2][r3][r4]` -/
theorem assemble4g_get [Inhabited K] (b1 b2 b3 b4 : Basis K)
    (blk : Nat → Nat → Nat → Nat → Tab8 K) (r1 r2 r3 r4 : Nat)
    (h1 : r1 < b1.total) (h2 : r2 < b2.total) (h3 : r3 < b3.total) (h4 : r4 < b4.total) :
    (assemble4g b1 b2 b3 b4 blk)[((r1 * b2.total + r2) * b3.total + r3) * b4.total + r4]!
      = entry4 b1 b2 b3 b4 (quartetBlocks b1 b2 b3 b4 blk) r1 r2 r3 r4 := by
  have h : ((r1 * b2.total + r2) * b3.total + r3) * b4.total + r4
      < (assemble4g b1 b2 b3 b4 blk).size := by
    rw [assemble4g_size]; exact mul_add_lt (mul_add_lt (mul_add_lt h1 h2) h3) h4
  rw [getElem!_pos (assemble4g b1 b2 b3 b4 blk) _ h]
  exact assemble4g_getElem b1 b2 b3 b4 blk r1 r2 r3 r4 h2 h3 h4 h

theorem assemble4_get [Inhabited K] (b : Basis K) (blk : Nat → Nat → Nat → Nat → Tab8 K)
    (r1 r2 r3 r4 : Nat)
    (h1 : r1 < b.total) (h2 : r2 < b.total) (h3 : r3 < b.total) (h4 : r4 < b.total) :
    (assemble4 b blk)[((r1 * b.total + r2) * b.total + r3) * b.total + r4]!
      = entry4 b b b b (quartetBlocks b b b b blk) r1 r2 r3 r4 :=
  assemble4g_get b b b b blk r1 r2 r3 r4 h1 h2 h3 h4

end

/-! ## four different bases as runs of shells of bigger bases -/

section
variable [Transc K]

theorem entry4_of_runs {b1 b2 b3 b4 U1 U2 U3 U4 : Basis K} {s1 t1 s2 t2 s3 t3 s4 t4 : Nat}
    (H1 : IsRun b1 U1 s1 t1) (H2 : IsRun b2 U2 s2 t2) (H3 : IsRun b3 U3 s3 t3)
    (H4 : IsRun b4 U4 s4 t4) (blk blkU : Nat → Nat → Nat → Nat → Tab8 K)
    (hblk : ∀ i j k l, i < b1.size → j < b2.size → k < b3.size → l < b4.size →
      blkU (s1 + i) (s2 + j) (s3 + k) (s4 + l) = blk i j k l)
    (r1 r2 r3 r4 : Nat)
    (h1 : r1 < b1.total) (h2 : r2 < b2.total) (h3 : r3 < b3.total) (h4 : r4 < b4.total) :
    entry4 U1 U2 U3 U4 (quartetBlocks U1 U2 U3 U4 blkU) (t1 + r1) (t2 + r2) (t3 + r3) (t4 + r4)
      = entry4 b1 b2 b3 b4 (quartetBlocks b1 b2 b3 b4 blk) r1 r2 r3 r4 := by
  obtain ⟨i, hi, m1, f1, -, -, -, hl1⟩ := locate_cases b1 r1 h1
  obtain ⟨j, hj, m2, f2, -, -, -, hl2⟩ := locate_cases b2 r2 h2
  obtain ⟨k, hk, m3, f3, -, -, -, hl3⟩ := locate_cases b3 r3 h3
  obtain ⟨l, hl, m4, f4, -, -, -, hl4⟩ := locate_cases b4 r4 h4
  obtain ⟨hiu, ei⟩ := H1.shell i hi
  obtain ⟨hju, ej⟩ := H2.shell j hj
  obtain ⟨hku, ek⟩ := H3.shell k hk
  obtain ⟨hlu, el⟩ := H4.shell l hl
  rw [entry4_of_locate b1 b2 b3 b4 blk hl1 hl2 hl3 hl4 hi hj hk hl,
    entry4_of_locate U1 U2 U3 U4 blkU (H1.locate h1 hl1) (H2.locate h2 hl2) (H3.locate h3 hl3)
      (H4.locate h4 hl4) hiu hju hku hlu,
    ei, ej, ek, el, hblk i j k l hi hj hk hl]

/-- the four-index analogue of `entry2_append`: the array of four different bases is the off-diagonal block
of the array of the union basis `b1 ++ b2 ++ b3 ++ b4` -/
theorem entry4_append (b1 b2 b3 b4 : Basis K) (blk blkU : Nat → Nat → Nat → Nat → Tab8 K)
    (hblk : ∀ i j k l, i < b1.size → j < b2.size → k < b3.size → l < b4.size →
      blkU i (b1.size + j) (b1.size + b2.size + k) (b1.size + b2.size + b3.size + l) = blk i j k l)
    (r1 r2 r3 r4 : Nat)
    (h1 : r1 < b1.total) (h2 : r2 < b2.total) (h3 : r3 < b3.total) (h4 : r4 < b4.total) :
    entry4 (b1 ++ b2 ++ b3 ++ b4) (b1 ++ b2 ++ b3 ++ b4) (b1 ++ b2 ++ b3 ++ b4)
        (b1 ++ b2 ++ b3 ++ b4)
        (quartetBlocks (b1 ++ b2 ++ b3 ++ b4) (b1 ++ b2 ++ b3 ++ b4) (b1 ++ b2 ++ b3 ++ b4)
          (b1 ++ b2 ++ b3 ++ b4) blkU)
        r1 (b1.total + r2) (b1.total + b2.total + r3) (b1.total + b2.total + b3.total + r4)
      = entry4 b1 b2 b3 b4 (quartetBlocks b1 b2 b3 b4 blk) r1 r2 r3 r4 := by
  have H1 := (((isRun_self b1).append b2).append b3).append b4
  have H2 := ((isRun_append_right b1 b2).append b3).append b4
  have H3 := (isRun_append_right (b1 ++ b2) b3).append b4
  have H4 := isRun_append_right (b1 ++ b2 ++ b3) b4
  simp only [Array.size_append, total_append] at H3 H4
  simpa only [Nat.zero_add] using entry4_of_runs H1 H2 H3 H4 blk blkU
    (by simpa only [Nat.zero_add] using hblk) r1 r2 r3 r4 h1 h2 h3 h4

/-- the same for the flat arrays -/
theorem assemble4g_append [Inhabited K] (b1 b2 b3 b4 : Basis K)
    (blk blkU : Nat → Nat → Nat → Nat → Tab8 K)
    (hblk : ∀ i j k l, i < b1.size → j < b2.size → k < b3.size → l < b4.size →
      blkU i (b1.size + j) (b1.size + b2.size + k) (b1.size + b2.size + b3.size + l) = blk i j k l)
    (r1 r2 r3 r4 : Nat)
    (h1 : r1 < b1.total) (h2 : r2 < b2.total) (h3 : r3 < b3.total) (h4 : r4 < b4.total) :
    (assemble4 (b1 ++ b2 ++ b3 ++ b4) blkU)[
        ((r1 * (b1.total + b2.total + b3.total + b4.total) + (b1.total + r2))
            * (b1.total + b2.total + b3.total + b4.total) + (b1.total + b2.total + r3))
          * (b1.total + b2.total + b3.total + b4.total) + (b1.total + b2.total + b3.total + r4)]!
      = (assemble4g b1 b2 b3 b4 blk)[((r1 * b2.total + r2) * b3.total + r3) * b4.total + r4]! := by
  have ht : Basis.total (b1 ++ b2 ++ b3 ++ b4) = b1.total + b2.total + b3.total + b4.total := by
    simp only [total_append]
  rw [assemble4g_get b1 b2 b3 b4 blk r1 r2 r3 r4 h1 h2 h3 h4,
    ← entry4_append b1 b2 b3 b4 blk blkU hblk r1 r2 r3 r4 h1 h2 h3 h4, ← ht]
  exact assemble4_get _ blkU _ _ _ _ (by omega) (by omega) (by omega) (by omega)

end

/-! ## physicists' notation: exchange of the two middle indices

The two middle stages of `wBlock4` are applied in a fixed order, so exchanging the middle pair of
indices exchanges two (finite) summations.  That needs the laws of a commutative ring; the statement
is therefore made over a field, with the instance `fieldTransc e sq pi` (arbitrary interpretations
of the transcendental operations), as in `ContractionLaws`. -/

section Field
variable {F : Type} [Field F] (e sq : F → F) (pi : F)

theorem applyW_eq_finset_sum (s : Shell F) (w : Tab3 F) (G : ℕ → ℕ → F) (m g : ℕ) :
    letI := fieldTransc e sq pi
    applyW s w G m g
      = ∑ a ∈ (if s.sph then Finset.range s.ncart else {g}), w.get3 m g a * G m a := by
  unfold applyW
  cases s.sph
  · simp only [Bool.false_eq_true, if_false, Finset.sum_singleton]
  · simp only [if_true, sumN_eq_sum]

theorem applyW_comm (sb sc : Shell F) (wb wc : Tab3 F) (G : ℕ → ℕ → ℕ → ℕ → F)
    (mb fb mc fc : ℕ) :
    letI := fieldTransc e sq pi
    applyW sc wc (fun m3 a3 => applyW sb wb (fun m2 a2 => G m2 a2 m3 a3) mb fb) mc fc
      = applyW sb wb (fun m2 a2 => applyW sc wc (fun m3 a3 => G m2 a2 m3 a3) mc fc) mb fb := by
  simp only [applyW_eq_finset_sum, Finset.mul_sum]
  rw [Finset.sum_comm]
  exact Finset.sum_congr rfl fun _ _ => Finset.sum_congr rfl fun _ _ => mul_left_comm _ _ _

theorem nest4_swap12 (s1 s2 s3 s4 : Shell F) (w1 w2 w3 w4 : Tab3 F)
    (G : ℕ → ℕ → ℕ → ℕ → ℕ → ℕ → ℕ → ℕ → F) (m1 f1 m2 f2 m3 f3 m4 f4 : ℕ) :
    letI := fieldTransc e sq pi
    nest4 s1 s2 s3 s4 w1 w2 w3 w4 G m1 f1 m2 f2 m3 f3 m4 f4
      = nest4 s2 s1 s3 s4 w2 w1 w3 w4
          (fun x2 a2 x1 a1 x3 a3 x4 a4 => G x1 a1 x2 a2 x3 a3 x4 a4) m2 f2 m1 f1 m3 f3 m4 f4 := by
  let _ := fieldTransc e sq pi
  unfold nest4
  congr 1
  funext x4 a4
  congr 1
  funext x3 a3
  exact applyW_comm e sq pi s1 s2 w1 w2 (fun x1 a1 x2 a2 => G x1 a1 x2 a2 x3 a3 x4 a4) m1 f1 m2 f2

theorem nest4_swap23 (s1 s2 s3 s4 : Shell F) (w1 w2 w3 w4 : Tab3 F)
    (G : ℕ → ℕ → ℕ → ℕ → ℕ → ℕ → ℕ → ℕ → F) (m1 f1 m2 f2 m3 f3 m4 f4 : ℕ) :
    letI := fieldTransc e sq pi
    nest4 s1 s2 s3 s4 w1 w2 w3 w4 G m1 f1 m2 f2 m3 f3 m4 f4
      = nest4 s1 s3 s2 s4 w1 w3 w2 w4
          (fun x1 a1 x3 a3 x2 a2 x4 a4 => G x1 a1 x2 a2 x3 a3 x4 a4) m1 f1 m3 f3 m2 f2 m4 f4 := by
  let _ := fieldTransc e sq pi
  unfold nest4
  congr 1
  funext x4 a4
  exact applyW_comm e sq pi s2 s3 w2 w3
    (fun x2 a2 x3 a3 => applyW s1 w1 (fun x1 a1 => G x1 a1 x2 a2 x3 a3 x4 a4) m1 f1) m2 f2 m3 f3

theorem nest4_swap34 (s1 s2 s3 s4 : Shell F) (w1 w2 w3 w4 : Tab3 F)
    (G : ℕ → ℕ → ℕ → ℕ → ℕ → ℕ → ℕ → ℕ → F) (m1 f1 m2 f2 m3 f3 m4 f4 : ℕ) :
    letI := fieldTransc e sq pi
    nest4 s1 s2 s3 s4 w1 w2 w3 w4 G m1 f1 m2 f2 m3 f3 m4 f4
      = nest4 s1 s2 s4 s3 w1 w2 w4 w3
          (fun x1 a1 x2 a2 x4 a4 x3 a3 => G x1 a1 x2 a2 x3 a3 x4 a4) m1 f1 m2 f2 m4 f4 m3 f3 := by
  let _ := fieldTransc e sq pi
  unfold nest4
  exact applyW_comm e sq pi s3 s4 w3 w4
    (fun x3 a3 x4 a4 => applyW s2 w2 (fun x2 a2 =>
      applyW s1 w1 (fun x1 a1 => G x1 a1 x2 a2 x3 a3 x4 a4) m1 f1) m2 f2) m3 f3 m4 f4

theorem wBlock4_middle_swap (sa sb sc sd : Shell F) (wa wb wc wd : Tab3 F) (raw raw' : Tab8 F)
    (hraw : ∀ m1 a1 m2 a2 m3 a3 m4 a4,
      raw'.get8 m1 a1 m3 a3 m2 a2 m4 a4 = raw.get8 m1 a1 m2 a2 m3 a3 m4 a4)
    (ma fa mb fb mc fc md fd : ℕ) :
    letI := fieldTransc e sq pi
    (wBlock4 sa sc sb sd wa wc wb wd raw').get8 ma fa mc fc mb fb md fd
      = (wBlock4 sa sb sc sd wa wb wc wd raw).get8 ma fa mb fb mc fc md fd := by
  let _ := fieldTransc e sq pi
  have h : raw'.get8 = fun m1 a1 m3 a3 m2 a2 m4 a4 => raw.get8 m1 a1 m2 a2 m3 a3 m4 a4 := by
    funext m1 a1 m3 a3 m2 a2 m4 a4
    exact hraw m1 a1 m2 a2 m3 a3 m4 a4
  rw [wBlock4_get8_nest, wBlock4_get8_nest, h, nest4_swap23 e sq pi sa sb sc sd]

/-- C04, physicists' notation: the array of `(b1, b3, b2, b4)` built from the axis-swapped blocks is the
chemists' array of `(b1, b2, b3, b4)` with the two middle indices exchanged -/
theorem entry4_middle_swap (b1 b2 b3 b4 : Basis F) (blk blk' : ℕ → ℕ → ℕ → ℕ → Tab8 F)
    (hblk : ∀ i j k l, i < b1.size → j < b2.size → k < b3.size → l < b4.size →
      ∀ m1 a1 m2 a2 m3 a3 m4 a4,
        (blk' i k j l).get8 m1 a1 m3 a3 m2 a2 m4 a4 = (blk i j k l).get8 m1 a1 m2 a2 m3 a3 m4 a4)
    (r1 r2 r3 r4 : ℕ)
    (h1 : r1 < b1.total) (h2 : r2 < b2.total) (h3 : r3 < b3.total) (h4 : r4 < b4.total) :
    letI := fieldTransc e sq pi
    entry4 b1 b3 b2 b4 (quartetBlocks b1 b3 b2 b4 blk') r1 r3 r2 r4
      = entry4 b1 b2 b3 b4 (quartetBlocks b1 b2 b3 b4 blk) r1 r2 r3 r4 := by
  let _ := fieldTransc e sq pi
  obtain ⟨i, hi, m1, f1, -, -, -, hl1⟩ := locate_cases b1 r1 h1
  obtain ⟨j, hj, m2, f2, -, -, -, hl2⟩ := locate_cases b2 r2 h2
  obtain ⟨k, hk, m3, f3, -, -, -, hl3⟩ := locate_cases b3 r3 h3
  obtain ⟨l, hl, m4, f4, -, -, -, hl4⟩ := locate_cases b4 r4 h4
  rw [entry4_of_locate b1 b3 b2 b4 blk' hl1 hl3 hl2 hl4 hi hk hj hl,
    entry4_of_locate b1 b2 b3 b4 blk hl1 hl2 hl3 hl4 hi hj hk hl]
  exact wBlock4_middle_swap e sq pi _ _ _ _ _ _ _ _ _ _ (hblk i j k l hi hj hk hl) _ _ _ _ _ _ _ _

/-- the same for the flat arrays -/
theorem assemble4g_middle_swap [Inhabited F] (b1 b2 b3 b4 : Basis F) (blk blk' : ℕ → ℕ → ℕ → ℕ → Tab8 F)
    (hblk : ∀ i j k l, i < b1.size → j < b2.size → k < b3.size → l < b4.size →
      ∀ m1 a1 m2 a2 m3 a3 m4 a4,
        (blk' i k j l).get8 m1 a1 m3 a3 m2 a2 m4 a4 = (blk i j k l).get8 m1 a1 m2 a2 m3 a3 m4 a4)
    (r1 r2 r3 r4 : ℕ)
    (h1 : r1 < b1.total) (h2 : r2 < b2.total) (h3 : r3 < b3.total) (h4 : r4 < b4.total) :
    letI := fieldTransc e sq pi
    (assemble4g b1 b3 b2 b4 blk')[((r1 * b3.total + r3) * b2.total + r2) * b4.total + r4]!
      = (assemble4g b1 b2 b3 b4 blk)[((r1 * b2.total + r2) * b3.total + r3) * b4.total + r4]! := by
  let _ := fieldTransc e sq pi
  rw [assemble4g_get b1 b3 b2 b4 blk' r1 r3 r2 r4 h1 h3 h2 h4,
    assemble4g_get b1 b2 b3 b4 blk r1 r2 r3 r4 h1 h2 h3 h4]
  exact entry4_middle_swap e sq pi b1 b2 b3 b4 blk blk' hblk r1 r2 r3 r4 h1 h2 h3 h4

end Field

end GB

