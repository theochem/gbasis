import GBProofs.Props.C03
import GBProofs.ContractionLaws
import GBProofs.CoulombGeneral
import Mathlib.Algebra.BigOperators.Ring.Finset

/-!
# The point-charge block is the contracted Rys form, and (over ℝ) the Coulomb integral

Step 1 (any field, arbitrary Boys tables): the whole code path of `oneElecBlockOrdered`
(vertical recursion per primitive pair → contraction → horizontal recursion → selection → angular
norms) and of `pointChargeBlock` (shell swap, `-q`) computes the contracted Rys form `rysBlock`.

Step 2 (ℝ, true Boys function): `rysBlock` is `∫ φ_s φ_t / |r - C|` over `EuclideanSpace ℝ (Fin 3)`.
-/
open Finset

namespace GB

/-! ## Step 1: algebra -/
section Field
variable {K : Type} [Field K]

theorem Vspec_congr_geom (F : ℕ → K) (p : K) {PA PB PC PA' PB' PC' : ℕ → K}
    (hA : ∀ u, u < 3 → PA u = PA' u) (hB : ∀ u, u < 3 → PB u = PB' u)
    (hC : ∀ u, u < 3 → PC u = PC' u) (m : ℕ) (a b : ℕ × ℕ × ℕ) :
    Vspec F p PA PB PC m a b = Vspec F p PA' PB' PC' m a b := by
  simp only [Vspec, rysAx, hA 0 (by norm_num), hA 1 (by norm_num), hA 2 (by norm_num),
    hB 0 (by norm_num), hB 1 (by norm_num), hB 2 (by norm_num),
    hC 0 (by norm_num), hC 1 (by norm_num), hC 2 (by norm_num)]

/-- `horiz3_get` for a start table of the shape used in `oneElecBlockOrdered` -/
theorem horiz3_get_guard {AB : ℕ → K} {g : ℕ × ℕ × ℕ → ℕ × ℕ × ℕ → K} (hg : HorizRel AB g)
    (n lb la : ℕ) (f : ℕ → ℕ → ℕ → K)
    (hf : ∀ ax ay az, ax + ay + az < n → f ax ay az = g (ax, ay, az) (0,0,0))
    (bz by' bx ax ay az : ℕ) (hm : ax + ay + az + bx + by' + bz < n) :
    ((horiz3 AB n lb la (tab3 n n n fun ax ay az =>
        if ax + ay + az < n then f ax ay az else Num.nat 0)).get3 bz by' bx).get3 ax ay az
      = g (ax, ay, az) (bx, by', bz) := by
  refine horiz3_get hg ?_ lb la bz by' bx ax ay az hm
  intro ax ay az h
  rw [tab3_get, if_pos h, hf ax ay az h]

variable (e sq : K → K) (pi : K)

/-- Rys form of one primitive pair `(ka, kb)` of the shells `s`, `t` for the point `Cpt`:
`(2π/p) e^{-(αβ/p)|A-B|²} · Vspec (Fb (p·|P-C|²)) p (P-A) (P-B) (P-C) 0 a b`
with `p = α + β`, `P = (αA + βB)/p`; `Fb T m` stands for the Boys function `F_m(T)`. -/
noncomputable def rysPrim (Fb : K → ℕ → K) (s t : Shell K) (Cpt : ℕ → K) (ka kb : ℕ)
    (a b : Comp) : K :=
  letI := fieldTransc e sq pi
  2 * pi / (s.exp! ka + t.exp! kb)
    * e (-(s.exp! ka * t.exp! kb / (s.exp! ka + t.exp! kb)
        * ∑ i ∈ range 3, (s.ctr i - t.ctr i) * (s.ctr i - t.ctr i)))
    * Vspec
        (Fb ((s.exp! ka + t.exp! kb) * ∑ i ∈ range 3,
          ((s.exp! ka * s.ctr i + t.exp! kb * t.ctr i) / (s.exp! ka + t.exp! kb) - Cpt i)
            * ((s.exp! ka * s.ctr i + t.exp! kb * t.ctr i) / (s.exp! ka + t.exp! kb) - Cpt i)))
        (s.exp! ka + t.exp! kb)
        (fun i => (s.exp! ka * s.ctr i + t.exp! kb * t.ctr i) / (s.exp! ka + t.exp! kb) - s.ctr i)
        (fun i => (s.exp! ka * s.ctr i + t.exp! kb * t.ctr i) / (s.exp! ka + t.exp! kb) - t.ctr i)
        (fun i => (s.exp! ka * s.ctr i + t.exp! kb * t.ctr i) / (s.exp! ka + t.exp! kb) - Cpt i)
        0 a b

/-- Contracted Rys form of the entry `[ma][ca][mb][cb]`:
`(Σ_{ka,kb} c_s[ka,ma] N^rad_s[ka] · c_t[kb,mb] N^rad_t[kb] · rysPrim ka kb a b) · N^ang(a) · N^ang(b)`
with `a = s.comp! ca`, `b = t.comp! cb`. -/
noncomputable def rysBlock (Fb : K → ℕ → K) (s t : Shell K) (Cpt : ℕ → K) (ma ca mb cb : ℕ) : K :=
  letI := fieldTransc e sq pi
  (∑ ka ∈ range s.nprim, ∑ kb ∈ range t.nprim,
      s.coef! ka ma * normRad (s.exp! ka) s.l * (t.coef! kb mb * normRad (t.exp! kb) t.l)
        * rysPrim e sq pi Fb s t Cpt ka kb (s.comp! ca) (t.comp! cb))
    * normAng (s.comp! ca) * normAng (t.comp! cb)

/-- the Rys form of a primitive pair satisfies the horizontal relations with `AB = A - B`, the
same function for every pair -/
theorem horizRel_rysPrim (Fb : K → ℕ → K) (s t : Shell K) (Cpt : ℕ → K) (ka kb : ℕ) :
    HorizRel (fun i => s.ctr i - t.ctr i) (fun a b => rysPrim e sq pi Fb s t Cpt ka kb a b) := by
  let _ := fieldTransc e sq pi
  have hAB : ∀ P : ℕ → K,
      (fun u => (P u - t.ctr u) - (P u - s.ctr u)) = fun i => s.ctr i - t.ctr i :=
    fun P => funext fun u => by ring
  rw [← hAB fun i => (s.exp! ka * s.ctr i + t.exp! kb * t.ctr i) / (s.exp! ka + t.exp! kb)]
  exact horizRel_Vspec _ _ _ _ _ _ 0

/-- For an arbitrary table-valued `boys` whose first `l_s + l_t + 1`
entries are `Fb T m`, every entry of `oneElecBlockOrdered` whose components have total degrees
`≤ l_s`, `≤ l_t` is the contracted Rys form.  (Neither `l_t ≤ l_s` nor `p ≠ 0` is needed: the
materialisation bounds of the horizontal table play no role, and `AB = (P-B) - (P-A)` holds
identically.) -/
theorem oneElecBlockOrdered_eq_rys (boys : K → ℕ → Tab K) (Fb : K → ℕ → K) (s t : Shell K)
    (Cpt : ℕ → K) (ma ca mb cb : ℕ) :
    letI := fieldTransc e sq pi
    (∀ T m, m < s.l + t.l + 1 → (boys T (s.l + t.l + 1)).get m = Fb T m) →
    (s.comp! ca).1 + (s.comp! ca).2.1 + (s.comp! ca).2.2 ≤ s.l →
    (t.comp! cb).1 + (t.comp! cb).2.1 + (t.comp! cb).2.2 ≤ t.l →
    (oneElecBlockOrdered boys s t Cpt).get4 ma ca mb cb
      = rysBlock e sq pi Fb s t Cpt ma ca mb cb := by
  let _ := fieldTransc e sq pi
  intro hF ha hb
  -- the contracted family
  obtain ⟨g, hgdef⟩ : ∃ g : ℕ × ℕ × ℕ → ℕ × ℕ × ℕ → K, g = fun a b =>
      ∑ x ∈ range s.nprim ×ˢ range t.nprim,
        (s.coef! x.1 ma * normRad (s.exp! x.1) s.l * (t.coef! x.2 mb * normRad (t.exp! x.2) t.l))
          * rysPrim e sq pi Fb s t Cpt x.1 x.2 a b := ⟨_, rfl⟩
  have hg : HorizRel (fun i => s.ctr i - t.ctr i) g := by
    rw [hgdef]
    exact HorizRel.sum (fun i => s.ctr i - t.ctr i) (range s.nprim ×ˢ range t.nprim)
      (fun x : ℕ × ℕ => s.coef! x.1 ma * normRad (s.exp! x.1) s.l
        * (t.coef! x.2 mb * normRad (t.exp! x.2) t.l))
      (fun x a b => rysPrim e sq pi Fb s t Cpt x.1 x.2 a b)
      (fun x _ => horizRel_rysPrim e sq pi Fb s t Cpt x.1 x.2)
  simp only [oneElecBlockOrdered, blockTab, tab4_get, tab2_get]
  rw [horiz3_get_guard hg]
  · -- selection, norms
    rw [hgdef, rysBlock]
    simp only [Finset.sum_product]
  · -- the contracted vertical table
    intro ax ay az hlt
    simp only [tab_get, tab2_get, sumN_eq_sum]
    rw [hgdef]
    simp only [Finset.sum_product]
    refine Finset.sum_congr rfl fun ka _ => Finset.sum_congr rfl fun kb _ => ?_
    rw [vertXYZ_eq_Vspec' (F := Fb ((s.exp! ka + t.exp! kb) * ∑ i ∈ range 3,
          ((s.exp! ka * s.ctr i + t.exp! kb * t.ctr i) / (s.exp! ka + t.exp! kb) - Cpt i)
            * ((s.exp! ka * s.ctr i + t.exp! kb * t.ctr i) / (s.exp! ka + t.exp! kb) - Cpt i)))
        (PB := fun i => (s.exp! ka * s.ctr i + t.exp! kb * t.ctr i) / (s.exp! ka + t.exp! kb)
          - t.ctr i)
        (hbase := fun m hm => by rw [hF _ m hm]) (hm := by omega)]
    unfold rysPrim
    simp only [num_nat, Nat.cast_ofNat, Transc.pi, Transc.exp]
    ring
  · omega

/-- exchange of the two primitives (`C03.spec_swap` + commutativity of every pair quantity) -/
theorem rysPrim_swap (Fb : K → ℕ → K) (s t : Shell K) (Cpt : ℕ → K) (ka kb : ℕ) (a b : Comp) :
    rysPrim e sq pi Fb t s Cpt kb ka b a = rysPrim e sq pi Fb s t Cpt ka kb a b := by
  let _ := fieldTransc e sq pi
  unfold rysPrim
  rw [C03.spec_swap]
  have hP : ∀ i, (t.exp! kb * t.ctr i + s.exp! ka * s.ctr i) / (t.exp! kb + s.exp! ka)
      = (s.exp! ka * s.ctr i + t.exp! kb * t.ctr i) / (s.exp! ka + t.exp! kb) := by
    intro i; rw [add_comm (t.exp! kb * t.ctr i), add_comm (t.exp! kb)]
  have h2 : ∑ i ∈ range 3, (t.ctr i - s.ctr i) * (t.ctr i - s.ctr i)
      = ∑ i ∈ range 3, (s.ctr i - t.ctr i) * (s.ctr i - t.ctr i) :=
    Finset.sum_congr rfl fun i _ => by ring
  simp only [hP, h2]
  rw [add_comm (t.exp! kb) (s.exp! ka), mul_comm (t.exp! kb) (s.exp! ka)]

theorem rysBlock_swap (Fb : K → ℕ → K) (s t : Shell K) (Cpt : ℕ → K) (ma ca mb cb : ℕ) :
    rysBlock e sq pi Fb t s Cpt mb cb ma ca = rysBlock e sq pi Fb s t Cpt ma ca mb cb := by
  let _ := fieldTransc e sq pi
  unfold rysBlock
  rw [Finset.sum_comm, mul_right_comm]
  simp only [rysPrim_swap]
  refine congrArg (· * _ * _) (Finset.sum_congr rfl fun ka _ => Finset.sum_congr rfl fun kb _ => ?_)
  rw [mul_comm (t.coef! kb mb * _)]

/-- Both branches (shells exchanged when `l_s < l_t`, or not) give
`-q` times the contracted Rys form with the roles of `s` and `t` as given. -/
theorem pointChargeBlock_eq_rys (boys : K → ℕ → Tab K) (Fb : K → ℕ → K) (s t : Shell K)
    (Cpt : ℕ → K) (q : K) (ma ca mb cb : ℕ) :
    letI := fieldTransc e sq pi
    (∀ T m, m < s.l + t.l + 1 → (boys T (s.l + t.l + 1)).get m = Fb T m) →
    (s.comp! ca).1 + (s.comp! ca).2.1 + (s.comp! ca).2.2 ≤ s.l →
    (t.comp! cb).1 + (t.comp! cb).2.1 + (t.comp! cb).2.2 ≤ t.l →
    (pointChargeBlock boys s t Cpt q).get4 ma ca mb cb
      = -q * rysBlock e sq pi Fb s t Cpt ma ca mb cb := by
  intro hF ha hb
  unfold pointChargeBlock
  split
  · simp only [blockTab, tab4_get]
    rw [oneElecBlockOrdered_eq_rys e sq pi boys Fb t s Cpt mb cb ma ca
      (by rw [add_comm t.l s.l]; exact hF) hb ha, rysBlock_swap]
  · simp only [blockTab, tab4_get]
    rw [oneElecBlockOrdered_eq_rys e sq pi boys Fb s t Cpt ma ca mb cb hF ha hb]

/-- the statement with the table entries themselves as the sequence `F` -/
theorem pointChargeBlock_eq_rys_self (boys : K → ℕ → Tab K) (s t : Shell K)
    (Cpt : ℕ → K) (q : K) (ma ca mb cb : ℕ) :
    letI := fieldTransc e sq pi
    (s.comp! ca).1 + (s.comp! ca).2.1 + (s.comp! ca).2.2 ≤ s.l →
    (t.comp! cb).1 + (t.comp! cb).2.1 + (t.comp! cb).2.2 ≤ t.l →
    (pointChargeBlock boys s t Cpt q).get4 ma ca mb cb
      = -q * rysBlock e sq pi (fun T m => (boys T (s.l + t.l + 1)).get m) s t Cpt ma ca mb cb :=
  pointChargeBlock_eq_rys e sq pi boys _ s t Cpt q ma ca mb cb (fun _ _ _ => rfl)

end Field
/-! ## Step 2: over ℝ with the true Boys function -/
section Real
open MeasureTheory Real Set

noncomputable def toE3 (v : ℕ → ℝ) : E3 := WithLp.toLp 2 (fun u : Fin 3 => v u)

@[simp] lemma toE3_apply (v : ℕ → ℝ) (u : Fin 3) : toE3 v u = v u := rfl

lemma norm_sq_toE3_sub (v w : ℕ → ℝ) :
    ‖toE3 v - toE3 w‖^2 = ∑ i ∈ range 3, (v i - w i) * (v i - w i) := by
  rw [EuclideanSpace.real_norm_sq_eq]
  simp only [PiLp.sub_apply, toE3_apply, Fin.sum_univ_three, Finset.sum_range_succ,
    Finset.sum_range_zero, zero_add, pow_two]
  rfl

lemma toE3_center (α β : ℝ) (A B : ℕ → ℝ) :
    toE3 (fun i => (α * A i + β * B i) / (α + β))
      = (α + β)⁻¹ • (α • toE3 A + β • toE3 B) := by
  ext u
  simp only [toE3_apply, PiLp.smul_apply, PiLp.add_apply, smul_eq_mul]
  rw [div_eq_inv_mul]

lemma comp3_toE3_sub (v w : ℕ → ℝ) (u : ℕ) (hu : u < 3) :
    comp3 (toE3 v - toE3 w) u = v u - w u := by
  simp only [comp3, hu, dif_pos, PiLp.sub_apply, toE3_apply]

/-- Cartesian primitive on `E3`: `(x-A_x)^{c_x} (y-A_y)^{c_y} (z-A_z)^{c_z} e^{-α|r-A|²}` -/
noncomputable def primFnE (α : ℝ) (A : E3) (c : Comp) (r : E3) : ℝ :=
  (r 0 - A 0)^c.1 * (r 1 - A 1)^c.2.1 * (r 2 - A 2)^c.2.2 * exp (-α * ‖r - A‖^2)

/-- contraction `m`, Cartesian component number `c` of the shell, with the primitive norms
(`norm_prim_cart`), as a function on `E3` -/
noncomputable def shellFnE (s : Shell ℝ) (m c : ℕ) (r : E3) : ℝ :=
  ∑ k ∈ range s.nprim, s.coef! k m * normPrim (s.exp! k) s.l (s.comp! c)
    * primFnE (s.exp! k) (toE3 s.ctr) (s.comp! c) r

theorem coulomb_fin_integrable (a b : ℝ) (ha : 0 < a) (hb : 0 < b) (A B Cc : E3)
    (ca cb : Fin 3 → ℕ) :
    Integrable fun r : E3 => (∏ u, (r u - A u)^(ca u) * (r u - B u)^(cb u))
        * exp (-a * ‖r - A‖^2) * exp (-b * ‖r - B‖^2) / ‖r - Cc‖ := by
  simp_rw [coulomb_pointwise]
  exact (coulomb_joint_integrable a b ha hb A B Cc ca cb).integral_prod_left.const_mul _

lemma primFnE_mul_eq (a b : ℝ) (A B Cc : E3) (ca cb : Comp) (r : E3) :
    primFnE a A ca r * primFnE b B cb r / ‖r - Cc‖
      = ((r 0 - A 0)^ca.1 * (r 0 - B 0)^cb.1
          * ((r 1 - A 1)^ca.2.1 * (r 1 - B 1)^cb.2.1)
          * ((r 2 - A 2)^ca.2.2 * (r 2 - B 2)^cb.2.2))
        * exp (-a * ‖r - A‖^2) * exp (-b * ‖r - B‖^2) / ‖r - Cc‖ := by
  unfold primFnE; ring

theorem coulomb_prim_integrable (a b : ℝ) (ha : 0 < a) (hb : 0 < b) (A B Cc : E3)
    (ca cb : Comp) :
    Integrable fun r : E3 => primFnE a A ca r * primFnE b B cb r / ‖r - Cc‖ := by
  have h := coulomb_fin_integrable a b ha hb A B Cc
    ![ca.1, ca.2.1, ca.2.2] ![cb.1, cb.2.1, cb.2.2]
  simp only [Fin.prod_univ_three, Matrix.cons_val_zero, Matrix.cons_val_one,
    Matrix.cons_val_two, Matrix.head_cons, Matrix.tail_cons] at h
  simp_rw [primFnE_mul_eq]
  exact h

theorem rysPrim_eq_integral (s t : Shell ℝ) (Cpt : ℕ → ℝ) (ka kb : ℕ)
    (ha : 0 < s.exp! ka) (hb : 0 < t.exp! kb) (a b : Comp) :
    rysPrim Real.exp Real.sqrt π boys s t Cpt ka kb a b
      = ∫ r : E3, primFnE (s.exp! ka) (toE3 s.ctr) a r * primFnE (t.exp! kb) (toE3 t.ctr) b r
          / ‖r - toE3 Cpt‖ := by
  simp_rw [primFnE_mul_eq]
  rw [coulomb_general _ _ ha hb _ _ _ _ (toE3_center _ _ s.ctr t.ctr), norm_sq_toE3_sub,
    norm_sq_toE3_sub]
  unfold rysPrim
  rw [Vspec_congr_geom _ _ (comp3_toE3_sub _ _) (comp3_toE3_sub _ _) (comp3_toE3_sub _ _), neg_mul]

theorem rysBlock_eq_integral (s t : Shell ℝ) (Cpt : ℕ → ℝ) (ma ca mb cb : ℕ)
    (hs : ∀ k, k < s.nprim → 0 < s.exp! k) (ht : ∀ k, k < t.nprim → 0 < t.exp! k) :
    rysBlock Real.exp Real.sqrt π boys s t Cpt ma ca mb cb
      = ∫ r : E3, shellFnE s ma ca r * shellFnE t mb cb r / ‖r - toE3 Cpt‖ := by
  have hpt : ∀ r : E3, shellFnE s ma ca r * shellFnE t mb cb r / ‖r - toE3 Cpt‖
      = ∑ ka ∈ range s.nprim, ∑ kb ∈ range t.nprim,
          (s.coef! ka ma * normPrim (s.exp! ka) s.l (s.comp! ca)
            * (t.coef! kb mb * normPrim (t.exp! kb) t.l (t.comp! cb)))
          * (primFnE (s.exp! ka) (toE3 s.ctr) (s.comp! ca) r
              * primFnE (t.exp! kb) (toE3 t.ctr) (t.comp! cb) r / ‖r - toE3 Cpt‖) := by
    intro r
    unfold shellFnE
    rw [Finset.sum_mul_sum, Finset.sum_div]
    refine Finset.sum_congr rfl fun ka _ => ?_
    rw [Finset.sum_div]
    refine Finset.sum_congr rfl fun kb _ => ?_
    ring
  simp_rw [hpt]
  rw [integral_finsetSum _ fun ka hka => integrable_finsetSum _ fun kb hkb =>
    (coulomb_prim_integrable _ _ (hs ka (Finset.mem_range.mp hka)) (ht kb (Finset.mem_range.mp hkb))
      _ _ _ _ _).const_mul _]
  unfold rysBlock
  rw [Finset.sum_mul, Finset.sum_mul]
  refine Finset.sum_congr rfl fun ka hka => ?_
  rw [integral_finsetSum _ fun kb hkb =>
    (coulomb_prim_integrable _ _ (hs ka (Finset.mem_range.mp hka)) (ht kb (Finset.mem_range.mp hkb))
      _ _ _ _ _).const_mul _]
  rw [Finset.sum_mul, Finset.sum_mul]
  refine Finset.sum_congr rfl fun kb hkb => ?_
  rw [MeasureTheory.integral_const_mul,
    rysPrim_eq_integral s t Cpt ka kb (hs ka (Finset.mem_range.mp hka))
      (ht kb (Finset.mem_range.mp hkb))]
  unfold normPrim
  ring

/-- With a Boys table whose entries are the true Boys function
`boys T m = ∫₀¹ t^{2m} e^{-T t²} dt`, for shells with positive exponents every entry of
`pointChargeBlock` (components of total degrees `≤ l`) is `-q` times the nuclear-attraction
integral of the two contracted, primitive-normalised shell functions. -/
theorem pointChargeBlock_eq_integral (boysT : ℝ → ℕ → Tab ℝ)
    (hboys : ∀ T n m, m < n → (boysT T n).get m = boys T m)
    (s t : Shell ℝ) (Cpt : ℕ → ℝ) (q : ℝ) (ma ca mb cb : ℕ)
    (hs : ∀ k, k < s.nprim → 0 < s.exp! k) (ht : ∀ k, k < t.nprim → 0 < t.exp! k)
    (ha : (s.comp! ca).1 + (s.comp! ca).2.1 + (s.comp! ca).2.2 ≤ s.l)
    (hb : (t.comp! cb).1 + (t.comp! cb).2.1 + (t.comp! cb).2.2 ≤ t.l) :
    (pointChargeBlock boysT s t Cpt q).get4 ma ca mb cb
      = -q * ∫ r : E3, shellFnE s ma ca r * shellFnE t mb cb r / ‖r - toE3 Cpt‖ := by
  rw [← rysBlock_eq_integral s t Cpt ma ca mb cb hs ht]
  exact pointChargeBlock_eq_rys Real.exp Real.sqrt π boysT boys s t Cpt q ma ca mb cb
    (fun T m hm => hboys T _ m hm) ha hb

/-- the Boys table of the real-number instantiation: `F_0(T) … F_{n-1}(T)` -/
noncomputable def boysReal (T : ℝ) (n : ℕ) : Tab ℝ := tab n (fun m => boys T m)

theorem pointChargeBlock_boysReal_eq_integral
    (s t : Shell ℝ) (Cpt : ℕ → ℝ) (q : ℝ) (ma ca mb cb : ℕ)
    (hs : ∀ k, k < s.nprim → 0 < s.exp! k) (ht : ∀ k, k < t.nprim → 0 < t.exp! k)
    (ha : (s.comp! ca).1 + (s.comp! ca).2.1 + (s.comp! ca).2.2 ≤ s.l)
    (hb : (t.comp! cb).1 + (t.comp! cb).2.1 + (t.comp! cb).2.2 ≤ t.l) :
    (pointChargeBlock boysReal s t Cpt q).get4 ma ca mb cb
      = -q * ∫ r : E3, shellFnE s ma ca r * shellFnE t mb cb r / ‖r - toE3 Cpt‖ :=
  pointChargeBlock_eq_integral boysReal (fun _ n m _ => tab_get n _ m) s t Cpt q ma ca mb cb
    hs ht ha hb

end Real

end GB

