import GBModel.Logic
import Mathlib.Algebra.Order.Field.Rat
import Mathlib.Algebra.Order.Ring.Rat
import Mathlib.Algebra.BigOperators.Group.List.Basic
import Mathlib.LinearAlgebra.Matrix.Trace
import Mathlib.Tactic.Linarith
import Mathlib.Tactic.NormNum
import Mathlib.Tactic.Ring

/-!
# Electrostatic potential: decision logic and the transformation identity (C14)

The documented mask drops a nucleus iff `dist < threshold_dist`; no charge enters.  The rule of the
pinned code, `Z/d > 1/t` (`espMaskedOld`), drops the charge-2 nucleus at distance 1.5 for threshold 1
(it should be kept) and never drops a nucleus of negative charge, however close; for `Z = 1` the two
rules agree.  With a transformation of `m` rows the density matrix is accepted iff it is `m × m`,
whatever the shells; without one iff it is `n × n`, `n` the total number of basis functions.
`esp_transform_identity`: contracting the density matrix with the transformed integrals is the same
as contracting the back-transformed density matrix with the untransformed integrals.
-/
namespace GB

/-! ## The nucleus mask -/

theorem espMasked_iff (d t : ℚ) (hd : 0 ≤ d) (ht : 0 ≤ t) : espMasked (d * d) t = true ↔ d < t := by
  simp only [espMasked, decide_eq_true_eq]
  exact mul_self_lt_mul_self_iff hd ht |>.symm

theorem espMasked_eq_false_iff (d t : ℚ) (hd : 0 ≤ d) (ht : 0 ≤ t) :
    espMasked (d * d) t = false ↔ t ≤ d := by
  rw [← not_lt, ← espMasked_iff d t hd ht, Bool.not_eq_true]

/-- The model states the old rule as `Z·t > d`; the pinned code has `Z/d > 1/t`. -/
theorem espMaskedOld_iff (Z d t : ℚ) (hd : 0 < d) (ht : 0 < t) :
    espMaskedOld Z d t = true ↔ Z / d > 1 / t := by
  simp only [espMaskedOld, gt_iff_lt, decide_eq_true_eq]
  rw [div_lt_div_iff₀ ht hd, one_mul]

/-- The old rule dropped charge 2 at distance 1.5 with threshold 1, although `1.5 ≥ 1`. -/
theorem mask_old_counterexample :
    espMaskedOld 2 (3/2) 1 = true ∧ espMasked ((3/2) * (3/2)) 1 = false := by
  constructor
  · simp only [espMaskedOld, decide_eq_true_eq]; norm_num
  · simp only [espMasked, decide_eq_false_iff_not]; norm_num

theorem espMaskedOld_neg_charge (Z d t : ℚ) (hZ : Z < 0) (hd : 0 < d) (ht : 0 < t) :
    espMaskedOld Z d t = false := by
  simp only [espMaskedOld, gt_iff_lt, decide_eq_false_iff_not, not_lt]
  have : Z * t < 0 := mul_neg_of_neg_of_pos hZ ht
  linarith

theorem mask_old_neg_counterexample :
    espMaskedOld (-1) (1/2) 1 = false ∧ espMasked ((1/2) * (1/2)) 1 = true := by
  constructor
  · exact espMaskedOld_neg_charge (-1) (1/2) 1 (by norm_num) (by norm_num) (by norm_num)
  · simp only [espMasked, decide_eq_true_eq]; norm_num

theorem espMaskedOld_unit_charge (d t : ℚ) (hd : 0 ≤ d) (ht : 0 ≤ t) :
    espMaskedOld 1 d t = espMasked (d * d) t := by
  rw [Bool.eq_iff_iff, espMasked_iff d t hd ht]
  simp [espMaskedOld]

/-! ## The nuclear term -/

theorem espNuclear_spec (Zs ds : List ℚ) (t : ℚ) (ht : 0 ≤ t) (hds : ∀ d ∈ ds, 0 ≤ d) :
    espNuclear Zs ds t
      = (((Zs.zip ds).filter fun p => decide (¬ p.2 < t)).map fun p => p.1 / p.2).sum := by
  unfold espNuclear
  rw [List.map_congr_left (g := fun p => if p.2 < t then 0 else p.1 / p.2) fun ⟨Z, d⟩ hp =>
      if_congr (espMasked_iff d t (hds d (List.of_mem_zip hp).2) ht) rfl rfl,
    List.sum_map_ite, List.sum_map_zero, zero_add]

theorem espNuclear_zero_threshold (Zs ds : List ℚ) (hds : ∀ d ∈ ds, 0 ≤ d) :
    espNuclear Zs ds 0 = ((Zs.zip ds).map fun p => p.1 / p.2).sum := by
  rw [espNuclear_spec Zs ds 0 le_rfl hds]
  congr 1
  rw [List.filter_eq_self.mpr]
  intro p hp
  have := hds p.2 (List.of_mem_zip hp).2
  simpa using this

/-! ## The size check of the density matrix -/

theorem espSizeOk_iff (r c : ℕ) (sizes : List ℕ) (tr : Option ℕ) :
    espSizeOk r c sizes tr = true
      ↔ r = espExpectedSize sizes tr ∧ c = espExpectedSize sizes tr := by
  simp only [espSizeOk, Bool.and_eq_true, beq_iff_eq]
  constructor
  · rintro ⟨h1, h2⟩; exact ⟨h2, h1 ▸ h2⟩
  · rintro ⟨h1, h2⟩; exact ⟨h1.trans h2.symm, h1⟩

theorem espSizeOk_some (r c m : ℕ) (sizes : List ℕ) :
    espSizeOk r c sizes (some m) = true ↔ r = m ∧ c = m :=
  espSizeOk_iff r c sizes (some m)

theorem espSizeOk_shells_irrelevant (r c m : ℕ) (sizes sizes' : List ℕ) :
    espSizeOk r c sizes (some m) = espSizeOk r c sizes' (some m) := rfl

theorem espSizeOk_none (r c : ℕ) (sizes : List ℕ) :
    espSizeOk r c sizes none = true ↔ r = sizes.sum ∧ c = sizes.sum :=
  espSizeOk_iff r c sizes none

theorem espSizeOk_transformed (m : ℕ) (sizes : List ℕ) (h : m ≠ sizes.sum) :
    espSizeOk m m sizes (some m) = true ∧ espSizeOk m m sizes none = false := by
  refine ⟨(espSizeOk_some m m m sizes).mpr ⟨rfl, rfl⟩, ?_⟩
  rw [← Bool.not_eq_true, espSizeOk_none]
  exact fun hh => h hh.1

/-! ## The transformation identity -/
section Matrix
open Matrix
variable {K : Type} [CommRing K] {m n : ℕ}

theorem sum_mul_eq_trace {p q : ℕ} (A B : Matrix (Fin p) (Fin q) K) :
    ∑ i, ∑ j, A i j * B i j = (A * Bᵀ).trace := by
  simp only [Matrix.trace, Matrix.diag_apply, Matrix.mul_apply, Matrix.transpose_apply]

theorem esp_transform_identity (γ : Matrix (Fin m) (Fin m) K) (T : Matrix (Fin m) (Fin n) K)
    (V : Matrix (Fin n) (Fin n) K) :
    ∑ i, ∑ j, γ i j * (T * V * Tᵀ) i j = ∑ a, ∑ b, (Tᵀ * γ * T) a b * V a b := by
  rw [sum_mul_eq_trace, sum_mul_eq_trace]
  rw [Matrix.transpose_mul, Matrix.transpose_mul, Matrix.transpose_transpose]
  rw [Matrix.mul_assoc Tᵀ γ T, Matrix.mul_assoc Tᵀ (γ * T) Vᵀ, Matrix.trace_mul_comm Tᵀ]
  simp only [Matrix.mul_assoc]

end Matrix


end GB
