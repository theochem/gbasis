import GBProofs.ArrayDefiniteness
import GBProofs.ScreenLaws

/-!
# Overlap screening for the assembled overlap array of a whole basis (C20)

`ScreenLaws.lean` states the documented rule of `is_integral_screened` for two real exponents and a
distance.  This file lifts it to the array the model assembles for a basis (`entry2 b b (pairBlocks …)`,
flat form `assemble2 …`): every shell, Cartesian and spherical, after `norm_cont` and the
Cartesian → spherical transformation.

A removed block is a block of zeros of the array and a kept block is the block of the unscreened array
(§2); an element of an s–s block of the unscreened, normalised array is
`± Σ_k Σ_l c̃_k c̃'_l · sOverlap α_k β_l d`, so every removed s-type element is below
`tol · (Σ_k |c̃_k|)(Σ_l |c̃'_l|)` (§3).
-/
open Real

namespace GB

/-! ## 1. The screening predicate of a pair of shells -/
section Defs

/-- `min(contractions.exps)`; `0` for a shell without primitives. -/
noncomputable def Shell.minExp (s : Shell ℝ) : ℝ :=
  if h : 0 < s.nprim then
    (Finset.range s.nprim).inf' ⟨0, Finset.mem_range.2 h⟩ (fun k => s.exp! k)
  else 0

theorem Shell.minExp_le (s : Shell ℝ) (k : ℕ) (hk : k < s.nprim) : s.minExp ≤ s.exp! k := by
  unfold Shell.minExp
  rw [dif_pos (by omega : 0 < s.nprim)]
  exact Finset.inf'_le (fun k => s.exp! k) (Finset.mem_range.2 hk)

theorem Shell.minExp_mem (s : Shell ℝ) (h : 0 < s.nprim) : ∃ k < s.nprim, s.minExp = s.exp! k := by
  unfold Shell.minExp
  rw [dif_pos h]
  obtain ⟨k, hk, he⟩ := Finset.exists_mem_eq_inf' ⟨0, Finset.mem_range.2 h⟩ (fun k => s.exp! k)
  exact ⟨k, Finset.mem_range.1 hk, he⟩

theorem Shell.minExp_pos (s : Shell ℝ) (h : 0 < s.nprim) (hs : ∀ k < s.nprim, 0 < s.exp! k) :
    0 < s.minExp := by
  obtain ⟨k, hk, he⟩ := s.minExp_mem h
  rw [he]; exact hs k hk

theorem Shell.minExp_nonneg (s : Shell ℝ) (hs : ∀ k < s.nprim, 0 < s.exp! k) : 0 ≤ s.minExp := by
  by_cases h : 0 < s.nprim
  · exact (s.minExp_pos h hs).le
  · unfold Shell.minExp; rw [dif_neg h]

/-- `np.linalg.norm(r_12)` in `is_integral_screened`. -/
noncomputable def shellDist (s t : Shell ℝ) : ℝ :=
  Real.sqrt ((s.ctr 0 - t.ctr 0) ^ 2 + (s.ctr 1 - t.ctr 1) ^ 2 + (s.ctr 2 - t.ctr 2) ^ 2)

theorem shellDist_nonneg (s t : Shell ℝ) : 0 ≤ shellDist s t := Real.sqrt_nonneg _

theorem shellDist_sq (s t : Shell ℝ) :
    shellDist s t ^ 2
      = (s.ctr 0 - t.ctr 0) ^ 2 + (s.ctr 1 - t.ctr 1) ^ 2 + (s.ctr 2 - t.ctr 2) ^ 2 :=
  Real.sq_sqrt (by positivity)

theorem shellDist_comm (s t : Shell ℝ) : shellDist s t = shellDist t s := by
  unfold shellDist
  rw [sub_sq_comm (s.ctr 0), sub_sq_comm (s.ctr 1), sub_sq_comm (s.ctr 2)]

/-- `is_integral_screened(contractions_one, contractions_two, tol)`. -/
def pairScreened (tol : ℝ) (s t : Shell ℝ) : Prop :=
  screened s.minExp t.minExp (shellDist s t) tol

theorem pairScreened_iff (tol : ℝ) (s t : Shell ℝ) :
    pairScreened tol s t ↔ cutoff s.minExp t.minExp tol < shellDist s t := Iff.rfl

theorem pairScreened_iff_exp (tol : ℝ) (s t : Shell ℝ) (hsn : 0 < s.nprim) (htn : 0 < t.nprim)
    (hs : ∀ k < s.nprim, 0 < s.exp! k) (ht : ∀ k < t.nprim, 0 < t.exp! k) (ht0 : 0 < tol)
    (ht1 : tol < 1) :
    pairScreened tol s t
      ↔ Real.exp (-(s.minExp * t.minExp / (s.minExp + t.minExp)) * shellDist s t ^ 2) < tol :=
  screened_iff_exp _ _ _ tol (s.minExp_pos hsn hs) (t.minExp_pos htn ht)
    (Real.sqrt_nonneg _) ht0 ht1

noncomputable instance pairScreened.decidable (tol : ℝ) (s t : Shell ℝ) :
    Decidable (pairScreened tol s t) := Classical.propDecidable _

theorem cutoff_comm (αa αb tol : ℝ) : cutoff αa αb tol = cutoff αb αa tol := by
  unfold cutoff; rw [add_comm αa αb, mul_comm αa αb]

theorem pairScreened_comm (tol : ℝ) (s t : Shell ℝ) : pairScreened tol s t ↔ pairScreened tol t s := by
  unfold pairScreened screened
  rw [cutoff_comm, shellDist_comm]

theorem pairScreened_mono (tol tol' : ℝ) (s t : Shell ℝ) (hs : ∀ k < s.nprim, 0 < s.exp! k)
    (ht : ∀ k < t.nprim, 0 < t.exp! k) (ht' : 0 < tol') (hle : tol' ≤ tol)
    (h : pairScreened tol' s t) : pairScreened tol s t :=
  lt_of_le_of_lt
    (cutoff_anti _ _ tol tol' (s.minExp_nonneg hs) (t.minExp_nonneg ht) ht' hle) h

theorem pairScreened_tol_one (s t : Shell ℝ) : pairScreened 1 s t ↔ 0 < shellDist s t :=
  screened_tol_one _ _ _

noncomputable def keepPair (tol : Option ℝ) (s t : Shell ℝ) : Bool :=
  match tol with
  | none => true
  | some τ => !decide (pairScreened τ s t)

/-- The `blk` argument of `assemble2` for the overlap with screening tolerance `tol`
(`Overlap.construct_array_contraction(…, tol_screen)`); `none` is the library's `tol_screen=None`. -/
noncomputable def overlapBlkScreened (tol : Option ℝ) (b : Basis ℝ) (i j : ℕ) : Tab (Tab4 ℝ) :=
  tab 1 fun _ => screenedBlock (keepPair tol b[i]! b[j]!) (overlapBlock b[i]! b[j]!)

theorem screenedBlock_true (blk : Tab4 ℝ) : screenedBlock true blk = blk := by
  simp [screenedBlock]

theorem screenedBlock_false_get4 (blk : Tab4 ℝ) (m a n a' : ℕ) :
    (screenedBlock false blk).get4 m a n a' = 0 := by
  simp [screenedBlock]

theorem overlapBlkScreened_none (b : Basis ℝ) : overlapBlkScreened none b = overlapBlk b := by
  funext i j
  simp only [overlapBlkScreened, overlapBlk, keepPair, screenedBlock_true]

theorem overlapBlkScreened_kept (tol : ℝ) (b : Basis ℝ) (i j : ℕ)
    (h : ¬ pairScreened tol b[i]! b[j]!) :
    overlapBlkScreened (some tol) b i j = overlapBlk b i j := by
  simp only [overlapBlkScreened, overlapBlk, keepPair, h, decide_false, Bool.not_false,
    screenedBlock_true]

theorem overlapBlkScreened_removed (tol : ℝ) (b : Basis ℝ) (i j : ℕ)
    (h : pairScreened tol b[i]! b[j]!) (e m a n a' : ℕ) :
    ((overlapBlkScreened (some tol) b i j).get e).get4 m a n a' = 0 := by
  simp only [overlapBlkScreened, keepPair, h, decide_true, Bool.not_true, tab_get,
    screenedBlock_false_get4]

end Defs

/-! ## 2. The screened array -/
section Array

theorem entry2_congr_blk (b : Basis ℝ) (nextra : ℕ) (blk blk' : ℕ → ℕ → Tab (Tab4 ℝ)) (r c e : ℕ)
    (hr : r < b.total) (hc : c < b.total)
    (h : (blk (b.locate r).1 (b.locate c).1).get e = (blk' (b.locate r).1 (b.locate c).1).get e) :
    entry2 b b (pairBlocks b b nextra blk) r c e = entry2 b b (pairBlocks b b nextra blk') r c e := by
  obtain ⟨i, hi, m, f, -, -, -, hlr⟩ := locate_cases b r hr
  obtain ⟨j, hj, n, g, -, -, -, hlc⟩ := locate_cases b c hc
  rw [hlr, hlc] at h
  rw [entry2_of_locate b b nextra blk e hlr hlc hi hj,
    entry2_of_locate b b nextra blk' e hlr hlc hi hj, h]

/-- C20 for the assembled array.  The weights (contraction norms and Cartesian → spherical matrices)
multiply a block of zeros to zero; kept blocks are untouched. -/
theorem screened_array_entry (b : Basis ℝ) (tol : ℝ) (r c : ℕ) (hr : r < b.total) (hc : c < b.total) :
    entry2 b b (pairBlocks b b 1 (overlapBlkScreened (some tol) b)) r c 0
      = if pairScreened tol (shellOf b r) (shellOf b c) then 0
        else entry2 b b (pairBlocks b b 1 (overlapBlk b)) r c 0 := by
  by_cases h : pairScreened tol (shellOf b r) (shellOf b c)
  · rw [if_pos h, entry2_eq_sum b 1 _ r c 0 hr hc]
    refine Finset.sum_eq_zero fun a _ => Finset.sum_eq_zero fun a' _ => ?_
    rw [overlapBlkScreened_removed tol b _ _ h, mul_zero]
  · rw [if_neg h]
    refine entry2_congr_blk b 1 _ _ r c 0 hr hc ?_
    rw [overlapBlkScreened_kept tol b _ _ h]

theorem screened_array_entry_layout (b : Basis ℝ) (tol : ℝ) (i j : ℕ) (hi : i < b.size)
    (hj : j < b.size) (m f n g : ℕ) (hm : m < b[i].nseg) (hf : f < b[i].nfun) (hn : n < b[j].nseg)
    (hg : g < b[j].nfun) :
    entry2 b b (pairBlocks b b 1 (overlapBlkScreened (some tol) b))
        (b.offset i + m * b[i].nfun + f) (b.offset j + n * b[j].nfun + g) 0
      = if pairScreened tol b[i] b[j] then 0
        else entry2 b b (pairBlocks b b 1 (overlapBlk b))
          (b.offset i + m * b[i].nfun + f) (b.offset j + n * b[j].nfun + g) 0 := by
  rw [screened_array_entry b tol _ _ (offset_index_lt b i hi hm hf) (offset_index_lt b j hj hn hg)]
  unfold shellOf
  rw [locate_offset b i hi m f hm hf, locate_offset b j hj n g hn hg, getElem!_pos b i hi,
    getElem!_pos b j hj]

theorem screened_array_none (b : Basis ℝ) (r c e : ℕ) :
    entry2 b b (pairBlocks b b 1 (overlapBlkScreened none b)) r c e
      = entry2 b b (pairBlocks b b 1 (overlapBlk b)) r c e := by
  rw [overlapBlkScreened_none]

theorem screened_flat_none (b : Basis ℝ) :
    assemble2 b b 1 (overlapBlkScreened none b) = assemble2 b b 1 (overlapBlk b) := by
  rw [overlapBlkScreened_none]

/-- C20: lowering the tolerance never removes more blocks.  No upper bound on `tol` is needed. -/
theorem screened_array_mono (b : Basis ℝ) (hb : b.ExpsPos) (tol tol' : ℝ) (ht' : 0 < tol')
    (hle : tol' ≤ tol) (r c : ℕ) (hr : r < b.total) (hc : c < b.total)
    (hkeep : ¬ pairScreened tol (shellOf b r) (shellOf b c)) :
    ¬ pairScreened tol' (shellOf b r) (shellOf b c)
      ∧ entry2 b b (pairBlocks b b 1 (overlapBlkScreened (some tol') b)) r c 0
          = entry2 b b (pairBlocks b b 1 (overlapBlk b)) r c 0
      ∧ entry2 b b (pairBlocks b b 1 (overlapBlkScreened (some tol) b)) r c 0
          = entry2 b b (pairBlocks b b 1 (overlapBlk b)) r c 0 := by
  have h' : ¬ pairScreened tol' (shellOf b r) (shellOf b c) := fun h =>
    hkeep (pairScreened_mono tol tol' _ _ (shellOf_exps_pos b hb r hr) (shellOf_exps_pos b hb c hc)
      ht' hle h)
  refine ⟨h', ?_, ?_⟩
  · rw [screened_array_entry b tol' r c hr hc, if_neg h']
  · rw [screened_array_entry b tol r c hr hc, if_neg hkeep]

theorem screened_array_removed_mono (b : Basis ℝ) (hb : b.ExpsPos) (tol tol' : ℝ) (ht' : 0 < tol')
    (hle : tol' ≤ tol) (r c : ℕ) (hr : r < b.total) (hc : c < b.total)
    (hrem : pairScreened tol' (shellOf b r) (shellOf b c)) :
    entry2 b b (pairBlocks b b 1 (overlapBlkScreened (some tol) b)) r c 0 = 0 := by
  rw [screened_array_entry b tol r c hr hc, if_pos (pairScreened_mono tol tol' _ _
    (shellOf_exps_pos b hb r hr) (shellOf_exps_pos b hb c hc) ht' hle hrem)]

theorem screened_array_symm (b : Basis ℝ) (hb : b.ExpsPos) (tol : ℝ) (r c : ℕ) (hr : r < b.total)
    (hc : c < b.total) :
    entry2 b b (pairBlocks b b 1 (overlapBlkScreened (some tol) b)) r c 0
      = entry2 b b (pairBlocks b b 1 (overlapBlkScreened (some tol) b)) c r 0 := by
  rw [screened_array_entry b tol r c hr hc, screened_array_entry b tol c r hc hr,
    overlap_array_symm b hb r c hr hc]
  by_cases h : pairScreened tol (shellOf b r) (shellOf b c)
  · rw [if_pos h, if_pos ((pairScreened_comm tol _ _).1 h)]
  · rw [if_neg h, if_neg (fun h' => h ((pairScreened_comm tol _ _).2 h'))]

/-! ### the flat arrays -/

theorem screened_flat_entry (b : Basis ℝ) (tol : ℝ) (r c : ℕ) (hr : r < b.total) (hc : c < b.total) :
    (assemble2 b b 1 (overlapBlkScreened (some tol) b))[(r * b.total + c) * 1 + 0]!
      = if pairScreened tol (shellOf b r) (shellOf b c) then 0
        else (assemble2 b b 1 (overlapBlk b))[(r * b.total + c) * 1 + 0]! := by
  rw [assemble2_get b b 1 _ r c 0 hr hc (by omega), assemble2_get b b 1 _ r c 0 hr hc (by omega)]
  exact screened_array_entry b tol r c hr hc

theorem screened_flat_symm (b : Basis ℝ) (hb : b.ExpsPos) (tol : ℝ) (r c : ℕ) (hr : r < b.total)
    (hc : c < b.total) :
    (assemble2 b b 1 (overlapBlkScreened (some tol) b))[(r * b.total + c) * 1 + 0]!
      = (assemble2 b b 1 (overlapBlkScreened (some tol) b))[(c * b.total + r) * 1 + 0]! := by
  rw [assemble2_get b b 1 _ r c 0 hr hc (by omega), assemble2_get b b 1 _ c r 0 hc hr (by omega)]
  exact screened_array_symm b hb tol r c hr hc

end Array

/-! ## 3. s-type shells: every removed element is below the tolerance -/
section SType

/-- A spherical shell with `l = 0` has the single function `c0`, with either sign (`Shell.sSign`). -/
structure Shell.IsS (s : Shell ℝ) : Prop where
  l_zero : s.l = 0
  cart_eq : s.cart = [(0, 0, 0)]
  sph_ord : s.sph = true → ∃ neg, s.sphOrd = [⟨neg, false, 0⟩]

theorem Shell.IsS.ncart {s : Shell ℝ} (hs : s.IsS) : s.ncart = 1 := by
  simp [Shell.ncart, hs.cart_eq]

theorem Shell.IsS.nfun {s : Shell ℝ} (hs : s.IsS) : s.nfun = 1 := by
  unfold Shell.nfun
  cases h : s.sph with
  | true =>
    obtain ⟨neg, he⟩ := hs.sph_ord h
    simp [he]
  | false => simp [hs.cart_eq]

theorem Shell.IsS.comp_zero {s : Shell ℝ} (hs : s.IsS) : s.comp! 0 = (0, 0, 0) := by
  simp [Shell.comp!, hs.cart_eq]

theorem validSphOrder_zero (labels : List String) (ls : List SphLabel)
    (h : validSphOrder 0 labels = some ls) : ∃ neg, ls = [⟨neg, false, 0⟩] := by
  obtain ⟨-, hperm⟩ := (valid_iff_perm 0 labels ls).1 h
  have hk : sphKeys 0 = [(false, 0)] := by decide
  rw [hk, List.perm_singleton] at hperm
  obtain ⟨x, rfl, hx⟩ := List.map_eq_singleton_iff.1 hperm
  obtain ⟨neg, sine, m⟩ := x
  simp only [Prod.mk.injEq] at hx
  obtain ⟨rfl, rfl⟩ := hx
  exact ⟨neg, rfl⟩

theorem Shell.IsS.of_regular {b : Basis ℝ} (hb : b.Regular) (i : ℕ) (hi : i < b.size)
    (hl : b[i].l = 0) (hcart : b[i].sph = false → b[i].cart = defaultCart b[i].l) : b[i].IsS := by
  refine ⟨hl, ?_, ?_⟩
  · cases h : b[i].sph with
    | true =>
      obtain ⟨-, hc, -⟩ := hb.sph_ok i hi h
      rw [hc, hl, defaultCart_s]
    | false => rw [hcart h, hl, defaultCart_s]
  · intro h
    obtain ⟨-, -, labels, hv⟩ := hb.sph_ok i hi h
    rw [hl] at hv
    exact validSphOrder_zero labels _ hv

/-! ### the primitive s–s overlap -/

theorem fourth_sqrt_sqrt (X : ℝ) (hX : 0 ≤ X) : (√√X) ^ 4 = X := by
  rw [show (4 : ℕ) = 2 * 2 from rfl, pow_mul, Real.sq_sqrt (Real.sqrt_nonneg _), Real.sq_sqrt hX]

/-- `a^{3/4} b^{3/4} c^{3/2} = u^{3/2}`: both sides are non-negative and have the same fourth power. -/
theorem pow34_mul (a b c u : ℝ) (ha : 0 ≤ a) (hb : 0 ≤ b) (hc : 0 ≤ c) (hu : 0 ≤ u)
    (h : u ^ 2 = a * b * c ^ 2) :
    √√(a * a * a) * √√(b * b * b) * (√c * √c * √c) = u ^ ((3 : ℝ) / 2) := by
  have hL : 0 ≤ √√(a * a * a) * √√(b * b * b) * (√c * √c * √c) :=
    mul_nonneg (mul_nonneg (Real.sqrt_nonneg _) (Real.sqrt_nonneg _))
      (mul_nonneg (mul_nonneg (Real.sqrt_nonneg _) (Real.sqrt_nonneg _)) (Real.sqrt_nonneg _))
  refine (pow_left_inj₀ hL (Real.rpow_nonneg hu _) (by norm_num : (4 : ℕ) ≠ 0)).1 ?_
  have hR : (u ^ ((3 : ℝ) / 2)) ^ 4 = (u ^ 2) ^ 3 := by
    rw [← Real.rpow_natCast, ← Real.rpow_mul hu, ← pow_mul, ← Real.rpow_natCast]
    norm_num
  have e : ∀ A B C : ℝ, (A * B * (C * C * C)) ^ 4 = A ^ 4 * B ^ 4 * (C ^ 2) ^ 6 := fun A B C => by
    ring
  rw [hR, h, e, fourth_sqrt_sqrt _ (mul_nonneg (mul_nonneg ha ha) ha),
    fourth_sqrt_sqrt _ (mul_nonneg (mul_nonneg hb hb) hb), Real.sq_sqrt hc]
  ring

/-- `N_α N_β (π/(α+β))^{3/2} = (2√(αβ)/(α+β))^{3/2}`, in the nested-root form in which the model writes
`x^{3/4}`. -/
theorem sNorm_mul (α β : ℝ) (ha : 0 < α) (hb : 0 < β) :
    √√(2 * α / π * (2 * α / π) * (2 * α / π)) * √√(2 * β / π * (2 * β / π) * (2 * β / π))
        * (√(π / (α + β)) * √(π / (α + β)) * √(π / (α + β)))
      = (2 * √(α * β) / (α + β)) ^ ((3 : ℝ) / 2) := by
  have hp : 0 < α + β := add_pos ha hb
  have hπ : π ^ 2 ≠ 0 := pow_ne_zero 2 Real.pi_pos.ne'
  refine pow34_mul _ _ _ _ (div_nonneg (mul_nonneg zero_le_two ha.le) Real.pi_pos.le)
    (div_nonneg (mul_nonneg zero_le_two hb.le) Real.pi_pos.le) (div_nonneg Real.pi_pos.le hp.le)
    (div_nonneg (mul_nonneg zero_le_two (Real.sqrt_nonneg _)) hp.le) ?_
  rw [div_pow, mul_pow, Real.sq_sqrt (mul_nonneg ha.le hb.le), div_mul_div_comm, div_pow,
    div_mul_div_comm, ← sq, mul_comm (π ^ 2), mul_div_mul_right _ _ hπ]
  ring

theorem normPrim_s (α : ℝ) :
    normPrim α 0 (0, 0, 0) = √√(2 * α / π * (2 * α / π) * (2 * α / π)) := by
  have h1 : powHalf (Num.nat 4 * α) 0 = 1 := by simp [powHalf, powN]
  have h2 : normAng (K := ℝ) (0, 0, 0) = 1 := by simp [normAng, dfactOdd, Transc.sqrt]
  rw [normPrim, normRad, h1, h2, mul_one, mul_one, pow34]
  simp only [num_nat, Transc.sqrt, Transc.pi, Nat.cast_ofNat]

theorem momAx_s (s t : Shell ℝ) (origin : ℕ → ℝ) (nk ka kb axis : ℕ)
    (ha : 0 < s.exp! ka) (hb : 0 < t.exp! kb) :
    (momAx s t origin nk ka kb axis).get3 0 0 0
      = √(π / (s.exp! ka + t.exp! kb))
        * Real.exp (-(s.exp! ka * t.exp! kb / (s.exp! ka + t.exp! kb)
            * ((s.ctr axis - t.ctr axis) * (s.ctr axis - t.ctr axis)))) := by
  have hp : s.exp! ka + t.exp! kb ≠ 0 := by positivity
  simp only [momAx, pair1D]
  have h2 : (Num.nat 1 : ℝ) / (Num.nat 2 * (s.exp! ka + t.exp! kb))
      = 1 / (2 * (s.exp! ka + t.exp! kb)) := by simp
  rw [h2, momTab_eq _ _ _ _ _ hp, S3_zero, mul_one]
  rfl

theorem prim_s_overlap (s t : Shell ℝ) (origin : ℕ → ℝ) (nk ka kb : ℕ)
    (ha : 0 < s.exp! ka) (hb : 0 < t.exp! kb) :
    normPrim (s.exp! ka) 0 (0, 0, 0) * normPrim (t.exp! kb) 0 (0, 0, 0)
        * prod3 (pairTabs s t (momAx s t origin nk)) (0, 0, 0) ka kb (0, 0, 0) (0, 0, 0)
      = sOverlap (s.exp! ka) (t.exp! kb) (shellDist s t) := by
  simp only [prod3, pairTabs, tab3_get]
  rw [momAx_s s t origin nk ka kb 0 ha hb, momAx_s s t origin nk ka kb 1 ha hb,
    momAx_s s t origin nk ka kb 2 ha hb, normPrim_s, normPrim_s]
  unfold sOverlap
  rw [← sNorm_mul _ _ ha hb]
  have hexp : Real.exp (-(s.exp! ka * t.exp! kb / (s.exp! ka + t.exp! kb)) * shellDist s t ^ 2)
      = Real.exp (-(s.exp! ka * t.exp! kb / (s.exp! ka + t.exp! kb)
            * ((s.ctr 0 - t.ctr 0) * (s.ctr 0 - t.ctr 0))))
        * Real.exp (-(s.exp! ka * t.exp! kb / (s.exp! ka + t.exp! kb)
            * ((s.ctr 1 - t.ctr 1) * (s.ctr 1 - t.ctr 1))))
        * Real.exp (-(s.exp! ka * t.exp! kb / (s.exp! ka + t.exp! kb)
            * ((s.ctr 2 - t.ctr 2) * (s.ctr 2 - t.ctr 2)))) := by
    rw [← Real.exp_add, ← Real.exp_add, shellDist_sq]
    congr 1
    ring
  rw [hexp]
  ring

/-- The primitive norms are inside `sOverlap`, the overlap of normalised primitives. -/
theorem overlapBlock_s (s t : Shell ℝ) (hs : s.IsS) (ht : t.IsS)
    (hse : ∀ k < s.nprim, 0 < s.exp! k) (hte : ∀ k < t.nprim, 0 < t.exp! k) (m n : ℕ) :
    (overlapBlock s t).get4 m 0 n 0
      = ∑ ka ∈ Finset.range s.nprim, ∑ kb ∈ Finset.range t.nprim,
          s.coef! ka m * t.coef! kb n * sOverlap (s.exp! ka) (t.exp! kb) (shellDist s t) := by
  simp only [overlapBlock, momentBlock, blockTab, tab_get, tab4_get, contract, Shell.normTab,
    tab2_get, List.getD_cons_zero, hs.comp_zero, ht.comp_zero, hs.l_zero, ht.l_zero]
  rw [sumN_eq_sum]
  refine Finset.sum_congr rfl fun ka hka => ?_
  rw [sumN_eq_sum]
  refine Finset.sum_congr rfl fun kb hkb => ?_
  rw [← prim_s_overlap s t _ _ ka kb (hse ka (Finset.mem_range.mp hka))
    (hte kb (Finset.mem_range.mp hkb))]
  ring

/-! ### weights of an s-type shell -/

theorem transEntry_s (neg : Bool) :
    transEntry (K := ℝ) 0 ⟨neg, false, 0⟩ (0, 0, 0) = if neg then -1 else 1 := by
  have h1 : transEntryQ 0 ⟨neg, false, 0⟩ (0, 0, 0) = ((if neg then -1 else 1), 1) := by
    cases neg <;> decide +kernel
  simp only [transEntry, h1, ofRat_real, Transc.sqrt]
  cases neg <;> simp

/-- The `1 × 1` Cartesian → spherical matrix of a spherical s-type shell: `-1` for the label `-c0`. -/
noncomputable def Shell.sSign (s : Shell ℝ) : ℝ :=
  if s.sph then transEntry s.l (s.sphOrd.getD 0 ⟨false, false, 0⟩) (s.comp! 0) else 1

theorem Shell.IsS.sSign_cases {s : Shell ℝ} (hs : s.IsS) : s.sSign = 1 ∨ s.sSign = -1 := by
  unfold Shell.sSign
  cases h : s.sph with
  | true =>
    obtain ⟨neg, he⟩ := hs.sph_ord h
    rw [if_pos rfl, he, hs.l_zero, hs.comp_zero, List.getD_cons_zero, transEntry_s]
    cases neg <;> simp
  | false => simp

theorem Shell.IsS.sSign_abs {s : Shell ℝ} (hs : s.IsS) : |s.sSign| = 1 := by
  rcases hs.sSign_cases with h | h <;> rw [h] <;> simp

/-- `norm_cont` is `1/√·`, or `1` for a shell that opts out of normalisation. -/
theorem normCont_nonneg (s : Shell ℝ) (m c : ℕ) : 0 ≤ (normCont s).get2 m c := by
  unfold normCont
  split_ifs with h
  · simp only [tab2_get, Transc.sqrt, num_nat, Nat.cast_one]
    exact div_nonneg zero_le_one (Real.sqrt_nonneg _)
  · simp

theorem cwS_s (s : Shell ℝ) (m : ℕ) : cwS s m 0 0 = s.sSign * (normCont s).get2 m 0 := by
  unfold cwS Shell.sSign Shell.weights
  cases h : s.sph with
  | true => simp [Shell.transTab]
  | false => simp

/-- Function `m` of an s-type shell is `± Σ_k c̃_k ĝ_k` with `ĝ_k = N_k g_k` the normalised primitives
and `c̃_k = norm_cont[m] · c_k` this coefficient. -/
noncomputable def normCoef (s : Shell ℝ) (m k : ℕ) : ℝ := (normCont s).get2 m 0 * s.coef! k m

noncomputable def absCoefSum (s : Shell ℝ) (m : ℕ) : ℝ :=
  ∑ k ∈ Finset.range s.nprim, |normCoef s m k|

theorem absCoefSum_nonneg (s : Shell ℝ) (m : ℕ) : 0 ≤ absCoefSum s m :=
  Finset.sum_nonneg fun _ _ => abs_nonneg _

theorem absCoefSum_eq (s : Shell ℝ) (m : ℕ) :
    absCoefSum s m = ∑ k ∈ Finset.range s.nprim, |s.coef! k m| * (normCont s).get2 m 0 := by
  unfold absCoefSum normCoef
  refine Finset.sum_congr rfl fun k _ => ?_
  rw [abs_mul, abs_of_nonneg (normCont_nonneg s m 0), mul_comm]

theorem sBlock_entry_eq (b : Basis ℝ) (hb : b.ExpsPos) (i j : ℕ) (hi : i < b.size) (hj : j < b.size)
    (hsi : b[i].IsS) (hsj : b[j].IsS) (m n : ℕ) (hm : m < b[i].nseg) (hn : n < b[j].nseg) :
    entry2 b b (pairBlocks b b 1 (overlapBlk b)) (b.offset i + m) (b.offset j + n) 0
      = b[i].sSign * b[j].sSign
        * ∑ ka ∈ Finset.range b[i].nprim, ∑ kb ∈ Finset.range b[j].nprim,
            normCoef b[i] m ka * normCoef b[j] n kb
              * sOverlap (b[i].exp! ka) (b[j].exp! kb) (shellDist b[i] b[j]) := by
  have e := entry2_layout b b 1 (overlapBlk b) i j hi hj m 0 n 0 0 hm (by rw [hsi.nfun]; omega) hn
    (by rw [hsj.nfun]; omega)
  rw [hsi.nfun, hsj.nfun, Nat.mul_one, Nat.mul_one, Nat.add_zero, Nat.add_zero] at e
  rw [e]
  have hblk : (overlapBlk b i j).get 0 = overlapBlock b[i] b[j] := by
    simp only [overlapBlk, tab_get]
    rw [getElem!_pos b i hi, getElem!_pos b j hj]
  rw [hblk, wBlock2_get4_eq_sum _ _ _ _ _ _ _ (by rw [hsi.nfun]; omega) (by rw [hsj.nfun]; omega),
    hsi.ncart, hsj.ncart, Finset.sum_range_one, Finset.sum_range_one, cwS_s, cwS_s,
    overlapBlock_s b[i] b[j] hsi hsj (hb i hi) (hb j hj), Finset.mul_sum, Finset.mul_sum]
  refine Finset.sum_congr rfl fun ka _ => ?_
  rw [Finset.mul_sum, Finset.mul_sum]
  refine Finset.sum_congr rfl fun kb _ => ?_
  unfold normCoef
  ring

/-! ### conservativeness -/

theorem sSum_eq (s t : Shell ℝ) (m n : ℕ) :
    (∑ ka ∈ Finset.range s.nprim, ∑ kb ∈ Finset.range t.nprim,
        normCoef s m ka * normCoef t n kb * sOverlap (s.exp! ka) (t.exp! kb) (shellDist s t))
      = ∑ ka ∈ Finset.range s.nprim, ∑ kb ∈ Finset.range t.nprim,
          s.coef! ka m * (normCont s).get2 m 0 * (t.coef! kb n * (normCont t).get2 n 0)
            * sOverlap (s.exp! ka) (t.exp! kb) (shellDist s t) := by
  refine Finset.sum_congr rfl fun ka _ => Finset.sum_congr rfl fun kb _ => ?_
  unfold normCoef
  ring

/-- No `IsS` hypothesis: the statement is about the double sum of `sOverlap` terms of `sBlock_entry_eq`,
whatever the shells are. -/
theorem sShell_sum_le (s t : Shell ℝ) (hse : ∀ k < s.nprim, 0 < s.exp! k)
    (hte : ∀ k < t.nprim, 0 < t.exp! k) (tol : ℝ) (ht0 : 0 < tol) (ht1 : tol ≤ 1)
    (hscr : pairScreened tol s t) (m n : ℕ) :
    |∑ ka ∈ Finset.range s.nprim, ∑ kb ∈ Finset.range t.nprim,
        normCoef s m ka * normCoef t n kb * sOverlap (s.exp! ka) (t.exp! kb) (shellDist s t)|
      ≤ tol * (absCoefSum s m * absCoefSum t n) := by
  rcases Nat.eq_zero_or_pos s.nprim with h0 | hsn
  · simp [absCoefSum, h0]
  rcases Nat.eq_zero_or_pos t.nprim with h0 | htn
  · simp [absCoefSum, h0]
  rw [sSum_eq, absCoefSum_eq, absCoefSum_eq]
  exact screen_conservative_le_of_le_one _ _ s.minExp t.minExp (shellDist s t) tol s.exp! (s.coef! · m)
    (fun _ => (normCont s).get2 m 0) t.exp! (t.coef! · n) (fun _ => (normCont t).get2 n 0)
    (s.minExp_pos hsn hse) (t.minExp_pos htn hte) (shellDist_nonneg s t) ht0 ht1
    (fun k hk => s.minExp_le k (Finset.mem_range.mp hk))
    (fun k hk => t.minExp_le k (Finset.mem_range.mp hk))
    (fun _ _ => normCont_nonneg s m 0) (fun _ _ => normCont_nonneg t n 0) hscr

theorem sShell_sum_lt (s t : Shell ℝ) (hse : ∀ k < s.nprim, 0 < s.exp! k)
    (hte : ∀ k < t.nprim, 0 < t.exp! k) (tol : ℝ) (ht0 : 0 < tol) (ht1 : tol ≤ 1)
    (hscr : pairScreened tol s t) (m n : ℕ) (hpos : 0 < absCoefSum s m * absCoefSum t n) :
    |∑ ka ∈ Finset.range s.nprim, ∑ kb ∈ Finset.range t.nprim,
        normCoef s m ka * normCoef t n kb * sOverlap (s.exp! ka) (t.exp! kb) (shellDist s t)|
      < tol * (absCoefSum s m * absCoefSum t n) := by
  have hsn : 0 < s.nprim := by
    by_contra h
    have h0 : s.nprim = 0 := by omega
    simp [absCoefSum, h0] at hpos
  have htn : 0 < t.nprim := by
    by_contra h
    have h0 : t.nprim = 0 := by omega
    simp [absCoefSum, h0] at hpos
  rw [absCoefSum_eq, absCoefSum_eq] at hpos
  rw [sSum_eq, absCoefSum_eq, absCoefSum_eq]
  exact screen_conservative_of_le_one _ _ s.minExp t.minExp (shellDist s t) tol s.exp! (s.coef! · m)
    (fun _ => (normCont s).get2 m 0) t.exp! (t.coef! · n) (fun _ => (normCont t).get2 n 0)
    (s.minExp_pos hsn hse) (t.minExp_pos htn hte) (shellDist_nonneg s t) ht0 ht1
    (fun k hk => s.minExp_le k (Finset.mem_range.mp hk))
    (fun k hk => t.minExp_le k (Finset.mem_range.mp hk))
    (fun _ _ => normCont_nonneg s m 0) (fun _ _ => normCont_nonneg t n 0) hpos hscr

theorem abs_sign_mul {σ τ x : ℝ} (hσ : |σ| = 1) (hτ : |τ| = 1) : |σ * τ * x| = |x| := by
  rw [abs_mul, abs_mul, hσ, hτ, one_mul, one_mul]

theorem screened_array_conservative_le (b : Basis ℝ) (hb : b.ExpsPos) (i j : ℕ) (hi : i < b.size)
    (hj : j < b.size) (hsi : b[i].IsS) (hsj : b[j].IsS) (tol : ℝ) (ht0 : 0 < tol) (ht1 : tol ≤ 1)
    (hscr : pairScreened tol b[i] b[j]) (m n : ℕ) (hm : m < b[i].nseg) (hn : n < b[j].nseg) :
    |entry2 b b (pairBlocks b b 1 (overlapBlk b)) (b.offset i + m) (b.offset j + n) 0|
      ≤ tol * (absCoefSum b[i] m * absCoefSum b[j] n) := by
  rw [sBlock_entry_eq b hb i j hi hj hsi hsj m n hm hn, abs_sign_mul hsi.sSign_abs hsj.sSign_abs]
  exact sShell_sum_le b[i] b[j] (hb i hi) (hb j hj) tol ht0 ht1 hscr m n

/-- C20, conservativeness in the assembled array: a removed s-type element of the unscreened normalised
overlap array is small.

The strict inequality needs the right-hand side to be non-zero (`hpos`; it holds as soon as neither
function vanishes identically, see `screened_array_conservative_regular`); without it
`screened_array_conservative_le` gives `≤`.
The primitive norms `N_k` are part of `sOverlap` (the overlap of normalised primitives, the quantity
the cutoff bounds by `tol`); with `N_k` put into the coefficients instead the bound would be false. -/
theorem screened_array_conservative (b : Basis ℝ) (hb : b.ExpsPos) (i j : ℕ) (hi : i < b.size)
    (hj : j < b.size) (hsi : b[i].IsS) (hsj : b[j].IsS) (tol : ℝ) (ht0 : 0 < tol) (ht1 : tol ≤ 1)
    (hscr : pairScreened tol b[i] b[j]) (m n : ℕ) (hm : m < b[i].nseg) (hn : n < b[j].nseg)
    (hpos : 0 < absCoefSum b[i] m * absCoefSum b[j] n) :
    |entry2 b b (pairBlocks b b 1 (overlapBlk b)) (b.offset i + m) (b.offset j + n) 0|
      < tol * (absCoefSum b[i] m * absCoefSum b[j] n) := by
  rw [sBlock_entry_eq b hb i j hi hj hsi hsj m n hm hn, abs_sign_mul hsi.sSign_abs hsj.sSign_abs]
  exact sShell_sum_lt b[i] b[j] (hb i hi) (hb j hj) tol ht0 ht1 hscr m n hpos

/-! ### the side condition from non-vanishing functions; `(r, c)` forms -/

theorem normCont_pos_of_ne (s : Shell ℝ) (hse : ∀ k < s.nprim, 0 < s.exp! k) (m : ℕ)
    (r₀ : ℝ × ℝ × ℝ) (h0 : shellFn s m 0 r₀ ≠ 0) : 0 < (normCont s).get2 m 0 := by
  unfold normCont
  split_ifs with h
  · simp only [tab2_get, Transc.sqrt, num_nat, Nat.cast_one]
    exact div_pos zero_lt_one (Real.sqrt_pos.2 (selfOverlap_pos s m 0 hse r₀ h0))
  · simp

theorem absCoefSum_pos (s : Shell ℝ) (hse : ∀ k < s.nprim, 0 < s.exp! k) (m : ℕ)
    (r₀ : ℝ × ℝ × ℝ) (h0 : shellFn s m 0 r₀ ≠ 0) : 0 < absCoefSum s m := by
  have hnc := normCont_pos_of_ne s hse m r₀ h0
  obtain ⟨k, hk, hck⟩ : ∃ k ∈ Finset.range s.nprim, s.coef! k m ≠ 0 := by
    by_contra hcon
    push Not at hcon
    apply h0
    unfold shellFn
    refine Finset.sum_eq_zero fun k hk => ?_
    rw [hcon k hk, zero_mul, zero_mul]
  unfold absCoefSum
  refine Finset.sum_pos' (fun _ _ => abs_nonneg _) ⟨k, hk, ?_⟩
  unfold normCoef
  exact abs_pos.2 (mul_ne_zero hnc.ne' hck)

/-- `Basis.Regular` (no function vanishing identically, among other things) supplies `hpos`. -/
theorem screened_array_conservative_regular (b : Basis ℝ) (hb : b.Regular) (i j : ℕ)
    (hi : i < b.size) (hj : j < b.size) (hsi : b[i].IsS) (hsj : b[j].IsS) (tol : ℝ) (ht0 : 0 < tol)
    (ht1 : tol ≤ 1) (hscr : pairScreened tol b[i] b[j]) (m n : ℕ) (hm : m < b[i].nseg)
    (hn : n < b[j].nseg) :
    |entry2 b b (pairBlocks b b 1 (overlapBlk b)) (b.offset i + m) (b.offset j + n) 0|
      < tol * (absCoefSum b[i] m * absCoefSum b[j] n) := by
  obtain ⟨r₀, h0⟩ := hb.nonvanishing i hi m 0 hm (by rw [hsi.ncart]; omega)
  obtain ⟨r₁, h1⟩ := hb.nonvanishing j hj n 0 hn (by rw [hsj.ncart]; omega)
  exact screened_array_conservative b hb.expsPos i j hi hj hsi hsj tol ht0 ht1 hscr m n hm hn
    (mul_pos (absCoefSum_pos b[i] (hb.exps_pos i hi) m r₀ h0)
      (absCoefSum_pos b[j] (hb.exps_pos j hj) n r₁ h1))

theorem index_of_sShell (b : Basis ℝ) (r : ℕ) (hr : r < b.total) (hs : (shellOf b r).IsS) :
    ∃ (i : ℕ) (hi : i < b.size) (m : ℕ), m < b[i].nseg ∧ shellOf b r = b[i] ∧ segOf b r = m
      ∧ r = b.offset i + m := by
  obtain ⟨hi, hm, hf, hrr⟩ := locate_lt b r hr
  have hsh := shellOf_eq b r hi
  rw [hsh] at hs
  rw [hs.nfun] at hf hrr
  exact ⟨_, hi, _, hm, hsh, rfl, by omega⟩

theorem screened_array_conservative_rc (b : Basis ℝ) (hb : b.ExpsPos) (r c : ℕ) (hr : r < b.total)
    (hc : c < b.total) (hsr : (shellOf b r).IsS) (hsc : (shellOf b c).IsS) (tol : ℝ) (ht0 : 0 < tol)
    (ht1 : tol ≤ 1) (hscr : pairScreened tol (shellOf b r) (shellOf b c))
    (hpos : 0 < absCoefSum (shellOf b r) (segOf b r) * absCoefSum (shellOf b c) (segOf b c)) :
    |entry2 b b (pairBlocks b b 1 (overlapBlk b)) r c 0|
      < tol * (absCoefSum (shellOf b r) (segOf b r) * absCoefSum (shellOf b c) (segOf b c)) := by
  obtain ⟨i, hi, m, hm, hsi, hmi, rfl⟩ := index_of_sShell b r hr hsr
  obtain ⟨j, hj, n, hn, hsj, hnj, rfl⟩ := index_of_sShell b c hc hsc
  rw [hsi, hmi, hsj, hnj] at hpos ⊢
  rw [hsi] at hsr
  rw [hsj] at hsc
  rw [hsi, hsj] at hscr
  exact screened_array_conservative b hb i j hi hj hsr hsc tol ht0 ht1 hscr m n hm hn hpos

theorem screened_array_conservative_rc_le (b : Basis ℝ) (hb : b.ExpsPos) (r c : ℕ)
    (hr : r < b.total) (hc : c < b.total) (hsr : (shellOf b r).IsS) (hsc : (shellOf b c).IsS)
    (tol : ℝ) (ht0 : 0 < tol) (ht1 : tol ≤ 1)
    (hscr : pairScreened tol (shellOf b r) (shellOf b c)) :
    |entry2 b b (pairBlocks b b 1 (overlapBlk b)) r c 0|
      ≤ tol * (absCoefSum (shellOf b r) (segOf b r) * absCoefSum (shellOf b c) (segOf b c)) := by
  obtain ⟨i, hi, m, hm, hsi, hmi, rfl⟩ := index_of_sShell b r hr hsr
  obtain ⟨j, hj, n, hn, hsj, hnj, rfl⟩ := index_of_sShell b c hc hsc
  rw [hsi, hmi, hsj, hnj]
  rw [hsi] at hsr
  rw [hsj] at hsc
  rw [hsi, hsj] at hscr
  exact screened_array_conservative_le b hb i j hi hj hsr hsc tol ht0 ht1 hscr m n hm hn

/-- The error of screening on the s-type part of the array: the arrays are equal on kept blocks, and a
removed element is small by `screened_array_conservative_rc_le`. -/
theorem screened_array_error (b : Basis ℝ) (hb : b.ExpsPos) (r c : ℕ) (hr : r < b.total)
    (hc : c < b.total) (hsr : (shellOf b r).IsS) (hsc : (shellOf b c).IsS) (tol : ℝ) (ht0 : 0 < tol)
    (ht1 : tol ≤ 1) :
    |entry2 b b (pairBlocks b b 1 (overlapBlkScreened (some tol) b)) r c 0
        - entry2 b b (pairBlocks b b 1 (overlapBlk b)) r c 0|
      ≤ tol * (absCoefSum (shellOf b r) (segOf b r) * absCoefSum (shellOf b c) (segOf b c)) := by
  rw [screened_array_entry b tol r c hr hc]
  by_cases h : pairScreened tol (shellOf b r) (shellOf b c)
  · rw [if_pos h, zero_sub, abs_neg]
    exact screened_array_conservative_rc_le b hb r c hr hc hsr hsc tol ht0 ht1 h
  · rw [if_neg h, sub_self, abs_zero]
    exact mul_nonneg ht0.le (mul_nonneg (absCoefSum_nonneg _ _) (absCoefSum_nonneg _ _))

end SType

end GB
