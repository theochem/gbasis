import GBProofs.RysAnalytic
import Mathlib.Analysis.SpecialFunctions.Gaussian.GaussianIntegral
import Mathlib.MeasureTheory.Integral.IntegralEqImproper
import Mathlib.Analysis.SpecificLimits.Normed
import Mathlib.Topology.Algebra.Order.Floor

/-!
# The Boys-function algorithm of the executable model (over ℝ)

`BF.boysAll` (`GBModel/Num.lean`) evaluates `F_m(T) = ∫₀¹ t^{2m} e^{-T t²} dt` by

* `T ≤ 200`: at the top order, `F_m(T) = e^{-T} Σ_{k=0}^{1200} term_k`, `term_0 = 1/(2m+1)`,
  `term_{k+1} = term_k · 2T/(2m+2k+3)`, then the downward recursion
  `F_m = (2T F_{m+1} + e^{-T})/(2m+1)`;
* `T > 200`: `F_0 = ½ √(π/T)` and the upward recursion `F_{m+1} = ((2m+1) F_m − e^{-T})/(2T)`.

This file proves, over ℝ and with the analytic `GB.boys`, that these formulas are right and bounds
the two truncation errors (series remainder, neglected Gaussian tail).
-/
open MeasureTheory Real intervalIntegral Set Filter Topology
open scoped Nat

namespace GB

/-! ## 1. The terms of the series -/

/-- real mirror of the variable `term` of `BF.boysSeries` -/
noncomputable def boysTerm (T : ℝ) (m : ℕ) : ℕ → ℝ
  | 0 => 1 / (2 * (m:ℝ) + 1)
  | k+1 => boysTerm T m k * (2 * T) / (2 * (m:ℝ) + 2 * (k:ℝ) + 3)

@[simp] lemma boysTerm_zero (T : ℝ) (m : ℕ) : boysTerm T m 0 = 1 / (2 * (m:ℝ) + 1) := rfl

lemma boysTerm_succ (T : ℝ) (m k : ℕ) :
    boysTerm T m (k+1) = boysTerm T m k * (2 * T) / (2 * (m:ℝ) + 2 * (k:ℝ) + 3) := rfl

noncomputable def boysDen (m n : ℕ) : ℝ := ∏ i ∈ Finset.range n, (2 * (m:ℝ) + 2 * (i:ℝ) + 1)

@[simp] lemma boysDen_zero (m : ℕ) : boysDen m 0 = 1 := by simp [boysDen]

lemma boysDen_succ (m n : ℕ) :
    boysDen m (n+1) = boysDen m n * (2 * (m:ℝ) + 2 * (n:ℝ) + 1) := by
  simp [boysDen, Finset.prod_range_succ]

lemma boysDen_factor_pos (m i : ℕ) : (0:ℝ) < 2 * (m:ℝ) + 2 * (i:ℝ) + 1 := by positivity

lemma boysDen_pos (m n : ℕ) : 0 < boysDen m n :=
  Finset.prod_pos fun i _ => boysDen_factor_pos m i

lemma boysTerm_eq_div_boysDen (T : ℝ) (m k : ℕ) :
    boysTerm T m k = (2 * T)^k / boysDen m (k+1) := by
  induction k with
  | zero => simp [boysDen]
  | succ k ih =>
    rw [boysTerm_succ, ih, boysDen_succ m (k+1), div_mul_eq_mul_div, div_div, pow_succ]
    congr 2
    push_cast
    ring

theorem boysTerm_closed (T : ℝ) (m k : ℕ) :
    boysTerm T m k = (2 * T)^k / ∏ i ∈ Finset.range (k+1), (2 * (m:ℝ) + 2 * (i:ℝ) + 1) :=
  boysTerm_eq_div_boysDen T m k

lemma boysCoef_nonneg {T : ℝ} (hT : 0 ≤ T) (m n : ℕ) : 0 ≤ (2 * T)^n / boysDen m n :=
  div_nonneg (pow_nonneg (mul_nonneg zero_le_two hT) _) (boysDen_pos m n).le

lemma boysTerm_nonneg {T : ℝ} (hT : 0 ≤ T) (m k : ℕ) : 0 ≤ boysTerm T m k := by
  rw [boysTerm_eq_div_boysDen]
  exact div_nonneg (pow_nonneg (mul_nonneg zero_le_two hT) _) (boysDen_pos m _).le

/-! ## 2. The two recursion steps, as the algorithm uses them -/

theorem boys_downward_step (T : ℝ) (m : ℕ) :
    boys T m = (2 * T * boys T (m+1) + Real.exp (-T)) / (2 * (m:ℝ) + 1) := by
  have h : (2 * (m:ℝ) + 1) ≠ 0 := by positivity
  rw [eq_div_iff h, mul_comm]
  exact boys_downward T m

theorem boys_upward_step (T : ℝ) (hT : T ≠ 0) (m : ℕ) :
    boys T (m+1) = ((2 * (m:ℝ) + 1) * boys T m - Real.exp (-T)) / (2 * T) := by
  have h : (2 * T) ≠ 0 := by simpa using hT
  rw [eq_div_iff h, boys_downward T m]
  ring

/-! ## 3. The exact finite identity -/

theorem boys_partial_sum (T : ℝ) (m n : ℕ) :
    boys T m = Real.exp (-T) * ∑ k ∈ Finset.range n, boysTerm T m k
      + (2 * T)^n / (∏ i ∈ Finset.range n, (2 * (m:ℝ) + 2 * (i:ℝ) + 1)) * boys T (m+n) := by
  change _ = _ + (2 * T)^n / boysDen m n * boys T (m+n)
  induction n with
  | zero => simp
  | succ n ih =>
    have hD : boysDen m n ≠ 0 := (boysDen_pos m n).ne'
    have hf : (2 * (m:ℝ) + 2 * (n:ℝ) + 1) ≠ 0 := (boysDen_factor_pos m n).ne'
    have hstep := boys_downward_step T (m+n)
    rw [Nat.cast_add, mul_add] at hstep
    rw [Finset.sum_range_succ, boysTerm_eq_div_boysDen, boysDen_succ, ← add_assoc m n 1]
    nth_rewrite 1 [ih]
    rw [hstep]
    field_simp
    ring

lemma boys_sub_partial_sum (T : ℝ) (m n : ℕ) :
    boys T m - Real.exp (-T) * ∑ k ∈ Finset.range n, boysTerm T m k
      = (2 * T)^n / boysDen m n * boys T (m+n) :=
  sub_eq_of_eq_add' (boys_partial_sum T m n)

/-! ## 4. The truncation error of the series -/

theorem boys_antitone_arg (m : ℕ) {S T : ℝ} (h : S ≤ T) : boys T m ≤ boys S m := by
  unfold boys
  apply integral_mono_on (by norm_num)
  · exact (boys_integrand_continuous T m).intervalIntegrable _ _
  · exact (boys_integrand_continuous S m).intervalIntegrable _ _
  · intro t ht
    apply mul_le_mul_of_nonneg_left _ (pow_nonneg ht.1 _)
    apply Real.exp_le_exp.2
    nlinarith [sq_nonneg t]

theorem boys_le_inv {T : ℝ} (hT : 0 ≤ T) (m : ℕ) : boys T m ≤ 1 / (2 * (m:ℝ) + 1) :=
  (boys_antitone_arg m hT).trans_eq (boys_zero_arg m)

theorem boys_anti_add (T : ℝ) (m n : ℕ) : boys T (m+n) ≤ boys T m := by
  induction n with
  | zero => simp
  | succ n ih => exact (boys_anti T (m+n)).trans ih

theorem boys_series_error {T : ℝ} (hT : 0 ≤ T) (m n : ℕ) :
    0 ≤ boys T m - Real.exp (-T) * ∑ k ∈ Finset.range n, boysTerm T m k ∧
    boys T m - Real.exp (-T) * ∑ k ∈ Finset.range n, boysTerm T m k
      ≤ (2 * T)^n / (∏ i ∈ Finset.range n, (2 * (m:ℝ) + 2 * (i:ℝ) + 1)) / (2 * ((m:ℝ) + n) + 1) := by
  rw [boys_sub_partial_sum]
  refine ⟨mul_nonneg (boysCoef_nonneg hT m n) (boys_pos T _).le, ?_⟩
  rw [div_eq_mul_one_div _ (2 * ((m:ℝ) + n) + 1), ← Nat.cast_add]
  exact mul_le_mul_of_nonneg_left (boys_le_inv hT (m+n)) (boysCoef_nonneg hT m n)

theorem boys_series_rel_error {T : ℝ} (hT : 0 ≤ T) (m n : ℕ) :
    boys T m - Real.exp (-T) * ∑ k ∈ Finset.range n, boysTerm T m k
      ≤ (2 * T)^n / (∏ i ∈ Finset.range n, (2 * (m:ℝ) + 2 * (i:ℝ) + 1)) * boys T m := by
  rw [boys_sub_partial_sum]
  exact mul_le_mul_of_nonneg_left (boys_anti_add T m n) (boysCoef_nonneg hT m n)


/-! ### 4b. The concrete bound for the model's parameters (`T ≤ 200`, 1201 terms) -/

/-- `1·3·5⋯(2n−1)` over ℕ by structural recursion (so that the kernel can evaluate it) -/
def oddProd : ℕ → ℕ
  | 0 => 1
  | n+1 => oddProd n * (2*n+1)

lemma oddProd_cast (n : ℕ) : ((oddProd n : ℕ) : ℝ) = boysDen 0 n := by
  induction n with
  | zero => simp [oddProd]
  | succ n ih =>
    rw [boysDen_succ, ← ih]
    simp [oddProd]

lemma boysDen_zero_le (m n : ℕ) : boysDen 0 n ≤ boysDen m n := by
  unfold boysDen
  apply Finset.prod_le_prod
  · intro i _; positivity
  · intro i _
    have : (0:ℝ) ≤ (m:ℝ) := Nat.cast_nonneg m
    push_cast
    linarith

lemma oddProd_1201_abs : 400^1201 * 10^416 ≤ oddProd 1201 * 2403 := by decide +kernel

lemma oddProd_1201_rel : 400^1201 * 10^413 ≤ oddProd 1201 := by decide +kernel

lemma nat_div_div_le {a b c d : ℕ} (hb : 0 < b) (hc : 0 < c) (hd : 0 < d) (h : a * c ≤ b * d) :
    (a:ℝ) / b / d ≤ 1 / c := by
  have hbd : (0:ℝ) < b * d := by exact_mod_cast Nat.mul_pos hb hd
  rw [div_div, div_le_div_iff₀ hbd (by exact_mod_cast hc), one_mul]
  exact_mod_cast h

lemma oddProd_pos (n : ℕ) : 0 < oddProd n := by
  induction n with
  | zero => simp [oddProd]
  | succ n ih => exact Nat.mul_pos ih (by omega)

lemma boysCoef_model {c d : ℕ} (hc : 0 < c) (hd : 0 < d) (h : 400^1201 * c ≤ oddProd 1201 * d) :
    (2 * (200:ℝ))^1201 / boysDen 0 1201 / d ≤ 1 / c := by
  have e : (2 * (200:ℝ)) = ((400 : ℕ) : ℝ) := by norm_num
  rw [e, ← Nat.cast_pow, ← oddProd_cast]
  exact nat_div_div_le (oddProd_pos _) hc hd h

lemma boysCoef_le {T B : ℝ} (hT : 0 ≤ T) (hTB : T ≤ B) (m n : ℕ) :
    (2 * T)^n / boysDen m n ≤ (2 * B)^n / boysDen 0 n :=
  div_le_div₀ (pow_nonneg (by linarith) n) (pow_le_pow_left₀ (by linarith) (by linarith) n)
    (boysDen_pos 0 n) (boysDen_zero_le m n)

/-- The series truncation of `BF.boysAll`, which adds the 1201 terms `k = 0 … 1200` when `T ≤ 200`;
`10^{-416}` is far below the `2^{-320}` resolution of the model's arithmetic. -/
theorem boys_series_error_model {T : ℝ} (hT : 0 ≤ T) (hT' : T ≤ 200) (m : ℕ) :
    0 ≤ boys T m - Real.exp (-T) * ∑ k ∈ Finset.range 1201, boysTerm T m k ∧
    boys T m - Real.exp (-T) * ∑ k ∈ Finset.range 1201, boysTerm T m k ≤ 1 / 10^416 := by
  obtain ⟨h0, h1⟩ := boys_series_error hT m 1201
  refine ⟨h0, h1.trans ?_⟩
  have hm : (2403:ℝ) ≤ 2 * ((m:ℝ) + (1201:ℕ)) + 1 := by
    push_cast
    linarith [(Nat.cast_nonneg m : (0:ℝ) ≤ m)]
  have h := boysCoef_model (c := 10^416) (d := 2403) (by positivity) (by norm_num)
    oddProd_1201_abs
  rw [Nat.cast_pow, Nat.cast_ofNat, Nat.cast_ofNat] at h
  refine le_trans ?_ h
  exact div_le_div₀ (boysCoef_nonneg (by norm_num) 0 _) (boysCoef_le hT hT' m 1201)
    (by norm_num) hm

theorem boys_series_rel_error_model {T : ℝ} (hT : 0 ≤ T) (hT' : T ≤ 200) (m : ℕ) :
    boys T m - Real.exp (-T) * ∑ k ∈ Finset.range 1201, boysTerm T m k
      ≤ 1 / 10^413 * boys T m := by
  refine (boys_series_rel_error hT m 1201).trans ?_
  apply mul_le_mul_of_nonneg_right _ (boys_pos T m).le
  have h := boysCoef_model (c := 10^413) (d := 1) (by positivity) one_pos
    (by rw [Nat.mul_one]; exact oddProd_1201_rel)
  rw [Nat.cast_one, div_one, Nat.cast_pow, Nat.cast_ofNat] at h
  exact (boysCoef_le hT hT' m 1201).trans h

/-! ### 4c. Convergence of the series (all real `T`) -/

lemma factorial_le_boysDen (m n : ℕ) : ((n ! : ℕ) : ℝ) ≤ boysDen m n := by
  induction n with
  | zero => simp
  | succ n ih =>
    rw [Nat.factorial_succ, boysDen_succ, Nat.cast_mul, mul_comm]
    apply mul_le_mul ih _ (by positivity) (boysDen_pos m n).le
    push_cast
    linarith [(Nat.cast_nonneg m : (0:ℝ) ≤ m), (Nat.cast_nonneg n : (0:ℝ) ≤ n)]

lemma boysDen_mono (m : ℕ) : Monotone (boysDen m) :=
  monotone_nat_of_le_succ fun n => by
    rw [boysDen_succ]
    exact le_mul_of_one_le_right (boysDen_pos m n).le
      (by linarith [(Nat.cast_nonneg m : (0:ℝ) ≤ m), (Nat.cast_nonneg n : (0:ℝ) ≤ n)])

/-- comparison with the exponential series -/
lemma abs_boysCoef_le (T : ℝ) (m : ℕ) {n j : ℕ} (h : n ≤ j) :
    |(2 * T)^n / boysDen m j| ≤ |2 * T|^n / (n ! : ℝ) := by
  rw [abs_div, abs_pow, abs_of_pos (boysDen_pos m j)]
  exact div_le_div_of_nonneg_left (by positivity) (by exact_mod_cast Nat.factorial_pos n)
    ((factorial_le_boysDen m n).trans (boysDen_mono m h))

theorem boys_remainder_tendsto (T : ℝ) (m : ℕ) :
    Tendsto (fun n : ℕ => (2 * T)^n / boysDen m n * boys T (m+n)) atTop (𝓝 0) := by
  have hlim : Tendsto (fun n : ℕ => |2 * T|^n / (n ! : ℝ) * boys T m) atTop (𝓝 0) := by
    simpa using (FloorSemiring.tendsto_pow_div_factorial_atTop (|2 * T|)).mul_const (boys T m)
  refine squeeze_zero_norm (fun n => ?_) hlim
  rw [Real.norm_eq_abs, abs_mul, abs_of_pos (boys_pos T _)]
  exact mul_le_mul (abs_boysCoef_le T m le_rfl) (boys_anti_add T m n) (boys_pos T _).le
    (by positivity)

theorem boys_hasSum (T : ℝ) (m : ℕ) :
    HasSum (fun k => Real.exp (-T) * boysTerm T m k) (boys T m) := by
  have hsumm : Summable (fun k => Real.exp (-T) * boysTerm T m k) := by
    apply Summable.of_norm_bounded (g := fun k : ℕ => Real.exp (-T) * (|2 * T|^k / (k ! : ℝ)))
      ((Real.summable_pow_div_factorial |2 * T|).mul_left _)
    intro k
    rw [Real.norm_eq_abs, abs_mul, abs_of_pos (Real.exp_pos _), boysTerm_eq_div_boysDen]
    exact mul_le_mul_of_nonneg_left (abs_boysCoef_le T m k.le_succ) (Real.exp_pos _).le
  rw [hsumm.hasSum_iff_tendsto_nat]
  have h := (boys_remainder_tendsto T m).const_sub (boys T m)
  rw [sub_zero] at h
  refine h.congr (fun n => ?_)
  rw [← Finset.mul_sum, ← boys_sub_partial_sum, sub_sub_cancel]

/-! ## 5. The large-`T` start value `F_0(T) ≈ ½√(π/T)` -/

lemma integral_Ioi_one_mul_exp_neg_mul_sq {T : ℝ} (hT : 0 < T) :
    ∫ t in Ioi (1:ℝ), t * Real.exp (-T * t^2) = Real.exp (-T) / (2 * T) := by
  have hderiv : ∀ t ∈ Ici (1:ℝ),
      HasDerivAt (fun t : ℝ => -Real.exp (-T * t^2) / (2 * T)) (t * Real.exp (-T * t^2)) t := by
    intro t _
    refine ((hasDerivAt_exp_neg_mul_sq T t).neg.div_const (2 * T)).congr_deriv ?_
    field_simp
  have hlim : Tendsto (fun t : ℝ => -Real.exp (-T * t^2) / (2 * T)) atTop (𝓝 0) := by
    have h1 : Tendsto (fun t : ℝ => -T * t^2) atTop atBot :=
      (tendsto_pow_atTop (by norm_num : (2:ℕ) ≠ 0)).const_mul_atTop_of_neg (by linarith)
    have h2 := (Real.tendsto_exp_atBot.comp h1).neg.div_const (2 * T)
    simpa using h2
  have hint : IntegrableOn (fun t : ℝ => t * Real.exp (-T * t^2)) (Ioi 1) :=
    (integrable_mul_exp_neg_mul_sq hT).integrableOn
  rw [integral_Ioi_of_hasDerivAt_of_tendsto' hderiv hint hlim]
  simp
  ring

/-- `½√(π/T) − F_0(T)` is the tail `∫_1^∞ e^{-T t²} dt`, which is at most
`∫_1^∞ t e^{-T t²} dt = e^{-T}/(2T)`; so the start value of the upward branch of `BF.boysAll` never
underestimates. -/
theorem boys_zero_asymptotic {T : ℝ} (hT : 0 < T) :
    0 ≤ √(π / T) / 2 - boys T 0 ∧ √(π / T) / 2 - boys T 0 ≤ Real.exp (-T) / (2 * T) := by
  have hf : Integrable (fun t : ℝ => Real.exp (-T * t^2)) := integrable_exp_neg_mul_sq hT
  have hI0 : IntegrableOn (fun t : ℝ => Real.exp (-T * t^2)) (Ioi 0) := hf.integrableOn
  have hI1 : IntegrableOn (fun t : ℝ => Real.exp (-T * t^2)) (Ioi 1) := hf.integrableOn
  have hsplit := integral_interval_add_Ioi hI0 hI1
  rw [integral_gaussian_Ioi] at hsplit
  have hb : boys T 0 = ∫ t in (0:ℝ)..1, Real.exp (-T * t^2) := by
    unfold boys
    simp
  have htail : √(π / T) / 2 - boys T 0 = ∫ t in Ioi (1:ℝ), Real.exp (-T * t^2) := by
    rw [hb, ← hsplit, add_sub_cancel_left]
  rw [htail]
  refine ⟨setIntegral_nonneg measurableSet_Ioi (fun t _ => (Real.exp_pos _).le), ?_⟩
  rw [← integral_Ioi_one_mul_exp_neg_mul_sq hT]
  apply setIntegral_mono_on hI1 (integrable_mul_exp_neg_mul_sq hT).integrableOn measurableSet_Ioi
  intro t ht
  exact le_mul_of_one_le_left (Real.exp_pos _).le (le_of_lt ht)

/-- at the threshold `T > 200` of the upward branch of `BF.boysAll` -/
theorem boys_zero_asymptotic_model {T : ℝ} (hT : 200 < T) :
    0 ≤ √(π / T) / 2 - boys T 0 ∧ √(π / T) / 2 - boys T 0 < Real.exp (-200) / 400 := by
  have hT0 : 0 < T := by linarith
  obtain ⟨h0, h1⟩ := boys_zero_asymptotic hT0
  refine ⟨h0, h1.trans_lt ?_⟩
  have he : Real.exp (-T) < Real.exp (-200) := Real.exp_lt_exp.2 (by linarith)
  have hd : (400:ℝ) < 2 * T := by linarith
  calc Real.exp (-T) / (2 * T) < Real.exp (-200) / (2 * T) :=
        div_lt_div_of_pos_right he (by linarith)
    _ < Real.exp (-200) / 400 :=
        div_lt_div_of_pos_left (Real.exp_pos _) (by norm_num) hd

/-! ## 6. The accumulator loop of the model

`BF.boysSeries T m n k term acc` performs `n` steps `term ← term·2T/(2m+2k+3)`, `acc ← acc + term`,
`k ← k+1`; `BF.boysAll` calls it as `boysSeries T top 1200 0 t0 t0` with `t0 = 1/(2·top+1)`.
The real mirror below has the same recursion; started that way it returns the sum of the
`1201` terms `k = 0 … 1200`, which is the sum bounded in `boys_series_error_model`. -/

/-- real mirror of `BF.boysSeries` (same recursion, same argument order) -/
noncomputable def boysSeriesR (T : ℝ) (m : ℕ) : ℕ → ℕ → ℝ → ℝ → ℝ
  | 0, _, _, acc => acc
  | n+1, k, term, acc =>
    boysSeriesR T m n (k+1) (term * (2 * T) / ((2*m + 2*k + 3 : ℕ) : ℝ))
      (acc + term * (2 * T) / ((2*m + 2*k + 3 : ℕ) : ℝ))

theorem boysSeriesR_eq (T : ℝ) (m n k : ℕ) (acc : ℝ) :
    boysSeriesR T m n k (boysTerm T m k) acc
      = acc + ∑ j ∈ Finset.range n, boysTerm T m (k+1+j) := by
  induction n generalizing k acc with
  | zero => simp [boysSeriesR]
  | succ n ih =>
    have e : boysTerm T m k * (2 * T) / ((2*m + 2*k + 3 : ℕ) : ℝ) = boysTerm T m (k+1) := by
      rw [boysTerm_succ]; push_cast; ring
    rw [boysSeriesR, e, ih, Finset.sum_range_succ']
    have : ∀ j, boysTerm T m (k+1+1+j) = boysTerm T m (k+1+(j+1)) := by
      intro j; congr 1; omega
    simp only [this, add_zero]
    ring

theorem boysSeriesR_start (T : ℝ) (m n : ℕ) :
    boysSeriesR T m n 0 (1 / (2 * (m:ℝ) + 1)) (1 / (2 * (m:ℝ) + 1))
      = ∑ k ∈ Finset.range (n+1), boysTerm T m k := by
  have h := boysSeriesR_eq T m n 0 (1 / (2 * (m:ℝ) + 1))
  rw [boysTerm_zero] at h
  rw [h, Finset.sum_range_succ' _ n, boysTerm_zero, add_comm]
  have : ∀ j, boysTerm T m (0+1+j) = boysTerm T m (j+1) := by
    intro j; congr 1; omega
  simp only [this]

/-- the arguments are those of the call in `BF.boysAll` -/
theorem boysSeriesR_model (T : ℝ) (m : ℕ) :
    boysSeriesR T m 1200 0 (1 / (2 * (m:ℝ) + 1)) (1 / (2 * (m:ℝ) + 1))
      = ∑ k ∈ Finset.range 1201, boysTerm T m k :=
  boysSeriesR_start T m 1200

/-- the top-order value `ftop` of the `T ≤ 200` branch of `BF.boysAll`, computed in exact real
arithmetic: the rounding of `BF` is not part of the statement -/
theorem boys_model_top {T : ℝ} (hT : 0 ≤ T) (hT' : T ≤ 200) (m : ℕ) :
    0 ≤ boys T m
        - Real.exp (-T) * boysSeriesR T m 1200 0 (1 / (2 * (m:ℝ) + 1)) (1 / (2 * (m:ℝ) + 1)) ∧
    boys T m - Real.exp (-T) * boysSeriesR T m 1200 0 (1 / (2 * (m:ℝ) + 1)) (1 / (2 * (m:ℝ) + 1))
      ≤ 1 / 10^416 := by
  rw [boysSeriesR_model]
  exact boys_series_error_model hT hT' m

end GB
