import GBProofs.Props.C01
import GBProofs.Props.C02
import GBProofs.EvalDeriv
import Mathlib.MeasureTheory.Integral.Prod
import Mathlib.MeasureTheory.Group.Integral
import Mathlib.MeasureTheory.Measure.OpenPos
import Mathlib.Analysis.Calculus.IteratedDeriv.Lemmas

/-!
# Contracted three-dimensional shell blocks are integrals over ℝ³

`ℝ³` is `ℝ × ℝ × ℝ` with the product Lebesgue measure.  The one-dimensional table theorems
(`C01.table_entry_eq_integral`, `C02.table_entry_eq_integral`) are lifted to the contracted
blocks of `momentBlock` / `overlapBlock` / `diffBlock` / `kineticBlock`, and the integrands are the
very functions that the pointwise evaluation model `evalBlock` computes.

The integrals of all blocks are those of one family: products of two differentiated primitives with a monomial weight
(`kw1` in one dimension, `primW_eq`, `integral_primW`, `shellW_ibp` in three), separated into one-dimensional factors by
`integral_prod3` and summed over pairs of primitives by `integral_sum_mul_sum`.
-/
open MeasureTheory Real Polynomial

namespace GB

/-! ## Primitive and contracted functions -/

noncomputable def primFn (α : ℝ) (A : ℕ → ℝ) (c : Comp) (r : ℝ × ℝ × ℝ) : ℝ :=
  (r.1 - A 0)^c.1 * (r.2.1 - A 1)^c.2.1 * (r.2.2 - A 2)^c.2.2
    * exp (-α * ((r.1 - A 0)^2 + (r.2.1 - A 1)^2 + (r.2.2 - A 2)^2))

/-- Contraction `m`, component `c` (an index into the shell's component list) as a function on ℝ³.
The primitives carry their norms `norm_prim_cart` (`normPrim`); the contraction norm `norm_cont`
(`normCont`) is not applied, exactly as in the blocks `construct_array_contraction` returns. -/
noncomputable def shellFn (s : Shell ℝ) (m c : ℕ) (r : ℝ × ℝ × ℝ) : ℝ :=
  ∑ k ∈ Finset.range s.nprim,
    s.coef! k m * normPrim (s.exp! k) s.l (s.comp! c) * primFn (s.exp! k) s.ctr (s.comp! c) r

def monoFn (O : ℕ → ℝ) (o : Comp) (r : ℝ × ℝ × ℝ) : ℝ :=
  (r.1 - O 0)^o.1 * (r.2.1 - O 1)^o.2.1 * (r.2.2 - O 2)^o.2.2

lemma exp_neg_mul_add3 (α x y z : ℝ) :
    exp (-α * (x + y + z)) = exp (-α * x) * exp (-α * y) * exp (-α * z) := by
  rw [← Real.exp_add, ← Real.exp_add]; congr 1; ring

noncomputable def prim1 (α A : ℝ) (n : ℕ) (x : ℝ) : ℝ := (x - A)^n * exp (-α * (x - A)^2)

lemma primFn_eq_prod (α : ℝ) (A : ℕ → ℝ) (c : Comp) (r : ℝ × ℝ × ℝ) :
    primFn α A c r = prim1 α (A 0) c.1 r.1 * prim1 α (A 1) c.2.1 r.2.1 * prim1 α (A 2) c.2.2 r.2.2 := by
  unfold primFn prim1
  rw [exp_neg_mul_add3]
  ring

/-- Defined as a product of one-dimensional iterated derivatives so that it separates under the
integral; `mixedPartial_primFn` shows it is the mixed partial derivative `∂_x^{o_x} ∂_y^{o_y} ∂_z^{o_z}`
of `primFn`. -/
noncomputable def primDerivFn (α : ℝ) (A : ℕ → ℝ) (c o : Comp) (r : ℝ × ℝ × ℝ) : ℝ :=
  iteratedDeriv o.1 (prim1 α (A 0) c.1) r.1 * iteratedDeriv o.2.1 (prim1 α (A 1) c.2.1) r.2.1
    * iteratedDeriv o.2.2 (prim1 α (A 2) c.2.2) r.2.2

theorem mixedPartial_primFn (α : ℝ) (A : ℕ → ℝ) (c o : Comp) (r : ℝ × ℝ × ℝ) :
    iteratedDeriv o.1 (fun x => iteratedDeriv o.2.1 (fun y =>
        iteratedDeriv o.2.2 (fun z => primFn α A c (x, y, z)) r.2.2) r.2.1) r.1
      = primDerivFn α A c o r := by
  -- in each variable the other two factors are constants and come out of the iterated derivative
  simp only [primFn_eq_prod, iteratedDeriv_const_mul_field, iteratedDeriv_mul_const_field, primDerivFn]

lemma primDerivFn_zero (α : ℝ) (A : ℕ → ℝ) (c : Comp) (r : ℝ × ℝ × ℝ) :
    primDerivFn α A c (0,0,0) r = primFn α A c r := by
  rw [primFn_eq_prod]; simp [primDerivFn]

/-- `∂^o` of `shellFn`, term by term (primitive norms in, contraction norm `norm_cont` out, as there) -/
noncomputable def shellDerivFn (s : Shell ℝ) (m c : ℕ) (o : Comp) (r : ℝ × ℝ × ℝ) : ℝ :=
  ∑ k ∈ Finset.range s.nprim,
    s.coef! k m * normPrim (s.exp! k) s.l (s.comp! c)
      * primDerivFn (s.exp! k) s.ctr (s.comp! c) o r

lemma shellDerivFn_zero (s : Shell ℝ) (m c : ℕ) (r : ℝ × ℝ × ℝ) :
    shellDerivFn s m c (0,0,0) r = shellFn s m c r := by
  unfold shellDerivFn shellFn; simp_rw [primDerivFn_zero]

/-! ## Pointwise evaluation at order zero -/

theorem evalBlock_eq_shellFn (s : Shell ℝ) (pts : Array (ℕ → ℝ)) (m c p : ℕ) (r : ℝ × ℝ × ℝ)
    (hp : p < pts.size) (h0 : pts[p] 0 = r.1) (h1 : pts[p] 1 = r.2.1) (h2 : pts[p] 2 = r.2.2) :
    (evalBlock s .general (0,0,0) pts).get3 m c p = shellFn s m c r := by
  have hg : pts.getD p (fun _ => Num.nat 0) = pts[p] := by
    simp [Array.getD, hp]
  simp only [evalBlock, tab3_get, tab4_get, Shell.normTab, tab2_get, axisGeneral, Comp.ax, if_true,
    hg, h0, h1, h2, powN_eq_pow, Transc.exp]
  rw [sumN_eq_sum]
  unfold shellFn primFn
  refine Finset.sum_congr rfl fun k _ => ?_
  rw [exp_neg_mul_add3]
  have e : ∀ α x : ℝ, -(α * (x * x)) = -α * x^2 := fun α x => by ring
  rw [e, e, e]
  ring

/-! ## Separation into one-dimensional factors -/

lemma integrable_prod3 {f₀ f₁ f₂ : ℝ → ℝ} (h₀ : Integrable f₀) (h₁ : Integrable f₁)
    (h₂ : Integrable f₂) : Integrable fun r : ℝ × ℝ × ℝ => f₀ r.1 * (f₁ r.2.1 * f₂ r.2.2) :=
  h₀.mul_prod (h₁.mul_prod h₂)

lemma integral_prod3 (f₀ f₁ f₂ : ℝ → ℝ) :
    ∫ r : ℝ × ℝ × ℝ, f₀ r.1 * (f₁ r.2.1 * f₂ r.2.2) = (∫ x, f₀ x) * (∫ x, f₁ x) * (∫ x, f₂ x) := by
  rw [Measure.volume_eq_prod ℝ (ℝ × ℝ), integral_prod_mul f₀ fun q : ℝ × ℝ => f₁ q.1 * f₂ q.2,
    Measure.volume_eq_prod ℝ ℝ, integral_prod_mul, mul_assoc]

/-! ## Finite linear combinations of functions under the integral -/
section LinearCombinations
variable {α κ ι₁ ι₂ : Type*}

lemma sum_mul_sum_pair (S₁ : Finset ι₁) (S₂ : Finset ι₂) (D₁ : ι₁ → ℝ) (D₂ : ι₂ → ℝ)
    (x : ι₁ → ℝ) (y : ι₂ → ℝ) :
    (∑ a ∈ S₁, D₁ a * x a) * (∑ b ∈ S₂, D₂ b * y b)
      = ∑ a ∈ S₁, ∑ b ∈ S₂, D₁ a * D₂ b * (x a * y b) := by
  rw [Finset.sum_mul_sum]
  exact Finset.sum_congr rfl fun a _ => Finset.sum_congr rfl fun b _ => mul_mul_mul_comm _ _ _ _

lemma mul_sum_sum (k : ℝ) (S₁ : Finset ι₁) (S₂ : Finset ι₂) (c I : ι₁ → ι₂ → ℝ) :
    k * ∑ a ∈ S₁, ∑ b ∈ S₂, c a b * I a b = ∑ a ∈ S₁, ∑ b ∈ S₂, c a b * (k * I a b) := by
  rw [Finset.mul_sum]
  refine Finset.sum_congr rfl fun a _ => ?_
  rw [Finset.mul_sum]
  exact Finset.sum_congr rfl fun b _ => mul_left_comm _ _ _

lemma sum_mul_sum_mul_eq (N N' : ℕ) (u u' : ℕ → ℝ) (F G : ℕ → α → ℝ) (w : α → ℝ) (x : α) :
    (∑ a ∈ Finset.range N, u a * F a x) * (∑ a' ∈ Finset.range N', u' a' * G a' x) * w x
      = ∑ a ∈ Finset.range N, ∑ a' ∈ Finset.range N', u a * u' a' * (F a x * G a' x * w x) := by
  rw [sum_mul_sum_pair, Finset.sum_mul]
  refine Finset.sum_congr rfl fun a _ => ?_
  rw [Finset.sum_mul]
  exact Finset.sum_congr rfl fun a' _ => mul_assoc _ _ _

variable [MeasurableSpace α] {μ : Measure α}

lemma integrable_sum_mul (S : Finset κ) (M : κ → ℝ) (Φ : κ → α → ℝ)
    (hint : ∀ j ∈ S, Integrable (Φ j) μ) : Integrable (fun x => ∑ j ∈ S, M j * Φ j x) μ :=
  integrable_finsetSum _ fun j hj => (hint j hj).const_mul (M j)

lemma integral_sum_mul (S : Finset κ) (M : κ → ℝ) (Φ : κ → α → ℝ)
    (hint : ∀ j ∈ S, Integrable (Φ j) μ) :
    ∫ x, ∑ j ∈ S, M j * Φ j x ∂μ = ∑ j ∈ S, M j * ∫ x, Φ j x ∂μ := by
  rw [integral_finsetSum _ fun j hj => (hint j hj).const_mul (M j)]
  exact Finset.sum_congr rfl fun j _ => integral_const_mul _ _

lemma integrable_sum_sum_mul (S₁ : Finset ι₁) (S₂ : Finset ι₂) (c : ι₁ → ι₂ → ℝ)
    (Φ : ι₁ → ι₂ → α → ℝ) (hint : ∀ a ∈ S₁, ∀ b ∈ S₂, Integrable (Φ a b) μ) :
    Integrable (fun x => ∑ a ∈ S₁, ∑ b ∈ S₂, c a b * Φ a b x) μ :=
  integrable_finsetSum _ fun a ha => integrable_sum_mul S₂ (c a) (Φ a) (hint a ha)

lemma integral_sum_sum_mul (S₁ : Finset ι₁) (S₂ : Finset ι₂) (c : ι₁ → ι₂ → ℝ)
    (Φ : ι₁ → ι₂ → α → ℝ) (hint : ∀ a ∈ S₁, ∀ b ∈ S₂, Integrable (Φ a b) μ) :
    ∫ x, ∑ a ∈ S₁, ∑ b ∈ S₂, c a b * Φ a b x ∂μ
      = ∑ a ∈ S₁, ∑ b ∈ S₂, c a b * ∫ x, Φ a b x ∂μ := by
  rw [integral_finsetSum _ fun a ha => integrable_sum_mul S₂ (c a) (Φ a) (hint a ha)]
  exact Finset.sum_congr rfl fun a ha => integral_sum_mul S₂ (c a) (Φ a) (hint a ha)

end LinearCombinations

section SumMulSum
variable {α : Type*} (N N' : ℕ) (u u' : ℕ → ℝ) (F G : ℕ → α → ℝ)

theorem sum_mul_sum_eq (x : α) :
    (∑ a ∈ Finset.range N, u a * F a x) * (∑ a' ∈ Finset.range N', u' a' * G a' x)
      = ∑ a ∈ Finset.range N, ∑ a' ∈ Finset.range N', u a * u' a' * (F a x * G a' x) :=
  sum_mul_sum_pair _ _ _ _ _ _

variable [MeasurableSpace α] (μ : Measure α)

theorem integrable_sum_mul_sum
    (h : ∀ a < N, ∀ a' < N', Integrable (fun x => F a x * G a' x) μ) :
    Integrable (fun x => (∑ a ∈ Finset.range N, u a * F a x)
      * (∑ a' ∈ Finset.range N', u' a' * G a' x)) μ := by
  simp_rw [sum_mul_sum_eq]
  exact integrable_sum_sum_mul _ _ _ _ fun a ha a' ha' =>
    h a (Finset.mem_range.mp ha) a' (Finset.mem_range.mp ha')

theorem integral_sum_mul_sum
    (h : ∀ a < N, ∀ a' < N', Integrable (fun x => F a x * G a' x) μ) :
    ∫ x, (∑ a ∈ Finset.range N, u a * F a x) * (∑ a' ∈ Finset.range N', u' a' * G a' x) ∂μ
      = ∑ a ∈ Finset.range N, ∑ a' ∈ Finset.range N', u a * u' a' * ∫ x, F a x * G a' x ∂μ := by
  simp_rw [sum_mul_sum_eq]
  exact integral_sum_sum_mul _ _ _ _ fun a ha a' ha' =>
    h a (Finset.mem_range.mp ha) a' (Finset.mem_range.mp ha')

theorem integrable_sum_mul_sum_mul (w : α → ℝ)
    (h : ∀ a < N, ∀ a' < N', Integrable (fun x => F a x * G a' x * w x) μ) :
    Integrable (fun x => (∑ a ∈ Finset.range N, u a * F a x)
      * (∑ a' ∈ Finset.range N', u' a' * G a' x) * w x) μ := by
  simp_rw [sum_mul_sum_mul_eq]
  exact integrable_sum_sum_mul _ _ _ _ fun a ha a' ha' =>
    h a (Finset.mem_range.mp ha) a' (Finset.mem_range.mp ha')

theorem integral_sum_mul_sum_mul (w : α → ℝ)
    (h : ∀ a < N, ∀ a' < N', Integrable (fun x => F a x * G a' x * w x) μ) :
    ∫ x, (∑ a ∈ Finset.range N, u a * F a x) * (∑ a' ∈ Finset.range N', u' a' * G a' x) * w x ∂μ
      = ∑ a ∈ Finset.range N, ∑ a' ∈ Finset.range N',
          u a * u' a' * ∫ x, F a x * G a' x * w x ∂μ := by
  simp_rw [sum_mul_sum_mul_eq]
  exact integral_sum_sum_mul _ _ _ _ fun a ha a' ha' =>
    h a (Finset.mem_range.mp ha) a' (Finset.mem_range.mp ha')

end SumMulSum

/-! ## Products of two differentiated primitives with a monomial weight -/

/-- The factor along one axis of `∂^o g_a · ∂^{o'} g_b · (r - O)^p`: every separable integrand of the
library (overlap, moments, kinetic energy, momentum, angular momentum) is a product of three of these. -/
noncomputable def kw1 (a b A B O : ℝ) (i j k l p : ℕ) (x : ℝ) : ℝ :=
  (x - O)^p * (iteratedDeriv k (prim1 a A i) x * iteratedDeriv l (prim1 b B j) x)

/-- The integrand of `C01.table_entry_eq_integral`. -/
lemma kw1_moment (a b A B O : ℝ) (i j p : ℕ) (x : ℝ) :
    kw1 a b A B O i j 0 0 p x
      = (x - A)^i * (x - B)^j * (x - O)^p * (exp (-a * (x - A)^2) * exp (-b * (x - B)^2)) := by
  simp only [kw1, iteratedDeriv_zero, prim1]
  ring

/-- The integrand of `C02.table_entry_eq_integral`. -/
lemma kw1_deriv (a b A B O : ℝ) (i j l : ℕ) (x : ℝ) :
    kw1 a b A B O i j 0 l 0 x
      = (x - A)^i * exp (-a * (x - A)^2)
        * iteratedDeriv l (fun x => (x - B)^j * exp (-b * (x - B)^2)) x := by
  simp only [kw1, iteratedDeriv_zero, pow_zero, one_mul]
  rfl

lemma kw1_eq (a b A B O P : ℝ) (i j k l p : ℕ) (x : ℝ) :
    kw1 a b A B O i j k l p x
      = gaussPoly a A P ((X + C (P - O))^p * (Dtw a (P - A))^[k] ((X + C (P - A))^i)) x
        * gaussPoly b B P ((Dtw b (P - B))^[l] ((X + C (P - B))^j)) x := by
  unfold kw1 prim1
  rw [iteratedDeriv_prim a A P i k x, iteratedDeriv_prim b B P j l x]
  simp only [gaussPoly, eval_mul, eval_pow, eval_add, eval_X, eval_C, sub_add_sub_cancel]
  ring

lemma integrable_kw1 (a b A B O : ℝ) (ha : 0 < a) (hb : 0 < b) (i j k l p : ℕ) :
    Integrable (kw1 a b A B O i j k l p) :=
  (integrable_gaussPoly_mul a b A B ha hb _ _).congr
    (Filter.Eventually.of_forall fun x => (kw1_eq a b A B O _ i j k l p x).symm)

theorem integral_kw1 (a b A B O : ℝ) (ha : 0 < a) (hb : 0 < b) (i j k l p : ℕ) :
    ∫ x, kw1 a b A B O i j k l p x
      = √(π / (a + b)) * exp (-(a * b / (a + b) * ((A - B) * (A - B))))
        * G (a + b)
          ((X + C ((a * A + b * B) / (a + b) - O))^p
            * (Dtw a ((a * A + b * B) / (a + b) - A))^[k] ((X + C ((a * A + b * B) / (a + b) - A))^i)
            * (Dtw b ((a * A + b * B) / (a + b) - B))^[l]
                ((X + C ((a * A + b * B) / (a + b) - B))^j)) := by
  simp_rw [kw1_eq a b A B O ((a * A + b * B) / (a + b))]
  exact gauss_product_integral_poly a b A B ha hb _ _

/-- Integration by parts along an axis the weight does not depend on (`G_mul_Dtw`). -/
theorem kw1_ibp (a b A B O : ℝ) (ha : 0 < a) (hb : 0 < b) (i j k l : ℕ) :
    ∫ x, kw1 a b A B O i j k (l+1) 0 x = - ∫ x, kw1 a b A B O i j (k+1) l 0 x := by
  have hp : a + b ≠ 0 := (add_pos ha hb).ne'
  rw [integral_kw1 a b A B O ha hb, integral_kw1 a b A B O ha hb, pow_zero, one_mul, one_mul,
    Dtw_iterate_succ, Dtw_iterate_succ,
    G_mul_Dtw a b ((a * A + b * B) / (a + b) - A) ((a * A + b * B) / (a + b) - B) (a + b) hp rfl
      (by linear_combination mul_div_cancel₀ (a * A + b * B) hp), mul_neg]

lemma primW_eq (a b : ℝ) (A B O : ℕ → ℝ) (ca cb o o' p : Comp) (r : ℝ × ℝ × ℝ) :
    primDerivFn a A ca o r * primDerivFn b B cb o' r * monoFn O p r
      = kw1 a b (A 0) (B 0) (O 0) ca.1 cb.1 o.1 o'.1 p.1 r.1
        * (kw1 a b (A 1) (B 1) (O 1) ca.2.1 cb.2.1 o.2.1 o'.2.1 p.2.1 r.2.1
          * kw1 a b (A 2) (B 2) (O 2) ca.2.2 cb.2.2 o.2.2 o'.2.2 p.2.2 r.2.2) := by
  unfold primDerivFn monoFn kw1
  ring

lemma integrable_primW (a b : ℝ) (A B O : ℕ → ℝ) (ca cb o o' p : Comp) (ha : 0 < a) (hb : 0 < b) :
    Integrable (fun r : ℝ × ℝ × ℝ =>
      primDerivFn a A ca o r * primDerivFn b B cb o' r * monoFn O p r) := by
  simp_rw [primW_eq]
  exact integrable_prod3 (integrable_kw1 a b _ _ _ ha hb _ _ _ _ _)
    (integrable_kw1 a b _ _ _ ha hb _ _ _ _ _) (integrable_kw1 a b _ _ _ ha hb _ _ _ _ _)

theorem integral_primW (a b : ℝ) (A B O : ℕ → ℝ) (ca cb o o' p : Comp) :
    ∫ r : ℝ × ℝ × ℝ, primDerivFn a A ca o r * primDerivFn b B cb o' r * monoFn O p r
      = (∫ x, kw1 a b (A 0) (B 0) (O 0) ca.1 cb.1 o.1 o'.1 p.1 x)
        * (∫ x, kw1 a b (A 1) (B 1) (O 1) ca.2.1 cb.2.1 o.2.1 o'.2.1 p.2.1 x)
        * (∫ x, kw1 a b (A 2) (B 2) (O 2) ca.2.2 cb.2.2 o.2.2 o'.2.2 p.2.2 x) := by
  simp_rw [primW_eq]
  exact integral_prod3 _ _ _

/-- Integration by parts along the axis of the unit vector `e`, on which the weight does not depend. -/
theorem primW_ibp (a b : ℝ) (A B O : ℕ → ℝ) (ca cb o o' p e : Comp) (ha : 0 < a) (hb : 0 < b)
    (he : e = (1,0,0) ∧ p.1 = 0 ∨ e = (0,1,0) ∧ p.2.1 = 0 ∨ e = (0,0,1) ∧ p.2.2 = 0) :
    ∫ r : ℝ × ℝ × ℝ, primDerivFn a A ca o r * primDerivFn b B cb (o' + e) r * monoFn O p r
      = - ∫ r : ℝ × ℝ × ℝ, primDerivFn a A ca (o + e) r * primDerivFn b B cb o' r * monoFn O p r := by
  obtain ⟨px, py, pz⟩ := p
  rw [integral_primW, integral_primW]
  rcases he with ⟨rfl, hp⟩ | ⟨rfl, hp⟩ | ⟨rfl, hp⟩ <;>
  · subst hp
    simp only [Prod.fst_add, Prod.snd_add, add_zero]
    rw [kw1_ibp a b _ _ _ ha hb]
    ring

noncomputable def cN (s : Shell ℝ) (m c k : ℕ) : ℝ :=
  s.coef! k m * normPrim (s.exp! k) s.l (s.comp! c)

lemma integrable_shellW (s t : Shell ℝ) (O : ℕ → ℝ) (o o' p : Comp) (ma ca mb cb : ℕ)
    (hs : ∀ k < s.nprim, 0 < s.exp! k) (ht : ∀ k < t.nprim, 0 < t.exp! k) :
    Integrable (fun r : ℝ × ℝ × ℝ =>
      shellDerivFn s ma ca o r * shellDerivFn t mb cb o' r * monoFn O p r) :=
  integrable_sum_mul_sum_mul _ _ _ _ _ _ volume _ fun ka hka kb hkb =>
    integrable_primW _ _ _ _ _ _ _ _ _ _ (hs ka hka) (ht kb hkb)

lemma integral_shellW (s t : Shell ℝ) (O : ℕ → ℝ) (o o' p : Comp) (ma ca mb cb : ℕ)
    (hs : ∀ k < s.nprim, 0 < s.exp! k) (ht : ∀ k < t.nprim, 0 < t.exp! k) :
    ∫ r : ℝ × ℝ × ℝ, shellDerivFn s ma ca o r * shellDerivFn t mb cb o' r * monoFn O p r
      = ∑ ka ∈ Finset.range s.nprim, ∑ kb ∈ Finset.range t.nprim,
          (cN s ma ca ka * cN t mb cb kb)
            * ∫ r : ℝ × ℝ × ℝ, primDerivFn (s.exp! ka) s.ctr (s.comp! ca) o r
                * primDerivFn (t.exp! kb) t.ctr (t.comp! cb) o' r * monoFn O p r :=
  integral_sum_mul_sum_mul _ _ _ _ _ _ volume _ fun ka hka kb hkb =>
    integrable_primW _ _ _ _ _ _ _ _ _ _ (hs ka hka) (ht kb hkb)

theorem shellW_ibp (s t : Shell ℝ) (O : ℕ → ℝ) (o o' p e : Comp) (ma ca mb cb : ℕ)
    (hs : ∀ k < s.nprim, 0 < s.exp! k) (ht : ∀ k < t.nprim, 0 < t.exp! k)
    (he : e = (1,0,0) ∧ p.1 = 0 ∨ e = (0,1,0) ∧ p.2.1 = 0 ∨ e = (0,0,1) ∧ p.2.2 = 0) :
    ∫ r : ℝ × ℝ × ℝ, shellDerivFn s ma ca o r * shellDerivFn t mb cb (o' + e) r * monoFn O p r
      = - ∫ r : ℝ × ℝ × ℝ, shellDerivFn s ma ca (o + e) r * shellDerivFn t mb cb o' r
            * monoFn O p r := by
  rw [integral_shellW s t _ _ _ _ ma ca mb cb hs ht,
    integral_shellW s t _ _ _ _ ma ca mb cb hs ht, ← Finset.sum_neg_distrib]
  refine Finset.sum_congr rfl fun ka hka => ?_
  rw [← Finset.sum_neg_distrib]
  refine Finset.sum_congr rfl fun kb hkb => ?_
  rw [primW_ibp _ _ _ _ _ _ _ _ _ _ _ (hs ka (Finset.mem_range.mp hka))
    (ht kb (Finset.mem_range.mp hkb)) he, mul_neg]

/-! ## Moments -/

lemma integrable_prim_mul (a b : ℝ) (A B O : ℕ → ℝ) (ca cb o : Comp) (ha : 0 < a) (hb : 0 < b) :
    Integrable (fun r : ℝ × ℝ × ℝ => primFn a A ca r * primFn b B cb r * monoFn O o r) := by
  simpa only [primDerivFn_zero] using integrable_primW a b A B O ca cb (0,0,0) (0,0,0) o ha hb

/-- The three factors are spelled exactly like the right-hand side of
`C01.table_entry_eq_integral`, so that in `momentBlock_eq_integral_mono` the two rewrites meet
syntactically. -/
theorem prim_moment_integral (a b : ℝ) (A B O : ℕ → ℝ) (ca cb o : Comp) :
    ∫ r : ℝ × ℝ × ℝ, primFn a A ca r * primFn b B cb r
        * ((r.1 - O 0)^o.1 * (r.2.1 - O 1)^o.2.1 * (r.2.2 - O 2)^o.2.2)
      = (∫ x : ℝ, (x - A 0)^ca.1 * (x - B 0)^cb.1 * (x - O 0)^o.1
            * (exp (-a * (x - A 0)^2) * exp (-b * (x - B 0)^2)))
        * (∫ x : ℝ, (x - A 1)^ca.2.1 * (x - B 1)^cb.2.1 * (x - O 1)^o.2.1
            * (exp (-a * (x - A 1)^2) * exp (-b * (x - B 1)^2)))
        * (∫ x : ℝ, (x - A 2)^ca.2.2 * (x - B 2)^cb.2.2 * (x - O 2)^o.2.2
            * (exp (-a * (x - A 2)^2) * exp (-b * (x - B 2)^2))) := by
  have h := integral_primW a b A B O ca cb (0,0,0) (0,0,0) o
  simp only [primDerivFn_zero, kw1_moment] at h
  exact h

/-! ## Contracted blocks -/

lemma integrable_shell_mul (s t : Shell ℝ) (O : ℕ → ℝ) (o : Comp) (ma ca mb cb : ℕ)
    (hs : ∀ k < s.nprim, 0 < s.exp! k) (ht : ∀ k < t.nprim, 0 < t.exp! k) :
    Integrable (fun r : ℝ × ℝ × ℝ => shellFn s ma ca r * shellFn t mb cb r * monoFn O o r) :=
  integrable_sum_mul_sum_mul _ _ _ _ _ _ volume _ fun ka hka kb hkb =>
    integrable_prim_mul _ _ _ _ _ _ _ _ (hs ka hka) (ht kb hkb)

theorem momentBlock_eq_integral_mono (s t : Shell ℝ) (O : ℕ → ℝ) (orders : List Comp)
    (d ma ca mb cb : ℕ)
    (hs : ∀ k < s.nprim, 0 < s.exp! k) (ht : ∀ k < t.nprim, 0 < t.exp! k) :
    ((momentBlock s t O orders).get d).get4 ma ca mb cb
      = ∫ r : ℝ × ℝ × ℝ, shellFn s ma ca r * shellFn t mb cb r
          * monoFn O (orders.getD d (0,0,0)) r := by
  refine Eq.trans ?_ (integral_sum_mul_sum_mul _ _ _ _ _ _ volume _ fun ka hka kb hkb =>
    integrable_prim_mul _ _ _ _ _ _ _ _ (hs ka hka) (ht kb hkb)).symm
  simp only [momentBlock, blockTab, tab_get, tab4_get, contract, Shell.normTab, tab2_get, prod3,
    pairTabs, tab3_get]
  rw [sumN_eq_sum]
  refine Finset.sum_congr rfl fun ka hka => ?_
  rw [sumN_eq_sum]
  refine Finset.sum_congr rfl fun kb hkb => ?_
  have ha := hs ka (Finset.mem_range.mp hka)
  have hb := ht kb (Finset.mem_range.mp hkb)
  simp only [C01.table_entry_eq_integral s t O _ ka kb _ _ _ _ ha hb, monoFn, prim_moment_integral]

/-- The block `Moment.construct_array_contraction` returns, as an integral over ℝ³.  The two
factors are the functions `evalBlock` evaluates (`evalBlock_eq_shellFn`).  No index is bounded:
a `Tab` read out of range returns the value of its generating function (`tab_get`), and a position
`d` outside the list has the order `(0,0,0)`; the array of the library has no such entries. -/
theorem momentBlock_eq_integral (s t : Shell ℝ) (O : ℕ → ℝ) (orders : List Comp)
    (d ma ca mb cb : ℕ)
    (hs : ∀ k < s.nprim, 0 < s.exp! k) (ht : ∀ k < t.nprim, 0 < t.exp! k) :
    ((momentBlock s t O orders).get d).get4 ma ca mb cb
      = ∫ r : ℝ × ℝ × ℝ, shellFn s ma ca r * shellFn t mb cb r
          * ((r.1 - O 0)^(orders.getD d (0,0,0)).1 * (r.2.1 - O 1)^(orders.getD d (0,0,0)).2.1
              * (r.2.2 - O 2)^(orders.getD d (0,0,0)).2.2) :=
  momentBlock_eq_integral_mono s t O orders d ma ca mb cb hs ht

theorem overlapBlock_eq_integral (s t : Shell ℝ) (ma ca mb cb : ℕ)
    (hs : ∀ k < s.nprim, 0 < s.exp! k) (ht : ∀ k < t.nprim, 0 < t.exp! k) :
    (overlapBlock s t).get4 ma ca mb cb
      = ∫ r : ℝ × ℝ × ℝ, shellFn s ma ca r * shellFn t mb cb r := by
  unfold overlapBlock
  rw [momentBlock_eq_integral_mono s t _ _ 0 ma ca mb cb hs ht]
  simp [monoFn]

/-- What allows `BaseTwoIndexSymmetric` to fill the lower triangle with the transposed block
of `(s, t)` instead of computing the block of `(t, s)`. -/
theorem overlapBlock_symm (s t : Shell ℝ) (ma ca mb cb : ℕ)
    (hs : ∀ k < s.nprim, 0 < s.exp! k) (ht : ∀ k < t.nprim, 0 < t.exp! k) :
    (overlapBlock s t).get4 ma ca mb cb = (overlapBlock t s).get4 mb cb ma ca := by
  rw [overlapBlock_eq_integral s t ma ca mb cb hs ht, overlapBlock_eq_integral t s mb cb ma ca ht hs]
  simp_rw [mul_comm]

/-! ## Self-overlap: non-negative, and positive for a non-zero function -/

lemma continuous_primFn (α : ℝ) (A : ℕ → ℝ) (c : Comp) : Continuous (primFn α A c) := by
  unfold primFn; fun_prop

lemma continuous_shellFn (s : Shell ℝ) (m c : ℕ) : Continuous (shellFn s m c) := by
  unfold shellFn
  exact continuous_finsetSum _ fun k _ => (continuous_primFn _ _ _).const_mul _

lemma integrable_shellFn_mul (s t : Shell ℝ) (ma ca mb cb : ℕ)
    (hs : ∀ k < s.nprim, 0 < s.exp! k) (ht : ∀ k < t.nprim, 0 < t.exp! k) :
    Integrable (fun r : ℝ × ℝ × ℝ => shellFn s ma ca r * shellFn t mb cb r) := by
  simpa [monoFn] using integrable_shell_mul s t (fun _ => 0) (0,0,0) ma ca mb cb hs ht

theorem selfOverlap_nonneg (s : Shell ℝ) (m c : ℕ) (hs : ∀ k < s.nprim, 0 < s.exp! k) :
    0 ≤ (overlapBlock s s).get4 m c m c := by
  rw [overlapBlock_eq_integral s s m c m c hs hs]
  exact integral_nonneg fun r => mul_self_nonneg _

/-- Discharges the hypothesis `hpos` of `C01.cart_diag_one`.  The contracted function is
continuous, so it is non-zero on an open set around `r₀`, which has positive measure. -/
theorem selfOverlap_pos (s : Shell ℝ) (m c : ℕ) (hs : ∀ k < s.nprim, 0 < s.exp! k)
    (r₀ : ℝ × ℝ × ℝ) (h0 : shellFn s m c r₀ ≠ 0) :
    0 < (overlapBlock s s).get4 m c m c := by
  rw [overlapBlock_eq_integral s s m c m c hs hs,
    integral_pos_iff_support_of_nonneg (fun r => mul_self_nonneg _)
      (integrable_shellFn_mul s s m c m c hs hs)]
  have hc : Continuous fun r : ℝ × ℝ × ℝ => shellFn s m c r * shellFn s m c r :=
    (continuous_shellFn s m c).mul (continuous_shellFn s m c)
  refine hc.isOpen_support.measure_pos volume ⟨r₀, ?_⟩
  simp [Function.mem_support, h0]

/-! ## Differential-operator blocks (kinetic energy, momentum) -/

lemma integrable_prim_mul_deriv (a b : ℝ) (A B : ℕ → ℝ) (ca cb o : Comp) (ha : 0 < a) (hb : 0 < b) :
    Integrable (fun r : ℝ × ℝ × ℝ => primFn a A ca r * primDerivFn b B cb o r) := by
  simpa only [primDerivFn_zero, monoFn, pow_zero, mul_one]
    using integrable_primW a b A B (fun _ => 0) ca cb (0,0,0) o (0,0,0) ha hb

theorem prim_deriv_integral (a b : ℝ) (A B : ℕ → ℝ) (ca cb o : Comp) :
    ∫ r : ℝ × ℝ × ℝ, primFn a A ca r * primDerivFn b B cb o r
      = (∫ x, kw1 a b (A 0) (B 0) 0 ca.1 cb.1 0 o.1 0 x)
        * (∫ x, kw1 a b (A 1) (B 1) 0 ca.2.1 cb.2.1 0 o.2.1 0 x)
        * (∫ x, kw1 a b (A 2) (B 2) 0 ca.2.2 cb.2.2 0 o.2.2 0 x) := by
  simpa only [primDerivFn_zero, monoFn, pow_zero, mul_one]
    using integral_primW a b A B (fun _ => 0) ca cb (0,0,0) o (0,0,0)

lemma integrable_shell_mul_deriv (s t : Shell ℝ) (o : Comp) (ma ca mb cb : ℕ)
    (hs : ∀ k < s.nprim, 0 < s.exp! k) (ht : ∀ k < t.nprim, 0 < t.exp! k) :
    Integrable (fun r : ℝ × ℝ × ℝ => shellFn s ma ca r * shellDerivFn t mb cb o r) :=
  integrable_sum_mul_sum _ _ _ _ _ _ volume fun ka hka kb hkb =>
    integrable_prim_mul_deriv _ _ _ _ _ _ _ (hs ka hka) (ht kb hkb)

/-- `diffBlock` and `momentBlock` size their one-dimensional tables by this `foldl` of `max` over
the order list; it dominates every entry, which is what `C02.table_entry_eq_integral` asks (`k ≤ dmax`). -/
lemma le_foldl_max (f : Comp → ℕ) (l : List Comp) :
    ∀ init : ℕ, init ≤ l.foldl (fun m o => max m (f o)) init
      ∧ ∀ o ∈ l, f o ≤ l.foldl (fun m o => max m (f o)) init := by
  induction l with
  | nil => intro init; simp
  | cons x xs ih =>
    intro init
    simp only [List.foldl_cons, List.mem_cons, forall_eq_or_imp]
    have h := ih (max init (f x))
    refine ⟨le_trans (le_max_left _ _) h.1, le_trans (le_max_right _ _) h.1, h.2⟩

lemma getD_le_foldl_max (orders : List Comp) (d : ℕ) :
    max (orders.getD d (0,0,0)).1 (max (orders.getD d (0,0,0)).2.1 (orders.getD d (0,0,0)).2.2)
      ≤ orders.foldl (fun m o => max m (max o.1 (max o.2.1 o.2.2))) 0 := by
  by_cases hd : d < orders.length
  · have hm : orders.getD d (0,0,0) ∈ orders := by
      rw [List.getD_eq_getElem?_getD, List.getElem?_eq_getElem hd]; exact List.getElem_mem hd
    exact (le_foldl_max (fun o => max o.1 (max o.2.1 o.2.2)) orders 0).2 _ hm
  · rw [List.getD_eq_getElem?_getD, List.getElem?_eq_none (not_lt.mp hd)]
    exact Nat.zero_le _

/-- The block of `_compute_differential_operator_integrals`, as an integral over ℝ³.  `hc`: the
left component has no exponent above the shell's angular momentum — true of every component of a
shell of the library; the padded one-dimensional tables are right only for left indices `i ≤ s.l`
(`C02.table_entry_eq_integral`).  The right component is unrestricted. -/
theorem diffBlock_eq_integral (s t : Shell ℝ) (orders : List Comp) (d ma ca mb cb : ℕ)
    (hs : ∀ k < s.nprim, 0 < s.exp! k) (ht : ∀ k < t.nprim, 0 < t.exp! k)
    (hc : (s.comp! ca).1 ≤ s.l ∧ (s.comp! ca).2.1 ≤ s.l ∧ (s.comp! ca).2.2 ≤ s.l) :
    ((diffBlock s t orders).get d).get4 ma ca mb cb
      = ∫ r : ℝ × ℝ × ℝ, shellFn s ma ca r
          * shellDerivFn t mb cb (orders.getD d (0,0,0)) r := by
  refine Eq.trans ?_ (integral_sum_mul_sum _ _ _ _ _ _ volume fun ka hka kb hkb =>
    integrable_prim_mul_deriv _ _ _ _ _ _ _ (hs ka hka) (ht kb hkb)).symm
  simp only [diffBlock, blockTab, tab_get, tab4_get, contract, Shell.normTab, tab2_get, prod3,
    pairTabs, tab3_get]
  obtain ⟨hx, hy, hz⟩ : _ ∧ _ ∧ _ := by
    simpa only [max_le_iff] using getD_le_foldl_max orders d
  rw [sumN_eq_sum]
  refine Finset.sum_congr rfl fun ka hka => ?_
  rw [sumN_eq_sum]
  refine Finset.sum_congr rfl fun kb hkb => ?_
  have ha := hs ka (Finset.mem_range.mp hka)
  have hb := ht kb (Finset.mem_range.mp hkb)
  rw [C02.table_entry_eq_integral s t _ ka kb 0 _ _ _ ha hb hx hc.1,
    C02.table_entry_eq_integral s t _ ka kb 1 _ _ _ ha hb hy hc.2.1,
    C02.table_entry_eq_integral s t _ ka kb 2 _ _ _ ha hb hz hc.2.2,
    prim_deriv_integral]
  simp only [kw1_deriv]

/-- C02 for the contracted block of `KineticEnergyIntegral.construct_array_contraction`: `-½ ∫ g_a ∇² g_b`. -/
theorem kineticBlock_eq_integral (s t : Shell ℝ) (ma ca mb cb : ℕ)
    (hs : ∀ k < s.nprim, 0 < s.exp! k) (ht : ∀ k < t.nprim, 0 < t.exp! k)
    (hc : (s.comp! ca).1 ≤ s.l ∧ (s.comp! ca).2.1 ≤ s.l ∧ (s.comp! ca).2.2 ≤ s.l) :
    (kineticBlock s t).get4 ma ca mb cb
      = ∫ r : ℝ × ℝ × ℝ, shellFn s ma ca r
          * (-(1/2) * (shellDerivFn t mb cb (2,0,0) r + shellDerivFn t mb cb (0,2,0) r
              + shellDerivFn t mb cb (0,0,2) r)) := by
  have e : ∀ r : ℝ × ℝ × ℝ, shellFn s ma ca r
          * (-(1/2) * (shellDerivFn t mb cb (2,0,0) r + shellDerivFn t mb cb (0,2,0) r
              + shellDerivFn t mb cb (0,0,2) r))
      = -(1/2) * (shellFn s ma ca r * shellDerivFn t mb cb (2,0,0) r
          + shellFn s ma ca r * shellDerivFn t mb cb (0,2,0) r
          + shellFn s ma ca r * shellDerivFn t mb cb (0,0,2) r) := fun r => by ring
  simp_rw [e]
  rw [integral_const_mul, integral_add, integral_add]
  · simp only [kineticBlock, blockTab, tab4_get]
    rw [diffBlock_eq_integral s t _ 0 ma ca mb cb hs ht hc,
      diffBlock_eq_integral s t _ 1 ma ca mb cb hs ht hc,
      diffBlock_eq_integral s t _ 2 ma ca mb cb hs ht hc]
    simp
  · exact integrable_shell_mul_deriv s t _ ma ca mb cb hs ht
  · exact integrable_shell_mul_deriv s t _ ma ca mb cb hs ht
  · exact (integrable_shell_mul_deriv s t _ ma ca mb cb hs ht).add
      (integrable_shell_mul_deriv s t _ ma ca mb cb hs ht)
  · exact integrable_shell_mul_deriv s t _ ma ca mb cb hs ht

/-! ## The derivative evaluations of the model are the `∂^o` in the integrals above -/

lemma axisGeneral_eq_prim1 (α A x : ℝ) (hα : 0 ≤ α) (a n : ℕ) :
    axisGeneral α (x - A) a n = iteratedDeriv n (prim1 α A a) x := by
  rw [axisGeneral_eq_iteratedDeriv α _ hα]
  have e : prim1 α A a
      = fun z => (fun y : ℝ => y ^ a * Real.exp (-(α * (y * y)))) (z - A) := by
    funext z
    simp only [prim1]
    congr 2
    ring
  rw [e, iteratedDeriv_comp_sub_const n (fun y : ℝ => y ^ a * Real.exp (-(α * (y * y)))) A]

/-- Ties the integrands of `diffBlock_eq_integral` and `kineticBlock_eq_integral` to what the
`"general"` back-end of `EvalDeriv.construct_array_contraction` returns at the point `r`. -/
theorem evalBlock_general_eq_shellDerivFn (s : Shell ℝ) (o : Comp) (pts : Array (ℕ → ℝ))
    (m c p : ℕ) (r : ℝ × ℝ × ℝ) (hs : ∀ k < s.nprim, 0 < s.exp! k)
    (hp : p < pts.size) (h0 : pts[p] 0 = r.1) (h1 : pts[p] 1 = r.2.1) (h2 : pts[p] 2 = r.2.2) :
    (evalBlock s .general o pts).get3 m c p = shellDerivFn s m c o r := by
  have hg : pts.getD p (fun _ => Num.nat 0) = pts[p] := by
    simp [Array.getD, hp]
  simp only [evalBlock, tab3_get, tab4_get, Shell.normTab, tab2_get, Comp.ax, hg, h0, h1, h2]
  rw [sumN_eq_sum]
  unfold shellDerivFn primDerivFn
  refine Finset.sum_congr rfl fun k hk => ?_
  have hk' := (hs k (Finset.mem_range.mp hk)).le
  rw [axisGeneral_eq_prim1 _ _ _ hk', axisGeneral_eq_prim1 _ _ _ hk',
    axisGeneral_eq_prim1 _ _ _ hk']
  ring


end GB
