import GBProofs.ArrayMotion2

/-!
# Rigid-motion covariance of the density-type evaluations (C12, grid quantities)

`g : E3 ≃ᵃⁱ[ℝ] E3` is an arbitrary rigid motion (translation, proper or improper rotation and their
compositions), `R = g.linearIsometryEquiv` its linear part, `M = matOf (linPart g)` the matrix of `R`,
`b` a movable basis (`Basis.Movable`: every shell has positive exponents and a full Cartesian component
list, a spherical shell moreover `l ≤ 10` and an accepted spherical order),
`U = basisRep b (linPart g)` the block-diagonal representation matrix of the basis,
`γ'` the density matrix used with the moved basis and `γ = Uᵀ γ' U` (`CongrBy b.total U γ γ'`) the one
used with the original basis.

One mechanism serves all quantities.  Pairs of operators compatible with the motion (`Compat`: the
identity, `dirD (R v)` with `dirD v`, compositions) carry the relation `χ'_r ∘ g = Σ_r' U_rr' χ_r'`
between moved and original basis functions to their derivatives, and `biFn_moved` contracts two such
families with the congruent density matrices.  This gives the vector statements
(`Dρ'(g x)(R v) = Dρ(x)(v)`, `D²ρ'(g x)(R u, R v) = D²ρ(x)(u, v)`, the stress tensor as a bilinear
form `stressE`); `comp_of_moved_vec`, `Bilin2.comp_of_moved`, `Bilin2.trace_of_moved` turn them into
statements about components and traces.  The forms of the model (`formVal`: `Form.evalA pd …` of
`FormsProofs` / `SmoothInstance` for the basis functions) are identified with these quantities by the
`evalB_*` lemmas.  From the gradient on they are the forms of a symmetric density matrix (the Hessian
form uses `D(e_min; e_max)`, which is a tensor only for symmetric `γ`), hence the hypothesis on `γ'`.
For a motion with trivial linear part `U = 1`, the density matrix is the same and every form is
invariant, for arbitrary `γ` (`formVal_moved_of_linear_eq_id`).
-/
open Finset
open scoped ContDiff

namespace GB

noncomputable section

/-! ## 1. Algebra: congruence of the density matrix -/

def biE (n : ℕ) (γ : ℕ → ℕ → ℝ) (A B : ℕ → ℝ) : ℝ :=
  ∑ r ∈ range n, ∑ c ∈ range n, γ r c * A r * B c

def CongrBy (n : ℕ) (U γ γ' : ℕ → ℕ → ℝ) : Prop :=
  ∀ r' < n, ∀ c' < n, γ r' c' = ∑ r ∈ range n, ∑ c ∈ range n, U r r' * U c c' * γ' r c

theorem sum4_swap (n : ℕ) (F : ℕ → ℕ → ℕ → ℕ → ℝ) :
    ∑ r ∈ range n, ∑ c ∈ range n, ∑ r' ∈ range n, ∑ c' ∈ range n, F r c r' c'
      = ∑ r' ∈ range n, ∑ c' ∈ range n, ∑ r ∈ range n, ∑ c ∈ range n, F r c r' c' := by
  calc ∑ r ∈ range n, ∑ c ∈ range n, ∑ r' ∈ range n, ∑ c' ∈ range n, F r c r' c'
      = ∑ r ∈ range n, ∑ r' ∈ range n, ∑ c ∈ range n, ∑ c' ∈ range n, F r c r' c' :=
        sum_congr rfl fun r _ => sum_comm
    _ = ∑ r' ∈ range n, ∑ r ∈ range n, ∑ c ∈ range n, ∑ c' ∈ range n, F r c r' c' := sum_comm
    _ = ∑ r' ∈ range n, ∑ r ∈ range n, ∑ c' ∈ range n, ∑ c ∈ range n, F r c r' c' :=
        sum_congr rfl fun r' _ => sum_congr rfl fun r _ => sum_comm
    _ = _ := sum_congr rfl fun r' _ => sum_comm

theorem biE_transform (n : ℕ) (U γ γ' : ℕ → ℕ → ℝ) (A B A' B' : ℕ → ℝ) (hγ : CongrBy n U γ γ')
    (hA : ∀ r < n, A' r = ∑ r' ∈ range n, U r r' * A r')
    (hB : ∀ c < n, B' c = ∑ c' ∈ range n, U c c' * B c') :
    biE n γ' A' B' = biE n γ A B := by
  unfold biE
  have hL : ∑ r ∈ range n, ∑ c ∈ range n, γ' r c * A' r * B' c
      = ∑ r ∈ range n, ∑ c ∈ range n, ∑ r' ∈ range n, ∑ c' ∈ range n,
          U r r' * U c c' * γ' r c * (A r' * B c') := by
    refine sum_congr rfl fun r hr => sum_congr rfl fun c hc => ?_
    rw [hA r (mem_range.mp hr), hB c (mem_range.mp hc), mul_assoc, sum_mul_sum, mul_sum]
    refine sum_congr rfl fun r' _ => ?_
    rw [mul_sum]
    exact sum_congr rfl fun c' _ => by ring
  have hR : ∑ r' ∈ range n, ∑ c' ∈ range n, γ r' c' * A r' * B c'
      = ∑ r' ∈ range n, ∑ c' ∈ range n, ∑ r ∈ range n, ∑ c ∈ range n,
          U r r' * U c c' * γ' r c * (A r' * B c') := by
    refine sum_congr rfl fun r' hr' => sum_congr rfl fun c' hc' => ?_
    rw [hγ r' (mem_range.mp hr') c' (mem_range.mp hc'), mul_assoc, sum_mul]
    refine sum_congr rfl fun r _ => ?_
    rw [sum_mul]
  rw [hL, hR, sum4_swap]

theorem CongrBy.symm_of_symm {n : ℕ} {U γ γ' : ℕ → ℕ → ℝ} (h : CongrBy n U γ γ')
    (hs : ∀ r < n, ∀ c < n, γ' r c = γ' c r) : ∀ r < n, ∀ c < n, γ r c = γ c r := by
  intro r hr c hc
  rw [h r hr c hc, h c hc r hr, sum_comm]
  refine sum_congr rfl fun a ha => sum_congr rfl fun d hd => ?_
  rw [hs d (mem_range.mp hd) a (mem_range.mp ha)]
  ring

theorem CongrBy.of_one {n : ℕ} {U : ℕ → ℕ → ℝ} (γ : ℕ → ℕ → ℝ)
    (hU : ∀ r < n, ∀ r' < n, U r r' = if r = r' then 1 else 0) : CongrBy n U γ γ := by
  intro r' hr' c' hc'
  have e : ∀ r ∈ range n, ∑ c ∈ range n, U r r' * U c c' * γ r c
      = if r = r' then γ r c' else 0 := by
    intro r hr
    rw [sum_eq_single c']
    · rw [hU r (mem_range.mp hr) r' hr', hU c' hc' c' hc', if_pos rfl]
      by_cases h : r = r' <;> simp [h]
    · intro c hc hne
      rw [hU c (mem_range.mp hc) c' hc', if_neg hne]; ring
    · intro h; exact absurd (mem_range.mpr hc') h
  rw [sum_congr rfl e, sum_ite_eq' (range n) r' fun r => γ r c', if_pos (mem_range.mpr hr')]

/-! ## 2. The density and its invariance -/

/-- `basisFnE b r` is basis function `r` of the assembled arrays, contraction norms and the
Cartesian → spherical transformation included. -/
def rhoE (b : Basis ℝ) (γ : ℕ → ℕ → ℝ) (x : E3) : ℝ :=
  ∑ r ∈ range b.total, ∑ c ∈ range b.total, γ r c * basisFnE b r x * basisFnE b c x

theorem rhoE_eq_biE (b : Basis ℝ) (γ : ℕ → ℕ → ℝ) (x : E3) :
    rhoE b γ x = biE b.total γ (fun r => basisFnE b r x) (fun c => basisFnE b c x) := rfl

theorem rho_moved (g : E3 ≃ᵃⁱ[ℝ] E3) (b : Basis ℝ) (hb : b.Movable) (γ γ' : ℕ → ℕ → ℝ)
    (hγ : CongrBy b.total (basisRep b (linPart g)) γ γ') (x : E3) :
    rhoE (b.moved g) γ' (g x) = rhoE b γ x := by
  rw [rhoE_eq_biE, rhoE_eq_biE, Basis.moved_total]
  exact biE_transform b.total _ γ γ' _ _ _ _ hγ (fun r hr => basisFnE_moved g b hb r hr x)
    (fun c hc => basisFnE_moved g b hb c hc x)

/-! ## 3. Smoothness; directional derivatives; operators compatible with the motion -/

theorem contDiff_basisFnE (b : Basis ℝ) (r : ℕ) : ContDiff ℝ ∞ (basisFnE b r) := by
  unfold basisFnE basisLin
  exact ContDiff.sum fun a _ => contDiff_const.mul (contDiff_shellFnE _ _ _)

theorem contDiff_rhoE (b : Basis ℝ) (γ : ℕ → ℕ → ℝ) : ContDiff ℝ ∞ (rhoE b γ) := by
  unfold rhoE
  exact ContDiff.sum fun r _ => ContDiff.sum fun c _ =>
    (contDiff_const.mul (contDiff_basisFnE b r)).mul (contDiff_basisFnE b c)

/-- The relation is asked for linear combinations `ψ ∘ g = Σ_j D_j φ_j`, not for single functions,
because a moved basis function is such a combination of the original ones (`basisFnE_moved`).
Preservation of smoothness is part of the notion so that pairs compose (`Compat.comp`): the
derivative rule behind `Compat.dirD` needs differentiable arguments. -/
def Compat (g : E3 ≃ᵃⁱ[ℝ] E3) (P' P : (E3 → ℝ) → E3 → ℝ) : Prop :=
  (∀ f, ContDiff ℝ ∞ f → ContDiff ℝ ∞ (P' f)) ∧ (∀ f, ContDiff ℝ ∞ f → ContDiff ℝ ∞ (P f)) ∧
    ∀ (S : Finset ℕ) (ψ : E3 → ℝ) (φ : ℕ → E3 → ℝ) (D : ℕ → ℝ), ContDiff ℝ ∞ ψ →
      (∀ j, ContDiff ℝ ∞ (φ j)) → (∀ x, ψ (g x) = ∑ j ∈ S, D j * φ j x) →
      ∀ x, P' ψ (g x) = ∑ j ∈ S, D j * P (φ j) x

theorem Compat.id (g : E3 ≃ᵃⁱ[ℝ] E3) : Compat g (fun f => f) (fun f => f) :=
  ⟨fun _ h => h, fun _ h => h, fun _ _ _ _ _ _ h => h⟩

theorem Compat.dirD (g : E3 ≃ᵃⁱ[ℝ] E3) (v : E3) :
    Compat g (dirD (g.linearIsometryEquiv v)) (dirD v) := by
  refine ⟨fun f hf => contDiff_dirD hf _, fun f hf => contDiff_dirD hf _, ?_⟩
  intro S ψ φ D hψ hφ h x
  have h1 := fderiv_comp_moved g S ψ φ D h (smooth_diff hψ) (fun j => smooth_diff (hφ j)) x
  have h2 := congrArg (fun L : E3 →L[ℝ] ℝ => L v) h1
  simp only [ContinuousLinearMap.comp_apply, _root_.sum_apply, _root_.smul_apply,
    smul_eq_mul] at h2
  exact h2

theorem Compat.comp {g : E3 ≃ᵃⁱ[ℝ] E3} {P' P Q' Q : (E3 → ℝ) → E3 → ℝ} (hP : Compat g P' P)
    (hQ : Compat g Q' Q) : Compat g (fun f => P' (Q' f)) (fun f => P (Q f)) := by
  refine ⟨fun f hf => hP.1 _ (hQ.1 f hf), fun f hf => hP.2.1 _ (hQ.2.1 f hf), ?_⟩
  intro S ψ φ D hψ hφ h x
  exact hP.2.2 S (Q' ψ) (fun j => Q (φ j)) D (hQ.1 ψ hψ) (fun j => hQ.2.1 _ (hφ j))
    (hQ.2.2 S ψ φ D hψ hφ h) x

theorem Compat.apply_single {g : E3 ≃ᵃⁱ[ℝ] E3} {P' P : (E3 → ℝ) → E3 → ℝ} (hP : Compat g P' P)
    {F f : E3 → ℝ} (hF : ContDiff ℝ ∞ F) (hf : ContDiff ℝ ∞ f) (h : ∀ x, F (g x) = f x) (x : E3) :
    P' F (g x) = P f x := by
  have := hP.2.2 {0} F (fun _ => f) (fun _ => 1) hF (fun _ => hf) (fun x => by simp [h x]) x
  simpa using this

def biFn (b : Basis ℝ) (γ : ℕ → ℕ → ℝ) (P Q : (E3 → ℝ) → E3 → ℝ) (x : E3) : ℝ :=
  biE b.total γ (fun r => P (basisFnE b r) x) (fun c => Q (basisFnE b c) x)

theorem rhoE_eq_biFn (b : Basis ℝ) (γ : ℕ → ℕ → ℝ) :
    rhoE b γ = biFn b γ (fun f => f) (fun f => f) := rfl

theorem biFn_moved (g : E3 ≃ᵃⁱ[ℝ] E3) (b : Basis ℝ) (hb : b.Movable) (γ γ' : ℕ → ℕ → ℝ)
    (hγ : CongrBy b.total (basisRep b (linPart g)) γ γ') {P' P Q' Q : (E3 → ℝ) → E3 → ℝ}
    (hP : Compat g P' P) (hQ : Compat g Q' Q) (x : E3) :
    biFn (b.moved g) γ' P' Q' (g x) = biFn b γ P Q x := by
  unfold biFn
  rw [Basis.moved_total]
  refine biE_transform b.total _ γ γ' _ _ _ _ hγ (fun r hr => ?_) (fun c hc => ?_)
  · exact hP.2.2 (range b.total) _ (fun r' => basisFnE b r') _ (contDiff_basisFnE _ _)
      (fun _ => contDiff_basisFnE _ _) (fun y => basisFnE_moved g b hb r hr y) x
  · exact hQ.2.2 (range b.total) _ (fun r' => basisFnE b r') _ (contDiff_basisFnE _ _)
      (fun _ => contDiff_basisFnE _ _) (fun y => basisFnE_moved g b hb c hc y) x

/-! ## 4. Gradient and Hessian of the density: vector form -/

theorem gradient_moved (g : E3 ≃ᵃⁱ[ℝ] E3) (b : Basis ℝ) (hb : b.Movable) (γ γ' : ℕ → ℕ → ℝ)
    (hγ : CongrBy b.total (basisRep b (linPart g)) γ γ') (x v : E3) :
    fderiv ℝ (rhoE (b.moved g) γ') (g x) (g.linearIsometryEquiv v) = fderiv ℝ (rhoE b γ) x v :=
  (Compat.dirD g v).apply_single (contDiff_rhoE _ _) (contDiff_rhoE _ _)
    (rho_moved g b hb γ γ' hγ) x

theorem hessian_moved (g : E3 ≃ᵃⁱ[ℝ] E3) (b : Basis ℝ) (hb : b.Movable) (γ γ' : ℕ → ℕ → ℝ)
    (hγ : CongrBy b.total (basisRep b (linPart g)) γ γ') (x u v : E3) :
    fderiv ℝ (fderiv ℝ (rhoE (b.moved g) γ')) (g x) (g.linearIsometryEquiv u)
        (g.linearIsometryEquiv v)
      = fderiv ℝ (fderiv ℝ (rhoE b γ)) x u v := by
  rw [← dirD_dirD_apply (contDiff_rhoE _ _), ← dirD_dirD_apply (contDiff_rhoE _ _)]
  exact ((Compat.dirD g u).comp (Compat.dirD g v)).apply_single (contDiff_rhoE _ _)
    (contDiff_rhoE _ _) (rho_moved g b hb γ γ' hγ) x

/-! ## 5. Bilinear forms on `E3`: components and traces under a linear isometry -/

def Bilin2 (B : E3 → E3 → ℝ) : Prop := ∃ T : E3 →L[ℝ] E3 →L[ℝ] ℝ, ∀ u v, B u v = T u v

theorem Bilin2.expand {B : E3 → E3 → ℝ} (h : Bilin2 B) (u v : E3) :
    B u v = ∑ k : Fin 3, ∑ l : Fin 3, u k * v l * B (ei k) (ei l) := by
  obtain ⟨T, hT⟩ := h
  simp only [hT]
  rw [clm_expand (T u) v]
  have e : ∀ l : Fin 3, T u (ei l) = ∑ k : Fin 3, u k * T (ei k) (ei l) := fun l =>
    clm_expand (T.flip (ei l)) u
  simp only [e, mul_sum]
  rw [sum_comm]
  exact sum_congr rfl fun k _ => sum_congr rfl fun l _ => by ring

theorem Bilin2.add {B C : E3 → E3 → ℝ} (hB : Bilin2 B) (hC : Bilin2 C) :
    Bilin2 fun u v => B u v + C u v := by
  obtain ⟨T, hT⟩ := hB
  obtain ⟨S, hS⟩ := hC
  exact ⟨T + S, fun u v => by simp [hT, hS]⟩

theorem Bilin2.sub {B C : E3 → E3 → ℝ} (hB : Bilin2 B) (hC : Bilin2 C) :
    Bilin2 fun u v => B u v - C u v := by
  obtain ⟨T, hT⟩ := hB
  obtain ⟨S, hS⟩ := hC
  exact ⟨T - S, fun u v => by simp [hT, hS]⟩

theorem Bilin2.const_mul {B : E3 → E3 → ℝ} (hB : Bilin2 B) (a : ℝ) :
    Bilin2 fun u v => a * B u v := by
  obtain ⟨T, hT⟩ := hB
  exact ⟨a • T, fun u v => by simp [hT]⟩

theorem Bilin2.mul_const {B : E3 → E3 → ℝ} (hB : Bilin2 B) (a : ℝ) :
    Bilin2 fun u v => B u v * a := by
  obtain ⟨T, hT⟩ := hB
  exact ⟨a • T, fun u v => by simp [hT, mul_comm]⟩

theorem Bilin2.swap {B : E3 → E3 → ℝ} (hB : Bilin2 B) : Bilin2 fun u v => B v u := by
  obtain ⟨T, hT⟩ := hB
  exact ⟨T.flip, fun u v => by simp [hT]⟩

theorem Bilin2.inner : Bilin2 fun u v : E3 => inner ℝ u v :=
  ⟨innerSL ℝ, fun u v => (innerSL_apply_apply ℝ u v).symm⟩

theorem Bilin2.sum {κ : Type*} (S : Finset κ) {B : κ → E3 → E3 → ℝ} (hB : ∀ j ∈ S, Bilin2 (B j)) :
    Bilin2 fun u v => ∑ j ∈ S, B j u v := by
  classical
  induction S using Finset.induction_on with
  | empty => exact ⟨0, fun u v => by simp⟩
  | insert a S ha ih =>
    have h1 := hB a (mem_insert_self a S)
    have h2 := ih fun j hj => hB j (mem_insert_of_mem hj)
    have := h1.add h2
    simpa only [sum_insert ha] using this

theorem Bilin2.comp_of_moved (g : E3 ≃ᵃⁱ[ℝ] E3) {B' B : E3 → E3 → ℝ} (hB : Bilin2 B)
    (h : ∀ u v, B' (g.linearIsometryEquiv u) (g.linearIsometryEquiv v) = B u v) (i j : Fin 3) :
    B' (ei i) (ei j)
      = ∑ k : Fin 3, ∑ l : Fin 3, matOf (linPart g) i k * matOf (linPart g) j l * B (ei k) (ei l) := by
  have h1 := h (g.linearIsometryEquiv.symm (ei i)) (g.linearIsometryEquiv.symm (ei j))
  rw [LinearIsometryEquiv.apply_symm_apply, LinearIsometryEquiv.apply_symm_apply] at h1
  rw [h1, hB.expand]
  simp only [symm_ei_apply]

theorem matOf_col_contract (g : E3 ≃ᵃⁱ[ℝ] E3) (Y : Fin 3 → Fin 3 → ℝ) :
    ∑ j : Fin 3, ∑ n : Fin 3, ∑ l : Fin 3, matOf (linPart g) j n * matOf (linPart g) j l * Y n l
      = ∑ l : Fin 3, Y l l := by
  rw [sum_comm]
  refine sum_congr rfl fun n _ => ?_
  rw [sum_comm]
  simp only [← sum_mul, linPart, matOf_orthogonal_col g.linearIsometryEquiv n, ite_mul, one_mul,
    zero_mul, sum_ite_eq, mem_univ, if_true]

theorem Bilin2.trace_of_moved (g : E3 ≃ᵃⁱ[ℝ] E3) {B' B : E3 → E3 → ℝ} (hB : Bilin2 B)
    (h : ∀ u v, B' (g.linearIsometryEquiv u) (g.linearIsometryEquiv v) = B u v) :
    ∑ i : Fin 3, B' (ei i) (ei i) = ∑ k : Fin 3, B (ei k) (ei k) := by
  simp only [hB.comp_of_moved g h]
  exact matOf_col_contract g fun k l => B (ei k) (ei l)

theorem comp_of_moved_vec (g : E3 ≃ᵃⁱ[ℝ] E3) (L' L : E3 →L[ℝ] ℝ)
    (h : ∀ v, L' (g.linearIsometryEquiv v) = L v) (i : Fin 3) :
    L' (ei i) = ∑ k : Fin 3, matOf (linPart g) i k * L (ei k) := by
  have h1 := h (g.linearIsometryEquiv.symm (ei i))
  rw [LinearIsometryEquiv.apply_symm_apply] at h1
  rw [h1, clm_expand L]
  simp only [← symm_ei_apply]

/-! ## 6. Components of gradient and Hessian; the Laplacian -/

theorem gradient_moved_comp (g : E3 ≃ᵃⁱ[ℝ] E3) (b : Basis ℝ) (hb : b.Movable) (γ γ' : ℕ → ℕ → ℝ)
    (hγ : CongrBy b.total (basisRep b (linPart g)) γ γ') (x : E3) (i : Fin 3) :
    fderiv ℝ (rhoE (b.moved g) γ') (g x) (ei i)
      = ∑ k : Fin 3, matOf (linPart g) i k * fderiv ℝ (rhoE b γ) x (ei k) :=
  comp_of_moved_vec g _ _ (gradient_moved g b hb γ γ' hγ x) i

theorem bilin2_hessian (f : E3 → ℝ) (x : E3) : Bilin2 fun u v => fderiv ℝ (fderiv ℝ f) x u v :=
  ⟨fderiv ℝ (fderiv ℝ f) x, fun _ _ => rfl⟩

theorem hessian_moved_comp (g : E3 ≃ᵃⁱ[ℝ] E3) (b : Basis ℝ) (hb : b.Movable) (γ γ' : ℕ → ℕ → ℝ)
    (hγ : CongrBy b.total (basisRep b (linPart g)) γ γ') (x : E3) (i j : Fin 3) :
    fderiv ℝ (fderiv ℝ (rhoE (b.moved g) γ')) (g x) (ei i) (ei j)
      = ∑ k : Fin 3, ∑ l : Fin 3, matOf (linPart g) i k * matOf (linPart g) j l
          * fderiv ℝ (fderiv ℝ (rhoE b γ)) x (ei k) (ei l) :=
  (bilin2_hessian (rhoE b γ) x).comp_of_moved g
    (B' := fun u v => fderiv ℝ (fderiv ℝ (rhoE (b.moved g) γ')) (g x) u v)
    (hessian_moved g b hb γ γ' hγ x) i j

def lapE (f : E3 → ℝ) (x : E3) : ℝ := ∑ k : Fin 3, fderiv ℝ (fderiv ℝ f) x (ei k) (ei k)

open Laplacian in
theorem lapE_eq_laplacian (f : E3 → ℝ) (x : E3) : lapE f x = (Δ f) x :=
  (laplacian_eq_sum_ei f x).symm

theorem laplacian_moved (g : E3 ≃ᵃⁱ[ℝ] E3) (b : Basis ℝ) (hb : b.Movable) (γ γ' : ℕ → ℕ → ℝ)
    (hγ : CongrBy b.total (basisRep b (linPart g)) γ γ') (x : E3) :
    lapE (rhoE (b.moved g) γ') (g x) = lapE (rhoE b γ) x :=
  (bilin2_hessian (rhoE b γ) x).trace_of_moved g
    (B' := fun u v => fderiv ℝ (fderiv ℝ (rhoE (b.moved g) γ')) (g x) u v)
    (hessian_moved g b hb γ γ' hγ x)

open Laplacian in
theorem laplacian_moved' (g : E3 ≃ᵃⁱ[ℝ] E3) (b : Basis ℝ) (hb : b.Movable) (γ γ' : ℕ → ℕ → ℝ)
    (hγ : CongrBy b.total (basisRep b (linPart g)) γ γ') (x : E3) :
    (Δ (rhoE (b.moved g) γ')) (g x) = (Δ (rhoE b γ)) x := by
  rw [← lapE_eq_laplacian, ← lapE_eq_laplacian]
  exact laplacian_moved g b hb γ γ' hγ x

/-! ## 7. The bilinear tensors of first and second derivatives of the basis functions -/

def T11 (b : Basis ℝ) (γ : ℕ → ℕ → ℝ) (x u v : E3) : ℝ := biFn b γ (dirD u) (dirD v) x

def T20 (b : Basis ℝ) (γ : ℕ → ℕ → ℝ) (x u v : E3) : ℝ :=
  biFn b γ (fun f => dirD u (dirD v f)) (fun f => f) x

def T02 (b : Basis ℝ) (γ : ℕ → ℕ → ℝ) (x u v : E3) : ℝ :=
  biFn b γ (fun f => f) (fun f => dirD u (dirD v f)) x

theorem T11_moved (g : E3 ≃ᵃⁱ[ℝ] E3) (b : Basis ℝ) (hb : b.Movable) (γ γ' : ℕ → ℕ → ℝ)
    (hγ : CongrBy b.total (basisRep b (linPart g)) γ γ') (x u v : E3) :
    T11 (b.moved g) γ' (g x) (g.linearIsometryEquiv u) (g.linearIsometryEquiv v) = T11 b γ x u v :=
  biFn_moved g b hb γ γ' hγ (Compat.dirD g u) (Compat.dirD g v) x

theorem T20_moved (g : E3 ≃ᵃⁱ[ℝ] E3) (b : Basis ℝ) (hb : b.Movable) (γ γ' : ℕ → ℕ → ℝ)
    (hγ : CongrBy b.total (basisRep b (linPart g)) γ γ') (x u v : E3) :
    T20 (b.moved g) γ' (g x) (g.linearIsometryEquiv u) (g.linearIsometryEquiv v) = T20 b γ x u v :=
  biFn_moved g b hb γ γ' hγ ((Compat.dirD g u).comp (Compat.dirD g v)) (Compat.id g) x

theorem T02_moved (g : E3 ≃ᵃⁱ[ℝ] E3) (b : Basis ℝ) (hb : b.Movable) (γ γ' : ℕ → ℕ → ℝ)
    (hγ : CongrBy b.total (basisRep b (linPart g)) γ γ') (x u v : E3) :
    T02 (b.moved g) γ' (g x) (g.linearIsometryEquiv u) (g.linearIsometryEquiv v) = T02 b γ x u v :=
  biFn_moved g b hb γ γ' hγ (Compat.id g) ((Compat.dirD g u).comp (Compat.dirD g v)) x

theorem bilin2_T11 (b : Basis ℝ) (γ : ℕ → ℕ → ℝ) (x : E3) : Bilin2 (T11 b γ x) :=
  Bilin2.sum (range b.total) fun r _ => Bilin2.sum (range b.total) fun c _ =>
    ⟨(γ r c) • (fderiv ℝ (basisFnE b r) x).smulRight (fderiv ℝ (basisFnE b c) x),
      fun _ _ => mul_assoc _ _ _⟩

theorem bilin2_T20 (b : Basis ℝ) (γ : ℕ → ℕ → ℝ) (x : E3) : Bilin2 (T20 b γ x) :=
  Bilin2.sum (range b.total) fun r _ => Bilin2.sum (range b.total) fun c _ =>
    ⟨(γ r c * basisFnE b c x) • fderiv ℝ (fderiv ℝ (basisFnE b r)) x, fun u v => by
      beta_reduce
      rw [dirD_dirD_apply (contDiff_basisFnE b r)]
      exact mul_right_comm _ _ _⟩

theorem bilin2_T02 (b : Basis ℝ) (γ : ℕ → ℕ → ℝ) (x : E3) : Bilin2 (T02 b γ x) :=
  Bilin2.sum (range b.total) fun r _ => Bilin2.sum (range b.total) fun c _ =>
    ⟨(γ r c * basisFnE b r x) • fderiv ℝ (fderiv ℝ (basisFnE b c)) x, fun u v => by
      beta_reduce
      rw [dirD_dirD_apply (contDiff_basisFnE b c)]
      rfl⟩

/-! ## 8. The positive-definite kinetic-energy density -/

def tplusE (b : Basis ℝ) (γ : ℕ → ℕ → ℝ) (x : E3) : ℝ :=
  1 / 2 * ∑ k : Fin 3, T11 b γ x (ei k) (ei k)

theorem tplus_moved (g : E3 ≃ᵃⁱ[ℝ] E3) (b : Basis ℝ) (hb : b.Movable) (γ γ' : ℕ → ℕ → ℝ)
    (hγ : CongrBy b.total (basisRep b (linPart g)) γ γ') (x : E3) :
    tplusE (b.moved g) γ' (g x) = tplusE b γ x := by
  unfold tplusE
  rw [(bilin2_T11 b γ x).trace_of_moved g (T11_moved g b hb γ γ' hγ x)]

/-! ## 9. The stress tensor -/

/-- The stress tensor as a bilinear form in two vectors, so that its covariance is one statement
(`stress_moved`); on `(e_i, e_j)` it is the value of the model's `stressForm α β i j`
(`evalB_stress`). -/
def stressE (b : Basis ℝ) (γ : ℕ → ℕ → ℝ) (α β : ℝ) (x u v : E3) : ℝ :=
  -(1 / 2 : ℝ) * (α * (T11 b γ x u v + T11 b γ x v u) - (1 - α) * (T20 b γ x u v + T02 b γ x u v))
    - (1 / 2 : ℝ) * (inner ℝ u v * β) * lapE (rhoE b γ) x

theorem bilin2_stressE (b : Basis ℝ) (γ : ℕ → ℕ → ℝ) (α β : ℝ) (x : E3) :
    Bilin2 (stressE b γ α β x) := by
  have h11 := bilin2_T11 b γ x
  have h20 := bilin2_T20 b γ x
  have h02 := bilin2_T02 b γ x
  exact ((((h11.add h11.swap).const_mul α).sub ((h20.add h02).const_mul (1 - α))).const_mul
    (-(1 / 2 : ℝ))).sub (((Bilin2.inner.mul_const β).const_mul (1 / 2)).mul_const _)

theorem stress_moved (g : E3 ≃ᵃⁱ[ℝ] E3) (b : Basis ℝ) (hb : b.Movable) (γ γ' : ℕ → ℕ → ℝ)
    (hγ : CongrBy b.total (basisRep b (linPart g)) γ γ') (α β : ℝ) (x u v : E3) :
    stressE (b.moved g) γ' α β (g x) (g.linearIsometryEquiv u) (g.linearIsometryEquiv v)
      = stressE b γ α β x u v := by
  simp only [stressE, T11_moved g b hb γ γ' hγ, T20_moved g b hb γ γ' hγ,
    T02_moved g b hb γ γ' hγ, laplacian_moved g b hb γ γ' hγ, LinearIsometryEquiv.inner_map_map]

theorem stress_moved_comp (g : E3 ≃ᵃⁱ[ℝ] E3) (b : Basis ℝ) (hb : b.Movable) (γ γ' : ℕ → ℕ → ℝ)
    (hγ : CongrBy b.total (basisRep b (linPart g)) γ γ') (α β : ℝ) (x : E3) (i j : Fin 3) :
    stressE (b.moved g) γ' α β (g x) (ei i) (ei j)
      = ∑ k : Fin 3, ∑ l : Fin 3, matOf (linPart g) i k * matOf (linPart g) j l
          * stressE b γ α β x (ei k) (ei l) :=
  (bilin2_stressE b γ α β x).comp_of_moved g (stress_moved g b hb γ γ' hγ α β x) i j

/-! ## 10. The forms of the model (`FormsProofs`, `SmoothInstance`) for a basis -/

def basisSmooth (b : Basis ℝ) (r : ℕ) : Smooth3 := ⟨basisFnE b r, contDiff_basisFnE b r⟩

def basisFam (b : Basis ℝ) (n : ℕ) : Fin n → Smooth3 := fun a => basisSmooth b a

def finMat (n : ℕ) (γ : ℕ → ℕ → ℝ) : Fin n → Fin n → ℝ := fun a c => γ a c

/-- The number `n` of basis functions is an argument of its own (used with `n = b.total`) because
the index type is `Fin n`: `(b.moved g).total` can then be rewritten to `b.total`
(`formVal_moved_eq`) without a cast between `Fin` types. -/
def evalB (b : Basis ℝ) (n : ℕ) (γ : ℕ → ℕ → ℝ) (f : Form) : E3 → ℝ :=
  (Form.evalA pd (basisFam b n) (finMat n γ) f).1

def formVal (b : Basis ℝ) (γ : ℕ → ℕ → ℝ) (f : Form) : E3 → ℝ := evalB b b.total γ f

theorem formVal_moved_eq (g : E3 ≃ᵃⁱ[ℝ] E3) (b : Basis ℝ) (γ : ℕ → ℕ → ℝ) (f : Form) :
    formVal (b.moved g) γ f = evalB (b.moved g) b.total γ f := by
  unfold formVal
  rw [Basis.moved_total]

theorem contDiff_evalB (b : Basis ℝ) (n : ℕ) (γ : ℕ → ℕ → ℝ) (f : Form) :
    ContDiff ℝ ∞ (evalB b n γ f) := smooth_contDiff _

theorem sum_fin_fin (n : ℕ) (F : ℕ → ℕ → ℝ) :
    ∑ a : Fin n, ∑ c : Fin n, F a c = ∑ r ∈ range n, ∑ c ∈ range n, F r c := by
  rw [← Fin.sum_univ_eq_sum_range (fun r => ∑ c ∈ range n, F r c) n]
  exact sum_congr rfl fun a _ => Fin.sum_univ_eq_sum_range (fun c => F a c) n

theorem DFun_basisFam (b : Basis ℝ) (n : ℕ) (hn : n = b.total) (γ : ℕ → ℕ → ℝ) (p q : Comp) (x : E3) :
    DFun (basisFam b n) (finMat n γ) p q x = biFn b γ (dpowFun p) (dpowFun q) x := by
  subst hn
  exact sum_fin_fin b.total
    (fun r c => γ r c * dpowFun p (basisFnE b r) x * dpowFun q (basisFnE b c) x)

theorem rhoFun_basisFam (b : Basis ℝ) (n : ℕ) (hn : n = b.total) (γ : ℕ → ℕ → ℝ) :
    rhoFun (basisFam b n) (finMat n γ) = rhoE b γ := by
  subst hn
  funext x
  exact sum_fin_fin b.total (fun r c => γ r c * basisFnE b r x * basisFnE b c x)

theorem biFn_congr (b : Basis ℝ) (γ : ℕ → ℕ → ℝ) {P P₂ Q Q₂ : (E3 → ℝ) → E3 → ℝ}
    (hP : ∀ f, ContDiff ℝ ∞ f → P f = P₂ f) (hQ : ∀ f, ContDiff ℝ ∞ f → Q f = Q₂ f) (x : E3) :
    biFn b γ P Q x = biFn b γ P₂ Q₂ x := by
  unfold biFn
  simp only [hP _ (contDiff_basisFnE b _), hQ _ (contDiff_basisFnE b _)]

theorem dpowFun_ee {f : E3 → ℝ} (hf : ContDiff ℝ ∞ f) (i j : Fin 3) :
    dpowFun (e i + e j) f = pdFun i (pdFun j f) := by
  rw [add_comm, ← pdFun_dpowFun hf, dpowFun_e]

theorem SymmG_finMat (n : ℕ) (γ : ℕ → ℕ → ℝ) (hs : ∀ r < n, ∀ c < n, γ r c = γ c r) :
    SymmG (finMat n γ) := fun a c => hs a a.2 c c.2

theorem evalB_eq_sum (b : Basis ℝ) (n : ℕ) (hn : n = b.total) (γ : ℕ → ℕ → ℝ) (f : Form) (x : E3) :
    evalB b n γ f x
      = (f.map fun t => (t.1 : ℝ) * biFn b γ (dpowFun t.2.1) (dpowFun t.2.2) x).sum := by
  induction f with
  | nil => rfl
  | cons t f ih =>
    rw [List.map_cons, List.sum_cons, ← ih, ← DFun_basisFam b n hn, ← Dsym_coe]
    -- `evalA_cons` read at `x`: `(c • A + B).1 x` is `c * A.1 x + B.1 x` by `rfl`
    exact congrArg (fun F : Smooth3 => F.1 x)
      (evalA_cons (d := pd) (φ := basisFam b n) (γ := finMat n γ) t f)

theorem evalB_density (b : Basis ℝ) (n : ℕ) (hn : n = b.total) (γ : ℕ → ℕ → ℝ) (x : E3) :
    evalB b n γ densityForm x = rhoE b γ x := by
  rw [evalB_eq_sum b n hn]
  simp only [densityForm, List.map_cons, List.map_nil, List.sum_cons, List.sum_nil, Rat.cast_one,
    one_mul, add_zero]
  rfl

theorem evalB_gradient (b : Basis ℝ) (n : ℕ) (hn : n = b.total) (γ : ℕ → ℕ → ℝ)
    (hs : ∀ r < n, ∀ c < n, γ r c = γ c r) (i : Fin 3) (x : E3) :
    evalB b n γ (gradientForm i) x = fderiv ℝ (rhoE b γ) x (ei i) := by
  unfold evalB
  rw [gradient_pointwise (SymmG_finMat n γ hs) i x, ← rhoFun_basisFam b n hn]
  rfl

theorem evalB_hessian (b : Basis ℝ) (n : ℕ) (hn : n = b.total) (γ : ℕ → ℕ → ℝ)
    (hs : ∀ r < n, ∀ c < n, γ r c = γ c r) (i j : Fin 3) (x : E3) :
    evalB b n γ (hessianForm i j) x = fderiv ℝ (fderiv ℝ (rhoE b γ)) x (ei i) (ei j) := by
  unfold evalB
  rw [hessian_pointwise' (SymmG_finMat n γ hs) i j x, rhoFun_basisFam b n hn]

theorem lap_sum_eq (b : Basis ℝ) (n : ℕ) (hn : n = b.total) (γ : ℕ → ℕ → ℝ) (x : E3) :
    ∑ k : Fin 3, pdFun k (pdFun k (rhoFun (basisFam b n) (finMat n γ))) x = lapE (rhoE b γ) x := by
  rw [rhoFun_basisFam b n hn]
  unfold lapE
  exact sum_congr rfl fun k _ => dirD_dirD_apply (contDiff_rhoE b γ) (ei k) (ei k) x

theorem evalB_laplacian (b : Basis ℝ) (n : ℕ) (hn : n = b.total) (γ : ℕ → ℕ → ℝ)
    (hs : ∀ r < n, ∀ c < n, γ r c = γ c r) (x : E3) :
    evalB b n γ laplacianForm x = lapE (rhoE b γ) x := by
  unfold evalB
  rw [laplacian_eq pd_comm (SymmG_finMat n γ hs), lap_apply, lap_sum_eq b n hn]

theorem evalB_posdef (b : Basis ℝ) (n : ℕ) (hn : n = b.total) (γ : ℕ → ℕ → ℝ) (x : E3) :
    evalB b n γ posdefForm x = tplusE b γ x := by
  subst hn
  unfold evalB tplusE
  rw [posdefKE_pointwise]
  exact congrArg (1 / 2 * ·) (sum_congr rfl fun k _ => sum_fin_fin b.total
    (fun r c => γ r c * fderiv ℝ (basisFnE b r) x (ei k) * fderiv ℝ (basisFnE b c) x (ei k)))

theorem evalB_generalKE (b : Basis ℝ) (n : ℕ) (hn : n = b.total) (γ : ℕ → ℕ → ℝ)
    (hs : ∀ r < n, ∀ c < n, γ r c = γ c r) (α : ℚ) (x : E3) :
    evalB b n γ (generalKEForm α) x = tplusE b γ x + (α : ℝ) * lapE (rhoE b γ) x := by
  rw [← evalB_posdef b n hn γ x]
  unfold evalB
  rw [generalKE_pointwise (SymmG_finMat n γ hs), lap_sum_eq b n hn]

theorem inner_ei (i j : Fin 3) : inner ℝ (ei i) (ei j) = if i = j then (1 : ℝ) else 0 := by
  unfold ei
  rw [EuclideanSpace.inner_single_left, PiLp.single_apply]
  by_cases h : i = j <;> simp [h]

theorem evalB_stress (b : Basis ℝ) (n : ℕ) (hn : n = b.total) (γ : ℕ → ℕ → ℝ)
    (hs : ∀ r < n, ∀ c < n, γ r c = γ c r) (α β : ℚ) (i j : Fin 3) (x : E3) :
    evalB b n γ (stressForm α β i j) x = stressE b γ α β x (ei i) (ei j) := by
  unfold evalB
  rw [stress_pointwise (SymmG_finMat n γ hs), lap_sum_eq b n hn, DFun_basisFam b n hn,
    DFun_basisFam b n hn, DFun_basisFam b n hn, DFun_basisFam b n hn]
  unfold stressE T11 T20 T02
  rw [inner_ei,
    biFn_congr b γ (fun f _ => dpowFun_e i f) (fun f _ => dpowFun_e j f),
    biFn_congr b γ (fun f _ => dpowFun_e j f) (fun f _ => dpowFun_e i f),
    biFn_congr b γ (fun f hf => dpowFun_ee hf i j) (fun f _ => dpowFun_zero f),
    biFn_congr b γ (fun f _ => dpowFun_zero f) (fun f hf => dpowFun_ee hf i j)]
  rfl

/-! ## 11. C12 for the forms of the model -/

section FormsMoved

variable (g : E3 ≃ᵃⁱ[ℝ] E3) (b : Basis ℝ) (hb : b.Movable) (γ γ' : ℕ → ℕ → ℝ)
  (hγ : CongrBy b.total (basisRep b (linPart g)) γ γ')

include hb hγ

/-- C12 for `evaluate_density`; no symmetry of `γ'` is needed. -/
theorem densityForm_moved (x : E3) :
    formVal (b.moved g) γ' densityForm (g x) = formVal b γ densityForm x := by
  rw [formVal_moved_eq, evalB_density _ _ (Basis.moved_total b g).symm, formVal,
    evalB_density _ _ rfl]
  exact rho_moved g b hb γ γ' hγ x

/-- C12 for `evaluate_posdef_kinetic_energy_density`; no symmetry of `γ'` is needed. -/
theorem posdefForm_moved (x : E3) :
    formVal (b.moved g) γ' posdefForm (g x) = formVal b γ posdefForm x := by
  rw [formVal_moved_eq, evalB_posdef _ _ (Basis.moved_total b g).symm, formVal,
    evalB_posdef _ _ rfl]
  exact tplus_moved g b hb γ γ' hγ x

variable (hs' : ∀ r < b.total, ∀ c < b.total, γ' r c = γ' c r)

include hs'

/-- C12 for `evaluate_density_gradient`.  The forms of the model are those of a symmetric density
matrix, hence the hypothesis `hs'` (then `γ` is symmetric too). -/
theorem gradientForm_moved (i : Fin 3) (x : E3) :
    formVal (b.moved g) γ' (gradientForm i) (g x)
      = ∑ k : Fin 3, matOf (linPart g) i k * formVal b γ (gradientForm k) x := by
  have hs := hγ.symm_of_symm hs'
  rw [formVal_moved_eq, evalB_gradient _ _ (Basis.moved_total b g).symm _ hs',
    gradient_moved_comp g b hb γ γ' hγ]
  simp only [formVal, evalB_gradient b _ rfl γ hs]

/-- C12 for `evaluate_density_hessian`. -/
theorem hessianForm_moved (i j : Fin 3) (x : E3) :
    formVal (b.moved g) γ' (hessianForm i j) (g x)
      = ∑ k : Fin 3, ∑ l : Fin 3, matOf (linPart g) i k * matOf (linPart g) j l
          * formVal b γ (hessianForm k l) x := by
  have hs := hγ.symm_of_symm hs'
  rw [formVal_moved_eq, evalB_hessian _ _ (Basis.moved_total b g).symm _ hs',
    hessian_moved_comp g b hb γ γ' hγ]
  simp only [formVal, evalB_hessian b _ rfl γ hs]

/-- C12 for `evaluate_density_laplacian`. -/
theorem laplacianForm_moved (x : E3) :
    formVal (b.moved g) γ' laplacianForm (g x) = formVal b γ laplacianForm x := by
  have hs := hγ.symm_of_symm hs'
  rw [formVal_moved_eq, evalB_laplacian _ _ (Basis.moved_total b g).symm _ hs', formVal,
    evalB_laplacian _ _ rfl _ hs]
  exact laplacian_moved g b hb γ γ' hγ x

/-- C12 for `evaluate_general_kinetic_energy_density`. -/
theorem generalKEForm_moved (α : ℚ) (x : E3) :
    formVal (b.moved g) γ' (generalKEForm α) (g x) = formVal b γ (generalKEForm α) x := by
  have hs := hγ.symm_of_symm hs'
  rw [formVal_moved_eq, evalB_generalKE _ _ (Basis.moved_total b g).symm _ hs', formVal,
    evalB_generalKE _ _ rfl _ hs, tplus_moved g b hb γ γ' hγ, laplacian_moved g b hb γ γ' hγ]

/-- C12 for `evaluate_stress_tensor`. -/
theorem stressForm_moved (α β : ℚ) (i j : Fin 3) (x : E3) :
    formVal (b.moved g) γ' (stressForm α β i j) (g x)
      = ∑ k : Fin 3, ∑ l : Fin 3, matOf (linPart g) i k * matOf (linPart g) j l
          * formVal b γ (stressForm α β k l) x := by
  have hs := hγ.symm_of_symm hs'
  rw [formVal_moved_eq, evalB_stress _ _ (Basis.moved_total b g).symm _ hs',
    stress_moved_comp g b hb γ γ' hγ]
  simp only [formVal, evalB_stress b _ rfl γ hs]

end FormsMoved

/-! ## 12. The Ehrenfest force -/

/-- The divergence of a covariant vector field is invariant.  The field is given as a combination
`Σ_k c_k B_k` because the use is row `i` of the moved stress tensor, which is
`Σ_k M_ik` (row `k` of the original). -/
theorem div_moved {κ : Type*} (g : E3 ≃ᵃⁱ[ℝ] E3) (T : Finset κ) (c : κ → ℝ) (A' : Fin 3 → E3 → ℝ)
    (B : κ → Fin 3 → E3 → ℝ) (hA' : ∀ j, Differentiable ℝ (A' j))
    (hB : ∀ k l, Differentiable ℝ (B k l))
    (h : ∀ j y, A' j (g y) = ∑ k ∈ T, ∑ l : Fin 3, c k * matOf (linPart g) j l * B k l y) (x : E3) :
    ∑ j : Fin 3, fderiv ℝ (A' j) (g x) (ei j)
      = ∑ k ∈ T, c k * ∑ l : Fin 3, fderiv ℝ (B k l) x (ei l) := by
  have e : ∀ j : Fin 3, fderiv ℝ (A' j) (g x) (ei j)
      = ∑ n : Fin 3, matOf (linPart g) j n * ∑ p ∈ T ×ˢ (univ : Finset (Fin 3)),
          (c p.1 * matOf (linPart g) j p.2) * fderiv ℝ (B p.1 p.2) x (ei n) := fun j =>
    fderiv_moved_ax g (T ×ˢ univ) (A' j) (fun p => B p.1 p.2)
      (fun p => c p.1 * matOf (linPart g) j p.2) (fun y => by rw [sum_product]; exact h j y) (hA' j)
      (fun p => hB p.1 p.2) x j
  simp only [e, sum_product]
  -- `Σ_j Σ_n M_jn Σ_k Σ_l c_k M_jl ∂_n B_kl`: the sum over `k` first, then `Mᵀ M = 1`
  have e2 : ∀ k ∈ T, ∑ j : Fin 3, ∑ n : Fin 3, matOf (linPart g) j n
        * ∑ l : Fin 3, c k * matOf (linPart g) j l * fderiv ℝ (B k l) x (ei n)
      = c k * ∑ l : Fin 3, fderiv ℝ (B k l) x (ei l) := fun k _ => by
    rw [← matOf_col_contract g fun n l => fderiv ℝ (B k l) x (ei n), mul_sum]
    refine sum_congr rfl fun j _ => ?_
    rw [mul_sum]
    refine sum_congr rfl fun n _ => ?_
    rw [mul_sum, mul_sum]
    exact sum_congr rfl fun l _ => by ring
  refine Eq.trans ?_ (sum_congr rfl e2)
  rw [sum_comm (s := T)]
  refine sum_congr rfl fun j _ => ?_
  rw [sum_comm (s := T)]
  exact sum_congr rfl fun n _ => mul_sum _ _ _

theorem evalB_force (b : Basis ℝ) (n : ℕ) (γ : ℕ → ℕ → ℝ)
    (hs : ∀ r < n, ∀ c < n, γ r c = γ c r) (α β : ℚ) (i : Fin 3) (x : E3) :
    evalB b n γ (forceForm α β i) x
      = -∑ j : Fin 3, fderiv ℝ (evalB b n γ (stressForm α β i j)) x (ei j) :=
  force_pointwise (SymmG_finMat n γ hs) α β i x

/-- C12 for `evaluate_ehrenfest_force`. -/
theorem forceForm_moved (g : E3 ≃ᵃⁱ[ℝ] E3) (b : Basis ℝ) (hb : b.Movable) (γ γ' : ℕ → ℕ → ℝ)
    (hγ : CongrBy b.total (basisRep b (linPart g)) γ γ')
    (hs' : ∀ r < b.total, ∀ c < b.total, γ' r c = γ' c r) (α β : ℚ) (i : Fin 3) (x : E3) :
    formVal (b.moved g) γ' (forceForm α β i) (g x)
      = ∑ k : Fin 3, matOf (linPart g) i k * formVal b γ (forceForm α β k) x := by
  have hs := hγ.symm_of_symm hs'
  -- the force is minus the divergence of the rows of the stress tensor
  rw [formVal_moved_eq, evalB_force _ _ _ hs',
    div_moved g univ (matOf (linPart g) i)
      (fun j => evalB (b.moved g) b.total γ' (stressForm α β i j))
      (fun k l => evalB b b.total γ (stressForm α β k l))
      (fun _ => smooth_diff (contDiff_evalB _ _ _ _)) (fun _ _ => smooth_diff (contDiff_evalB _ _ _ _))
      (fun j y => by
        have h := stressForm_moved g b hb γ γ' hγ hs' α β i j y
        rwa [formVal_moved_eq] at h) x]
  simp only [formVal, evalB_force b _ γ hs, mul_neg, sum_neg_distrib]

/-! ## 13. The Ehrenfest Hessian -/

theorem evalB_hessianRaw (b : Basis ℝ) (n : ℕ) (γ : ℕ → ℕ → ℝ)
    (hs : ∀ r < n, ∀ c < n, γ r c = γ c r) (α β : ℚ) (i j : Fin 3) (x : E3) :
    evalB b n γ (ehrenfestHessianRaw α β i j) x
      = fderiv ℝ (evalB b n γ (forceForm α β i)) x (ei j) :=
  ehrenfestHessian_pointwise (SymmG_finMat n γ hs) α β i j x

/-- C12 for the Ehrenfest Hessian before symmetrisation, the Jacobian of the force. -/
theorem ehrenfestHessianRaw_moved (g : E3 ≃ᵃⁱ[ℝ] E3) (b : Basis ℝ) (hb : b.Movable)
    (γ γ' : ℕ → ℕ → ℝ) (hγ : CongrBy b.total (basisRep b (linPart g)) γ γ')
    (hs' : ∀ r < b.total, ∀ c < b.total, γ' r c = γ' c r) (α β : ℚ) (i j : Fin 3) (x : E3) :
    formVal (b.moved g) γ' (ehrenfestHessianRaw α β i j) (g x)
      = ∑ k : Fin 3, ∑ l : Fin 3, matOf (linPart g) i k * matOf (linPart g) j l
          * formVal b γ (ehrenfestHessianRaw α β k l) x := by
  have hs := hγ.symm_of_symm hs'
  rw [formVal_moved_eq, evalB_hessianRaw _ _ _ hs']
  simp only [formVal, evalB_hessianRaw b _ γ hs]
  have hF : ∀ y, evalB (b.moved g) b.total γ' (forceForm α β i) (g y)
      = ∑ k : Fin 3, matOf (linPart g) i k * evalB b b.total γ (forceForm α β k) y := by
    intro y
    have h := forceForm_moved g b hb γ γ' hγ hs' α β i y
    rwa [formVal_moved_eq] at h
  have h := fderiv_moved_ax g univ (evalB (b.moved g) b.total γ' (forceForm α β i))
    (fun k : Fin 3 => evalB b b.total γ (forceForm α β k)) (matOf (linPart g) i) hF
    (smooth_diff (contDiff_evalB _ _ _ _)) (fun k => smooth_diff (contDiff_evalB _ _ _ _)) x j
  rw [h]
  simp only [mul_sum]
  rw [sum_comm]
  exact sum_congr rfl fun k _ => sum_congr rfl fun l _ => by ring

theorem formVal_hessianForm_false (b : Basis ℝ) (γ : ℕ → ℕ → ℝ) (α β : ℚ) (i j : Fin 3) (x : E3) :
    formVal b γ (ehrenfestHessianForm α β false i j) x
      = formVal b γ (ehrenfestHessianRaw α β i j) x :=
  congrArg (fun F : Smooth3 => F.1 x) (ehrenfest_hessian_unsymmetrised (d := pd)
    (φ := basisFam b b.total) (γ := finMat b.total γ) α β i j)

theorem formVal_hessianForm_true (b : Basis ℝ) (γ : ℕ → ℕ → ℝ) (α β : ℚ) (i j : Fin 3) (x : E3) :
    formVal b γ (ehrenfestHessianForm α β true i j) x
      = 1 / 2 * (formVal b γ (ehrenfestHessianRaw α β i j) x
          + formVal b γ (ehrenfestHessianRaw α β j i) x) :=
  congrArg (fun F : Smooth3 => F.1 x) (ehrenfest_hessian_symmetrised (d := pd)
    (φ := basisFam b b.total) (γ := finMat b.total γ) α β i j)

theorem symm_comp (M H : Fin 3 → Fin 3 → ℝ) (i j : Fin 3) :
    1 / 2 * (∑ k : Fin 3, ∑ l : Fin 3, M i k * M j l * H k l
        + ∑ k : Fin 3, ∑ l : Fin 3, M j k * M i l * H k l)
      = ∑ k : Fin 3, ∑ l : Fin 3, M i k * M j l * (1 / 2 * (H k l + H l k)) := by
  rw [sum_comm (f := fun k l => M j k * M i l * H k l), ← sum_add_distrib, mul_sum]
  refine sum_congr rfl fun k _ => ?_
  rw [← sum_add_distrib, mul_sum]
  exact sum_congr rfl fun l _ => by ring

/-- C12 for `evaluate_ehrenfest_hessian`, `symmetric = False` and `symmetric = True`. -/
theorem ehrenfestHessianForm_moved (g : E3 ≃ᵃⁱ[ℝ] E3) (b : Basis ℝ) (hb : b.Movable)
    (γ γ' : ℕ → ℕ → ℝ) (hγ : CongrBy b.total (basisRep b (linPart g)) γ γ')
    (hs' : ∀ r < b.total, ∀ c < b.total, γ' r c = γ' c r) (α β : ℚ) (sym : Bool) (i j : Fin 3)
    (x : E3) :
    formVal (b.moved g) γ' (ehrenfestHessianForm α β sym i j) (g x)
      = ∑ k : Fin 3, ∑ l : Fin 3, matOf (linPart g) i k * matOf (linPart g) j l
          * formVal b γ (ehrenfestHessianForm α β sym k l) x := by
  have hraw := ehrenfestHessianRaw_moved g b hb γ γ' hγ hs' α β
  cases sym with
  | false =>
    simp only [formVal_hessianForm_false]
    exact hraw i j x
  | true =>
    simp only [formVal_hessianForm_true]
    rw [hraw i j x, hraw j i x]
    exact symm_comp _ _ i j

/-! ## 14. C12 for rigid motions with trivial linear part (translations): `U = 1`, so the same,
arbitrary density matrix on both sides; and every form of the model -/

theorem congrBy_of_linear_eq_id (g : E3 ≃ᵃⁱ[ℝ] E3) (hg : ∀ u, g.linearIsometryEquiv u = u)
    (b : Basis ℝ) (hb : b.Movable) (γ : ℕ → ℕ → ℝ) :
    CongrBy b.total (basisRep b (linPart g)) γ γ :=
  CongrBy.of_one γ fun r hr r' hr' => basisRep_of_linear_eq_id g hg b hb r r' hr hr'

theorem congrBy_translation (v : E3) (b : Basis ℝ) (hb : b.Movable) (γ : ℕ → ℕ → ℝ) :
    CongrBy b.total (basisRep b (linPart (translation v))) γ γ :=
  congrBy_of_linear_eq_id _ (translation_linear v) b hb γ

theorem rho_translate (v : E3) (b : Basis ℝ) (hb : b.Movable) (γ : ℕ → ℕ → ℝ) (x : E3) :
    rhoE (b.moved (translation v)) γ (v + x) = rhoE b γ x :=
  rho_moved (translation v) b hb γ γ (congrBy_translation v b hb γ) x

theorem gradient_translate (v : E3) (b : Basis ℝ) (hb : b.Movable) (γ : ℕ → ℕ → ℝ) (x w : E3) :
    fderiv ℝ (rhoE (b.moved (translation v)) γ) (v + x) w = fderiv ℝ (rhoE b γ) x w := by
  have h := gradient_moved (translation v) b hb γ γ (congrBy_translation v b hb γ) x w
  rwa [translation_linear] at h

theorem hessian_translate (v : E3) (b : Basis ℝ) (hb : b.Movable) (γ : ℕ → ℕ → ℝ) (x u w : E3) :
    fderiv ℝ (fderiv ℝ (rhoE (b.moved (translation v)) γ)) (v + x) u w
      = fderiv ℝ (fderiv ℝ (rhoE b γ)) x u w := by
  have h := hessian_moved (translation v) b hb γ γ (congrBy_translation v b hb γ) x u w
  rwa [translation_linear, translation_linear] at h

theorem laplacian_translate (v : E3) (b : Basis ℝ) (hb : b.Movable) (γ : ℕ → ℕ → ℝ) (x : E3) :
    lapE (rhoE (b.moved (translation v)) γ) (v + x) = lapE (rhoE b γ) x :=
  laplacian_moved (translation v) b hb γ γ (congrBy_translation v b hb γ) x

theorem tplus_translate (v : E3) (b : Basis ℝ) (hb : b.Movable) (γ : ℕ → ℕ → ℝ) (x : E3) :
    tplusE (b.moved (translation v)) γ (v + x) = tplusE b γ x :=
  tplus_moved (translation v) b hb γ γ (congrBy_translation v b hb γ) x

theorem stress_translate (v : E3) (b : Basis ℝ) (hb : b.Movable) (γ : ℕ → ℕ → ℝ) (α β : ℝ)
    (x u w : E3) :
    stressE (b.moved (translation v)) γ α β (v + x) u w = stressE b γ α β x u w := by
  have h := stress_moved (translation v) b hb γ γ (congrBy_translation v b hb γ) α β x u w
  rwa [translation_linear, translation_linear] at h

/-! ### every form -/

theorem Compat.iterate {g : E3 ≃ᵃⁱ[ℝ] E3} {P' P : (E3 → ℝ) → E3 → ℝ} (h : Compat g P' P) :
    ∀ n : ℕ, Compat g (P'^[n]) (P^[n])
  | 0 => Compat.id g
  | n + 1 => (Compat.iterate h n).comp h

theorem Compat.pdFun_of_linear_eq_id (g : E3 ≃ᵃⁱ[ℝ] E3) (hg : ∀ u, g.linearIsometryEquiv u = u)
    (i : Fin 3) : Compat g (pdFun i) (pdFun i) := by
  have h := Compat.dirD g (ei i)
  rw [hg] at h
  exact h

theorem Compat.dpowFun_of_linear_eq_id (g : E3 ≃ᵃⁱ[ℝ] E3) (hg : ∀ u, g.linearIsometryEquiv u = u)
    (p : Comp) : Compat g (dpowFun p) (dpowFun p) :=
  ((Compat.pdFun_of_linear_eq_id g hg 0).iterate p.1).comp
    (((Compat.pdFun_of_linear_eq_id g hg 1).iterate p.2.1).comp
      ((Compat.pdFun_of_linear_eq_id g hg 2).iterate p.2.2))

/-- `f` is any list of terms `c · D(p; q)`, so this covers `evaluate_deriv_density` of any order besides
the named forms of §11–§13; every mixed partial derivative is `Compat` with itself here. -/
theorem formVal_moved_of_linear_eq_id (g : E3 ≃ᵃⁱ[ℝ] E3) (hg : ∀ u, g.linearIsometryEquiv u = u)
    (b : Basis ℝ) (hb : b.Movable) (γ : ℕ → ℕ → ℝ) (f : Form) (x : E3) :
    formVal (b.moved g) γ f (g x) = formVal b γ f x := by
  rw [formVal_moved_eq, evalB_eq_sum _ _ (Basis.moved_total b g).symm, formVal,
    evalB_eq_sum _ _ rfl]
  exact congrArg List.sum (List.map_congr_left fun t _ => congrArg (_ * ·)
    (biFn_moved g b hb γ γ (congrBy_of_linear_eq_id g hg b hb γ)
      (Compat.dpowFun_of_linear_eq_id g hg t.2.1) (Compat.dpowFun_of_linear_eq_id g hg t.2.2) x))

theorem formVal_translate (v : E3) (b : Basis ℝ) (hb : b.Movable) (γ : ℕ → ℕ → ℝ) (f : Form)
    (x : E3) : formVal (b.moved (translation v)) γ f (v + x) = formVal b γ f x :=
  formVal_moved_of_linear_eq_id (translation v) (translation_linear v) b hb γ f x

end

end GB
