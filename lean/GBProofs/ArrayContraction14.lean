import GBProofs.ArrayMotion2

/-!
# C13 for the one-index (evaluation) arrays and the four-index electron-repulsion array

Same statements as in `ArrayContraction.lean`, for `entry1 b (oneBlocks b nextra blk) r e` /
`assemble1` and for `entry4 b b b b (quartetBlocks b b b b blk) r1 r2 r3 r4` / `assemble4`.

`BlockLaws1 P B e`, `BlockLaws4 P B`: every entry of the block is a contraction over the primitives
(`SlotLinearOn`), in every slot.  `entry1_replaced`, `entry4_replaced` combine them with the layout fact
`Replaced` and an operation `ShellOp` on the replaced shell; `Rewrite.entry1_eq`, `Rewrite.entry4_eq`
and their flat forms say it for a basis with one shell rewritten.
-/
namespace GB
open Finset

/-! ## One-index arrays -/
section OneIndex

theorem entry1_eq_sum (b : Basis ℝ) (nextra : ℕ) (blk : ℕ → Tab3 ℝ) (r e : ℕ) (hr : r < b.total) :
    entry1 b (oneBlocks b nextra blk) r e
      = ∑ a ∈ range (shellOf b r).ncart,
          cw b r a * (blk (b.locate r).1).get3 (segOf b r) a e := by
  obtain ⟨hi, -, hf, -⟩ := locate_lt b r hr
  unfold entry1
  simp only []
  rw [oneBlocks_get b nextra blk _ hi, sumN_eq_sum]
  unfold cw segOf funOf
  rw [shellOf_eq b r hi]
  exact stage_eq _ _ _ hf fun a => (blk (b.locate r).1).get3 (b.locate r).2.1 a e

theorem sum_scale (n : ℕ) (u u' T T' : ℕ → ℝ) (ε κ : ℝ) (hu : ∀ a < n, u' a = ε * u a)
    (hT : ∀ a < n, T' a = κ * T a) :
    ∑ a ∈ range n, u' a * T' a = ε * κ * ∑ a ∈ range n, u a * T a := by
  rw [Finset.mul_sum]
  refine Finset.sum_congr rfl fun a ha => ?_
  rw [hu a (Finset.mem_range.mp ha), hT a (Finset.mem_range.mp ha)]
  ring

/-- every in-range entry of slice `e` of the one-index block `B s` is a contraction over the primitives
of `s`, for shells satisfying `P` (a condition preserved when frame is kept and no new exponent
appears) -/
structure BlockLaws1 (P : Shell ℝ → Prop) (B : Shell ℝ → Tab3 ℝ) (e : ℕ) : Prop where
  frame : ∀ s s' : Shell ℝ, s'.frame = s.frame → s'.ExpsIn Real.exp Real.sqrt Real.pi s → P s → P s'
  slot : SlotLinearOn Real.exp Real.sqrt Real.pi (fun s a => P s ∧ a < s.ncart)
    (fun s m a => (B s).get3 m a e)

variable {b' b : Basis ℝ} {i : ℕ} {new : ℕ → Shell ℝ × ℕ} {lam mu : ℕ → ℝ}
  {P : Shell ℝ → Prop}

theorem entry1_replaced {B : Shell ℝ → Tab3 ℝ} {e : ℕ} (hR : Replaced b' b i new) (hi : i < b.size)
    (hop : ShellOp b[i] new lam mu) (L : BlockLaws1 P B e) (hP : ∀ j (hj : j < b.size), P b[j])
    (nextra r : ℕ) (hr : r < b.total) :
    entry1 b' (oneBlocks b' nextra fun j => B b'[j]!) r e
      = (if (b.locate r).1 = i then lam (segOf b r) * mu (segOf b r) else 1)
        * entry1 b (oneBlocks b nextra fun j => B b[j]!) r e := by
  obtain ⟨hfr, hcw⟩ := hR.slot hi lam hop.frame hop.norm r hr
  have hPnew : ∀ m < b[i].nseg, P (new m).1 := fun m hm =>
    L.frame _ _ (hop.frame m hm) (hop.expsIn m hm) (hP i hi)
  have hT := hR.transfer hi mu (fun s m a => (B s).get3 m a e)
    (fun m hm a ha => hop.law _ _ L.slot m hm a ⟨hP i hi, ha⟩
      ⟨hPnew m hm, by rw [frame_ncart (hop.frame m hm)]; exact ha⟩) r hr
  rw [entry1_eq_sum b nextra _ r e hr, entry1_eq_sum b' nextra _ r e (by rw [hR.total]; exact hr),
    frame_ncart hfr, ← ite_one_mul_ite_one]
  exact sum_scale (shellOf b r).ncart (cw b r) (cw b' r)
    (fun a => (B (shellOf b r)).get3 (segOf b r) a e)
    (fun a => (B (shellOf b' r)).get3 (segOf b' r) a e) _ _ hcw hT

theorem assemble1_congr (b b' : Basis ℝ) (nextra : ℕ) (blk blk' : ℕ → Tab3 ℝ)
    (ht : b'.total = b.total)
    (h : ∀ r e, r < b.total → e < nextra →
      entry1 b' (oneBlocks b' nextra blk') r e = entry1 b (oneBlocks b nextra blk) r e) :
    assemble1 b' nextra blk' = assemble1 b nextra blk := by
  unfold assemble1
  refine ofFn_congr (by rw [ht]) _ _ fun k hk => ?_
  have hk' : k < b.total * nextra := by rw [ht] at hk; exact hk
  have hn : 0 < nextra := Nat.pos_of_lt_mul_left hk'
  show entry1 b' (oneBlocks b' nextra blk') (k / nextra) (k % nextra)
    = entry1 b (oneBlocks b nextra blk) (k / nextra) (k % nextra)
  refine h _ _ ?_ (Nat.mod_lt _ hn)
  apply Nat.div_lt_of_lt_mul
  rw [Nat.mul_comm]; exact hk'

theorem assemble1_get_rel (b b' : Basis ℝ) (nextra : ℕ) (blk blk' : ℕ → Tab3 ℝ)
    (ht : b'.total = b.total) (r e : ℕ) (hr : r < b.total) (he : e < nextra) (ε : ℝ)
    (h : entry1 b' (oneBlocks b' nextra blk') r e = ε * entry1 b (oneBlocks b nextra blk) r e) :
    (assemble1 b' nextra blk')[r * nextra + e]! = ε * (assemble1 b nextra blk)[r * nextra + e]! := by
  rw [assemble1_get b nextra blk r e hr he, ← h]
  exact assemble1_get b' nextra blk' r e (by rw [ht]; exact hr) he

theorem Rewrite.entry1_eq {f : ℕ → ℝ} {B : Shell ℝ → Tab3 ℝ} {e : ℕ} (h : Rewrite b' b f)
    (L : BlockLaws1 P B e) (hP : ∀ j (hj : j < b.size), P b[j])
    (nextra r : ℕ) (hr : r < b.total) :
    entry1 b' (oneBlocks b' nextra fun j => B b'[j]!) r e
      = f r * entry1 b (oneBlocks b nextra fun j => B b[j]!) r e := by
  obtain ⟨i, hi, new, lam, mu, hR, hop, hf⟩ := h
  rw [← hf r hr]
  exact entry1_replaced hR hi hop L hP nextra r hr

theorem Rewrite.assemble1_eq {B : Shell ℝ → Tab3 ℝ} (h : Rewrite b' b (fun _ => 1))
    (L : ∀ e, BlockLaws1 P B e) (hP : ∀ j (hj : j < b.size), P b[j]) (nextra : ℕ) :
    assemble1 b' nextra (fun j => B b'[j]!) = assemble1 b nextra (fun j => B b[j]!) :=
  assemble1_congr b b' nextra _ _ h.total fun r e hr _ => by
    rw [h.entry1_eq (L e) hP nextra r hr, one_mul]

theorem Rewrite.assemble1_getElem {f : ℕ → ℝ} {B : Shell ℝ → Tab3 ℝ}
    (h : Rewrite b' b f) (L : ∀ e, BlockLaws1 P B e) (hP : ∀ j (hj : j < b.size), P b[j])
    (nextra r e : ℕ) (hr : r < b.total) (he : e < nextra) :
    (assemble1 b' nextra fun j => B b'[j]!)[r * nextra + e]!
      = f r * (assemble1 b nextra fun j => B b[j]!)[r * nextra + e]! :=
  assemble1_get_rel b b' nextra _ _ h.total r e hr he _ (h.entry1_eq (L e) hP nextra r hr)

end OneIndex

/-! ## Four-index arrays -/
section FourIndex

theorem entry4_scale_of_located (b b' : Basis ℝ) (blk blk' : ℕ → ℕ → ℕ → ℕ → Tab8 ℝ)
    (r1 r2 r3 r4 : ℕ) (h1 : r1 < b.total) (h2 : r2 < b.total) (h3 : r3 < b.total)
    (h4 : r4 < b.total) (ht : b'.total = b.total) (ε1 ε2 ε3 ε4 μ : ℝ)
    (hs1 : (shellOf b' r1).ncart = (shellOf b r1).ncart)
    (hs2 : (shellOf b' r2).ncart = (shellOf b r2).ncart)
    (hs3 : (shellOf b' r3).ncart = (shellOf b r3).ncart)
    (hs4 : (shellOf b' r4).ncart = (shellOf b r4).ncart)
    (hw1 : ∀ a < (shellOf b r1).ncart, cw b' r1 a = ε1 * cw b r1 a)
    (hw2 : ∀ a < (shellOf b r2).ncart, cw b' r2 a = ε2 * cw b r2 a)
    (hw3 : ∀ a < (shellOf b r3).ncart, cw b' r3 a = ε3 * cw b r3 a)
    (hw4 : ∀ a < (shellOf b r4).ncart, cw b' r4 a = ε4 * cw b r4 a)
    (hX : ∀ a1 < (shellOf b r1).ncart, ∀ a2 < (shellOf b r2).ncart,
      ∀ a3 < (shellOf b r3).ncart, ∀ a4 < (shellOf b r4).ncart,
      (blk' (b'.locate r1).1 (b'.locate r2).1 (b'.locate r3).1 (b'.locate r4).1).get8
          (segOf b' r1) a1 (segOf b' r2) a2 (segOf b' r3) a3 (segOf b' r4) a4
        = μ * (blk (b.locate r1).1 (b.locate r2).1 (b.locate r3).1 (b.locate r4).1).get8
          (segOf b r1) a1 (segOf b r2) a2 (segOf b r3) a3 (segOf b r4) a4) :
    entry4 b' b' b' b' (quartetBlocks b' b' b' b' blk') r1 r2 r3 r4
      = ε1 * ε2 * ε3 * ε4 * μ * entry4 b b b b (quartetBlocks b b b b blk) r1 r2 r3 r4 := by
  rw [entry4_eq_sum b blk r1 r2 r3 r4 h1 h2 h3 h4,
    entry4_eq_sum b' blk' r1 r2 r3 r4 (ht ▸ h1) (ht ▸ h2) (ht ▸ h3) (ht ▸ h4),
    hs1, hs2, hs3, hs4]
  rw [mul_sum]
  refine sum_congr rfl fun a1 ha1 => ?_
  rw [mul_sum]
  refine sum_congr rfl fun a2 ha2 => ?_
  rw [mul_sum]
  refine sum_congr rfl fun a3 ha3 => ?_
  rw [mul_sum]
  refine sum_congr rfl fun a4 ha4 => ?_
  rw [mem_range] at ha1 ha2 ha3 ha4
  rw [hw1 a1 ha1, hw2 a2 ha2, hw3 a3 ha3, hw4 a4 ha4, hX a1 ha1 a2 ha2 a3 ha3 a4 ha4]
  ring

/-- every in-range entry of the four-index block `B sa sb sc sd` is a contraction over the primitives
of each of the four shells, for shells satisfying `P` (a condition preserved when the frame is kept
and no new exponent appears) -/
structure BlockLaws4 (P : Shell ℝ → Prop) (B : Shell ℝ → Shell ℝ → Shell ℝ → Shell ℝ → Tab8 ℝ) :
    Prop where
  frame : ∀ s s' : Shell ℝ, s'.frame = s.frame → s'.ExpsIn Real.exp Real.sqrt Real.pi s → P s → P s'
  a : ∀ sb sc sd mb cb mc cc md cd, P sb → P sc → P sd → cb < sb.ncart → cc < sc.ncart →
    cd < sd.ncart → SlotLinearOn Real.exp Real.sqrt Real.pi (fun s a => P s ∧ a < s.ncart)
      (fun s m a => (B s sb sc sd).get8 m a mb cb mc cc md cd)
  b : ∀ sa sc sd ma ca mc cc md cd, P sa → P sc → P sd → ca < sa.ncart → cc < sc.ncart →
    cd < sd.ncart → SlotLinearOn Real.exp Real.sqrt Real.pi (fun s a => P s ∧ a < s.ncart)
      (fun s m a => (B sa s sc sd).get8 ma ca m a mc cc md cd)
  c : ∀ sa sb sd ma ca mb cb md cd, P sa → P sb → P sd → ca < sa.ncart → cb < sb.ncart →
    cd < sd.ncart → SlotLinearOn Real.exp Real.sqrt Real.pi (fun s a => P s ∧ a < s.ncart)
      (fun s m a => (B sa sb s sd).get8 ma ca mb cb m a md cd)
  d : ∀ sa sb sc ma ca mb cb mc cc, P sa → P sb → P sc → ca < sa.ncart → cb < sb.ncart →
    cc < sc.ncart → SlotLinearOn Real.exp Real.sqrt Real.pi (fun s a => P s ∧ a < s.ncart)
      (fun s m a => (B sa sb sc s).get8 ma ca mb cb mc cc m a)

variable {b' b : Basis ℝ} {i : ℕ} {new : ℕ → Shell ℝ × ℕ} {lam mu : ℕ → ℝ}
  {P : Shell ℝ → Prop}

/-- every entry is multiplied by `lam m · mu m` once for each of its four indices that is a function of segment `m` of
shell `i` -/
theorem entry4_replaced {B : Shell ℝ → Shell ℝ → Shell ℝ → Shell ℝ → Tab8 ℝ}
    (hR : Replaced b' b i new) (hi : i < b.size)
    (hop : ShellOp b[i] new lam mu) (L : BlockLaws4 P B) (hP : ∀ j (hj : j < b.size), P b[j])
    (r1 r2 r3 r4 : ℕ) (h1 : r1 < b.total) (h2 : r2 < b.total) (h3 : r3 < b.total)
    (h4 : r4 < b.total) :
    entry4 b' b' b' b' (quartetBlocks b' b' b' b' fun j k l n => B b'[j]! b'[k]! b'[l]! b'[n]!)
        r1 r2 r3 r4
      = (if (b.locate r1).1 = i then lam (segOf b r1) * mu (segOf b r1) else 1)
        * (if (b.locate r2).1 = i then lam (segOf b r2) * mu (segOf b r2) else 1)
        * (if (b.locate r3).1 = i then lam (segOf b r3) * mu (segOf b r3) else 1)
        * (if (b.locate r4).1 = i then lam (segOf b r4) * mu (segOf b r4) else 1)
        * entry4 b b b b (quartetBlocks b b b b fun j k l n => B b[j]! b[k]! b[l]! b[n]!)
            r1 r2 r3 r4 := by
  obtain ⟨hfr1, hcw1⟩ := hR.slot hi lam hop.frame hop.norm r1 h1
  obtain ⟨hfr2, hcw2⟩ := hR.slot hi lam hop.frame hop.norm r2 h2
  obtain ⟨hfr3, hcw3⟩ := hR.slot hi lam hop.frame hop.norm r3 h3
  obtain ⟨hfr4, hcw4⟩ := hR.slot hi lam hop.frame hop.norm r4 h4
  have hPnew : ∀ m < b[i].nseg, P (new m).1 := fun m hm =>
    L.frame _ _ (hop.frame m hm) (hop.expsIn m hm) (hP i hi)
  obtain ⟨p1, -⟩ := hR.pred hi P hP hPnew r1 h1
  obtain ⟨p2, p2'⟩ := hR.pred hi P hP hPnew r2 h2
  obtain ⟨p3, p3'⟩ := hR.pred hi P hP hPnew r3 h3
  obtain ⟨-, p4'⟩ := hR.pred hi P hP hPnew r4 h4
  have hnc : ∀ m < b[i].nseg, ∀ a < b[i].ncart, a < (new m).1.ncart := fun m hm a ha => by
    rw [frame_ncart (hop.frame m hm)]; exact ha
  have key := entry4_scale_of_located b b' (fun j k l n => B b[j]! b[k]! b[l]! b[n]!)
    (fun j k l n => B b'[j]! b'[k]! b'[l]! b'[n]!) r1 r2 r3 r4 h1 h2 h3 h4 hR.total
    (if (b.locate r1).1 = i then lam (segOf b r1) else 1)
    (if (b.locate r2).1 = i then lam (segOf b r2) else 1)
    (if (b.locate r3).1 = i then lam (segOf b r3) else 1)
    (if (b.locate r4).1 = i then lam (segOf b r4) else 1)
    ((if (b.locate r1).1 = i then mu (segOf b r1) else 1)
      * ((if (b.locate r2).1 = i then mu (segOf b r2) else 1)
        * ((if (b.locate r3).1 = i then mu (segOf b r3) else 1)
          * (if (b.locate r4).1 = i then mu (segOf b r4) else 1))))
    (frame_ncart hfr1) (frame_ncart hfr2) (frame_ncart hfr3) (frame_ncart hfr4)
    hcw1 hcw2 hcw3 hcw4 (by
      intro a1 ha1 a2 ha2 a3 ha3 a4 ha4
      have ha2' : a2 < (shellOf b' r2).ncart := by rw [frame_ncart hfr2]; exact ha2
      have ha3' : a3 < (shellOf b' r3).ncart := by rw [frame_ncart hfr3]; exact ha3
      have ha4' : a4 < (shellOf b' r4).ncart := by rw [frame_ncart hfr4]; exact ha4
      have e1 := hR.transfer hi mu
        (fun s m a => (B s (shellOf b' r2) (shellOf b' r3) (shellOf b' r4)).get8 m a
          (segOf b' r2) a2 (segOf b' r3) a3 (segOf b' r4) a4)
        (fun m hm a ha => hop.law _ _ (L.a _ _ _ _ _ _ _ _ _ p2' p3' p4' ha2' ha3' ha4') m hm a
          ⟨hP i hi, ha⟩ ⟨hPnew m hm, hnc m hm a ha⟩) r1 h1 a1 ha1
      have e2 := hR.transfer hi mu
        (fun s m a => (B (shellOf b r1) s (shellOf b' r3) (shellOf b' r4)).get8 (segOf b r1) a1
          m a (segOf b' r3) a3 (segOf b' r4) a4)
        (fun m hm a ha => hop.law _ _ (L.b _ _ _ _ _ _ _ _ _ p1 p3' p4' ha1 ha3' ha4') m hm a
          ⟨hP i hi, ha⟩ ⟨hPnew m hm, hnc m hm a ha⟩) r2 h2 a2 ha2
      have e3 := hR.transfer hi mu
        (fun s m a => (B (shellOf b r1) (shellOf b r2) s (shellOf b' r4)).get8 (segOf b r1) a1
          (segOf b r2) a2 m a (segOf b' r4) a4)
        (fun m hm a ha => hop.law _ _ (L.c _ _ _ _ _ _ _ _ _ p1 p2 p4' ha1 ha2 ha4') m hm a
          ⟨hP i hi, ha⟩ ⟨hPnew m hm, hnc m hm a ha⟩) r3 h3 a3 ha3
      have e4 := hR.transfer hi mu
        (fun s m a => (B (shellOf b r1) (shellOf b r2) (shellOf b r3) s).get8 (segOf b r1) a1
          (segOf b r2) a2 (segOf b r3) a3 m a)
        (fun m hm a ha => hop.law _ _ (L.d _ _ _ _ _ _ _ _ _ p1 p2 p3 ha1 ha2 ha3) m hm a
          ⟨hP i hi, ha⟩ ⟨hPnew m hm, hnc m hm a ha⟩) r4 h4 a4 ha4
      beta_reduce at e1 e2 e3 e4
      show (B (shellOf b' r1) (shellOf b' r2) (shellOf b' r3) (shellOf b' r4)).get8
          (segOf b' r1) a1 (segOf b' r2) a2 (segOf b' r3) a3 (segOf b' r4) a4
        = _ * (B (shellOf b r1) (shellOf b r2) (shellOf b r3) (shellOf b r4)).get8
          (segOf b r1) a1 (segOf b r2) a2 (segOf b r3) a3 (segOf b r4) a4
      rw [e1, e2, e3, e4]
      ring)
  rw [key, ← ite_one_mul_ite_one, ← ite_one_mul_ite_one, ← ite_one_mul_ite_one,
    ← ite_one_mul_ite_one]
  ring

theorem assemble4_congr (b b' : Basis ℝ) (blk blk' : ℕ → ℕ → ℕ → ℕ → Tab8 ℝ)
    (ht : b'.total = b.total)
    (h : ∀ r1 r2 r3 r4, r1 < b.total → r2 < b.total → r3 < b.total → r4 < b.total →
      entry4 b' b' b' b' (quartetBlocks b' b' b' b' blk') r1 r2 r3 r4
        = entry4 b b b b (quartetBlocks b b b b blk) r1 r2 r3 r4) :
    assemble4 b' blk' = assemble4 b blk := by
  unfold assemble4 assemble4g
  refine ofFn_congr (by rw [ht]) _ _ fun k hk => ?_
  have hk' : k < b.total * b.total * b.total * b.total := by rw [ht] at hk; exact hk
  have hb : 0 < b.total := Nat.pos_of_lt_mul_left hk'
  show entry4 b' b' b' b' (quartetBlocks b' b' b' b' blk')
      (k / (b'.total * b'.total * b'.total)) (k / (b'.total * b'.total) % b'.total)
      (k / b'.total % b'.total) (k % b'.total)
    = entry4 b b b b (quartetBlocks b b b b blk)
      (k / (b.total * b.total * b.total)) (k / (b.total * b.total) % b.total)
      (k / b.total % b.total) (k % b.total)
  rw [ht]
  exact h _ _ _ _ (Nat.div_lt_of_lt_mul hk') (Nat.mod_lt _ hb) (Nat.mod_lt _ hb) (Nat.mod_lt _ hb)

theorem assemble4_get_rel (b b' : Basis ℝ) (blk blk' : ℕ → ℕ → ℕ → ℕ → Tab8 ℝ)
    (ht : b'.total = b.total) (r1 r2 r3 r4 : ℕ) (h1 : r1 < b.total) (h2 : r2 < b.total)
    (h3 : r3 < b.total) (h4 : r4 < b.total) (ε : ℝ)
    (h : entry4 b' b' b' b' (quartetBlocks b' b' b' b' blk') r1 r2 r3 r4
        = ε * entry4 b b b b (quartetBlocks b b b b blk) r1 r2 r3 r4) :
    (assemble4 b' blk')[((r1 * b.total + r2) * b.total + r3) * b.total + r4]!
      = ε * (assemble4 b blk)[((r1 * b.total + r2) * b.total + r3) * b.total + r4]! := by
  rw [assemble4_get b blk r1 r2 r3 r4 h1 h2 h3 h4, ← h]
  have := assemble4_get b' blk' r1 r2 r3 r4 (by rw [ht]; exact h1) (by rw [ht]; exact h2)
    (by rw [ht]; exact h3) (by rw [ht]; exact h4)
  rw [ht] at this
  exact this

theorem Rewrite.entry4_eq {f : ℕ → ℝ}
    {B : Shell ℝ → Shell ℝ → Shell ℝ → Shell ℝ → Tab8 ℝ} (h : Rewrite b' b f) (L : BlockLaws4 P B)
    (hP : ∀ j (hj : j < b.size), P b[j]) (r1 r2 r3 r4 : ℕ) (h1 : r1 < b.total) (h2 : r2 < b.total)
    (h3 : r3 < b.total) (h4 : r4 < b.total) :
    entry4 b' b' b' b' (quartetBlocks b' b' b' b' fun j k l n => B b'[j]! b'[k]! b'[l]! b'[n]!)
        r1 r2 r3 r4
      = f r1 * f r2 * f r3 * f r4
        * entry4 b b b b (quartetBlocks b b b b fun j k l n => B b[j]! b[k]! b[l]! b[n]!)
            r1 r2 r3 r4 := by
  obtain ⟨i, hi, new, lam, mu, hR, hop, hf⟩ := h
  rw [← hf r1 h1, ← hf r2 h2, ← hf r3 h3, ← hf r4 h4]
  exact entry4_replaced hR hi hop L hP r1 r2 r3 r4 h1 h2 h3 h4

theorem Rewrite.assemble4_eq
    {B : Shell ℝ → Shell ℝ → Shell ℝ → Shell ℝ → Tab8 ℝ} (h : Rewrite b' b (fun _ => 1))
    (L : BlockLaws4 P B) (hP : ∀ j (hj : j < b.size), P b[j]) :
    assemble4 b' (fun j k l n => B b'[j]! b'[k]! b'[l]! b'[n]!)
      = assemble4 b (fun j k l n => B b[j]! b[k]! b[l]! b[n]!) :=
  assemble4_congr b b' _ _ h.total fun r1 r2 r3 r4 h1 h2 h3 h4 => by
    rw [h.entry4_eq L hP r1 r2 r3 r4 h1 h2 h3 h4, one_mul, one_mul, one_mul, one_mul]

theorem Rewrite.assemble4_getElem {f : ℕ → ℝ}
    {B : Shell ℝ → Shell ℝ → Shell ℝ → Shell ℝ → Tab8 ℝ} (h : Rewrite b' b f) (L : BlockLaws4 P B)
    (hP : ∀ j (hj : j < b.size), P b[j]) (r1 r2 r3 r4 : ℕ) (h1 : r1 < b.total) (h2 : r2 < b.total)
    (h3 : r3 < b.total) (h4 : r4 < b.total) :
    (assemble4 b' fun j k l n => B b'[j]! b'[k]! b'[l]! b'[n]!)[
        ((r1 * b.total + r2) * b.total + r3) * b.total + r4]!
      = f r1 * f r2 * f r3 * f r4
        * (assemble4 b fun j k l n => B b[j]! b[k]! b[l]! b[n]!)[
            ((r1 * b.total + r2) * b.total + r3) * b.total + r4]! :=
  assemble4_get_rel b b' _ _ h.total r1 r2 r3 r4 h1 h2 h3 h4 _
    (h.entry4_eq L hP r1 r2 r3 r4 h1 h2 h3 h4)

end FourIndex

/-! ## The evaluation arrays and the electron-repulsion array -/
section Arrays

/-- the `blk` argument with which `Driver.lean` calls `assemble1` for `"evalderiv"` -/
noncomputable def evalBlk (b : Basis ℝ) (be : Backend) (orders : Comp) (pts : Array (ℕ → ℝ))
    (j : ℕ) : Tab3 ℝ := evalBlock b[j]! be orders pts

theorem eval_blockLaws (be : Backend) (orders : Comp) (pts : Array (ℕ → ℝ)) (e : ℕ) :
    BlockLaws1 (fun _ => True) (fun s => evalBlock s be orders pts) e where
  frame := fun _ _ _ _ _ => trivial
  slot := (evalBlock_slotLinear Real.exp Real.sqrt Real.pi be orders pts e).on _

/-- positive exponents and Cartesian components of degree at most the angular momentum: what
`eriBlock_eq_rys` needs of each of the four shells -/
def Shell.EriReady (s : Shell ℝ) : Prop := (∀ k < s.nprim, 0 < s.exp! k) ∧ s.CompsLe

theorem Basis.WellFormed.eriReady {b : Basis ℝ} (hb : b.WellFormed) (j : ℕ) (hj : j < b.size) :
    b[j].EriReady :=
  ⟨fun k hk => hb.exp_pos j hj k hk, fun a ha => hb.comp_le j hj a ha⟩

theorem eri_blockLaws (boysT : ℝ → ℕ → Tab ℝ) :
    BlockLaws4 Shell.EriReady (fun sa sb sc sd => eriBlock boysT sa sb sc sd) where
  frame := fun s s' hf he hs => ⟨fun k hk => by
      obtain ⟨k', hk', e⟩ := he k hk
      rw [e]; exact hs.1 k' hk',
    fun a ha => (frame_degOK hf a).mpr (hs.2 a (by rw [← frame_ncart hf]; exact ha))⟩
  a := fun sb sc sd mb cb mc cc md cd pb pc pd hb hc hd =>
    (eriBlock_slotLinear_a Real.exp Real.sqrt Real.pi boysT sb sc sd mb cb mc cc md cd).mono
      fun s a h => EriOK.of_pos s sb sc sd a cb cc cd h.1.1 pb.1 pc.1 pd.1 (h.1.2 a h.2)
        (pb.2 cb hb) (pc.2 cc hc) (pd.2 cd hd)
  b := fun sa sc sd ma ca mc cc md cd pa pc pd ha hc hd =>
    (eriBlock_slotLinear_b Real.exp Real.sqrt Real.pi boysT sa sc sd ma ca mc cc md cd).mono
      fun s a h => EriOK.of_pos sa s sc sd ca a cc cd pa.1 h.1.1 pc.1 pd.1 (pa.2 ca ha)
        (h.1.2 a h.2) (pc.2 cc hc) (pd.2 cd hd)
  c := fun sa sb sd ma ca mb cb md cd pa pb pd ha hb hd =>
    (eriBlock_slotLinear_c Real.exp Real.sqrt Real.pi boysT sa sb sd ma ca mb cb md cd).mono
      fun s a h => EriOK.of_pos sa sb s sd ca cb a cd pa.1 pb.1 h.1.1 pd.1 (pa.2 ca ha)
        (pb.2 cb hb) (h.1.2 a h.2) (pd.2 cd hd)
  d := fun sa sb sc ma ca mb cb mc cc pa pb pc ha hb hc =>
    (eriBlock_slotLinear_d Real.exp Real.sqrt Real.pi boysT sa sb sc ma ca mb cb mc cc).mono
      fun s a h => EriOK.of_pos sa sb sc s ca cb cc a pa.1 pb.1 pc.1 h.1.1 (pa.2 ca ha)
        (pb.2 cb hb) (pc.2 cc hc) (h.1.2 a h.2)

/-! ### the evaluation array (values and derivatives of the basis functions at points) -/

/-- C13.1 -/
theorem eval_flat_splitColumns (be : Backend) (orders : Comp) (pts : Array (ℕ → ℝ)) (b : Basis ℝ)
    (i : ℕ) (hi : i < b.size) (nextra : ℕ) :
    assemble1 (b.splitColumns i) nextra (evalBlk (b.splitColumns i) be orders pts)
      = assemble1 b nextra (evalBlk b be orders pts) :=
  (Rewrite.splitColumns b i hi).assemble1_eq (eval_blockLaws be orders pts) (fun _ _ => trivial) nextra

/-- C13.2 -/
theorem eval_flat_permPrims (be : Backend) (orders : Comp) (pts : Array (ℕ → ℝ)) (b : Basis ℝ)
    (i : ℕ) (hi : i < b.size) (σ : ℕ → ℕ)
    (hmap : ∀ k < b[i].nprim, σ k < b[i].nprim)
    (hinj : ∀ k < b[i].nprim, ∀ k' < b[i].nprim, σ k = σ k' → k = k')
    (hseg : (b[i].permPrims σ).nseg = b[i].nseg) (nextra : ℕ) :
    assemble1 (b.permPrimsAt i σ) nextra (evalBlk (b.permPrimsAt i σ) be orders pts)
      = assemble1 b nextra (evalBlk b be orders pts) :=
  (Rewrite.permPrims b i hi σ hmap hinj hseg).assemble1_eq (eval_blockLaws be orders pts) (fun _ _ => trivial) nextra

/-- C13.3 -/
theorem eval_flat_splitPrim (be : Backend) (orders : Comp) (pts : Array (ℕ → ℝ)) (b : Basis ℝ)
    (i : ℕ) (hi : i < b.size) (j : ℕ) (x : ℝ) (hj : j < b[i].nprim) (nextra : ℕ) :
    assemble1 (b.splitPrimAt i j x) nextra (evalBlk (b.splitPrimAt i j x) be orders pts)
      = assemble1 b nextra (evalBlk b be orders pts) :=
  (Rewrite.splitPrim b i hi j x hj).assemble1_eq (eval_blockLaws be orders pts) (fun _ _ => trivial) nextra

/-- C13.4, `x > 0` -/
theorem eval_flat_scaleColumn_pos (be : Backend) (orders : Comp) (pts : Array (ℕ → ℝ))
    (b : Basis ℝ) (i : ℕ) (hi : i < b.size) (m : ℕ) (x : ℝ) (hx : 0 < x)
    (hn : b[i].unitNorm = true) (nextra : ℕ) :
    assemble1 (b.scaleColumnAt i m x) nextra (evalBlk (b.scaleColumnAt i m x) be orders pts)
      = assemble1 b nextra (evalBlk b be orders pts) :=
  (Rewrite.scaleColumn_pos b i hi m x hx hn).assemble1_eq (eval_blockLaws be orders pts) (fun _ _ => trivial) nextra

/-- C13.4, `x < 0` -/
theorem eval_flat_scaleColumn_neg (be : Backend) (orders : Comp) (pts : Array (ℕ → ℝ))
    (b : Basis ℝ) (i : ℕ) (hi : i < b.size) (m : ℕ) (x : ℝ) (hx : x < 0)
    (hn : b[i].unitNorm = true) (nextra r e : ℕ) (hr : r < b.total) (he : e < nextra) :
    (assemble1 (b.scaleColumnAt i m x) nextra
        (evalBlk (b.scaleColumnAt i m x) be orders pts))[r * nextra + e]!
      = colSign b i m r * (assemble1 b nextra (evalBlk b be orders pts))[r * nextra + e]! :=
  (Rewrite.scaleColumn_neg b i hi m x hx hn).assemble1_getElem (eval_blockLaws be orders pts) (fun _ _ => trivial)
    nextra r e hr he

/-! ### the electron-repulsion array `(ab|cd)` -/

/-- C13.1 -/
theorem eri_flat_splitColumns (boysT : ℝ → ℕ → Tab ℝ) (b : Basis ℝ) (hb : b.WellFormed)
    (i : ℕ) (hi : i < b.size) :
    assemble4 (b.splitColumns i) (eriBlk boysT (b.splitColumns i))
      = assemble4 b (eriBlk boysT b) :=
  (Rewrite.splitColumns b i hi).assemble4_eq (eri_blockLaws boysT) hb.eriReady

/-- C13.2 -/
theorem eri_flat_permPrims (boysT : ℝ → ℕ → Tab ℝ) (b : Basis ℝ) (hb : b.WellFormed)
    (i : ℕ) (hi : i < b.size) (σ : ℕ → ℕ)
    (hmap : ∀ k < b[i].nprim, σ k < b[i].nprim)
    (hinj : ∀ k < b[i].nprim, ∀ k' < b[i].nprim, σ k = σ k' → k = k')
    (hseg : (b[i].permPrims σ).nseg = b[i].nseg) :
    assemble4 (b.permPrimsAt i σ) (eriBlk boysT (b.permPrimsAt i σ))
      = assemble4 b (eriBlk boysT b) :=
  (Rewrite.permPrims b i hi σ hmap hinj hseg).assemble4_eq (eri_blockLaws boysT) hb.eriReady

/-- C13.3 -/
theorem eri_flat_splitPrim (boysT : ℝ → ℕ → Tab ℝ) (b : Basis ℝ) (hb : b.WellFormed)
    (i : ℕ) (hi : i < b.size) (j : ℕ) (x : ℝ) (hj : j < b[i].nprim) :
    assemble4 (b.splitPrimAt i j x) (eriBlk boysT (b.splitPrimAt i j x))
      = assemble4 b (eriBlk boysT b) :=
  (Rewrite.splitPrim b i hi j x hj).assemble4_eq (eri_blockLaws boysT) hb.eriReady

/-- C13.4, `x > 0` -/
theorem eri_flat_scaleColumn_pos (boysT : ℝ → ℕ → Tab ℝ) (b : Basis ℝ) (hb : b.WellFormed)
    (i : ℕ) (hi : i < b.size) (m : ℕ) (x : ℝ) (hx : 0 < x) (hn : b[i].unitNorm = true) :
    assemble4 (b.scaleColumnAt i m x) (eriBlk boysT (b.scaleColumnAt i m x))
      = assemble4 b (eriBlk boysT b) :=
  (Rewrite.scaleColumn_pos b i hi m x hx hn).assemble4_eq (eri_blockLaws boysT) hb.eriReady

/-- C13.4, `x < 0`: the entry is multiplied by `-1` once for each of its four indices that is a function of column `m` of shell `i` -/
theorem eri_flat_scaleColumn_neg (boysT : ℝ → ℕ → Tab ℝ) (b : Basis ℝ) (hb : b.WellFormed)
    (i : ℕ) (hi : i < b.size) (m : ℕ) (x : ℝ) (hx : x < 0) (hn : b[i].unitNorm = true)
    (r1 r2 r3 r4 : ℕ) (h1 : r1 < b.total) (h2 : r2 < b.total)
    (h3 : r3 < b.total) (h4 : r4 < b.total) :
    (assemble4 (b.scaleColumnAt i m x) (eriBlk boysT (b.scaleColumnAt i m x)))[
        ((r1 * b.total + r2) * b.total + r3) * b.total + r4]!
      = colSign b i m r1 * colSign b i m r2 * colSign b i m r3 * colSign b i m r4
        * (assemble4 b (eriBlk boysT b))[((r1 * b.total + r2) * b.total + r3) * b.total + r4]! :=
  (Rewrite.scaleColumn_neg b i hi m x hx hn).assemble4_getElem (eri_blockLaws boysT) hb.eriReady
    r1 r2 r3 r4 h1 h2 h3 h4

end Arrays

end GB
