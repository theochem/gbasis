import GBProofs.OneElecProofs
import GBProofs.GaussIntegral
import Mathlib.MeasureTheory.Integral.IntervalIntegral.FundThmCalculus
import Mathlib.Analysis.SpecialFunctions.Integrals.Basic
import Mathlib.Topology.Algebra.Polynomial
import Mathlib.Analysis.SpecialFunctions.Gaussian.FourierTransform
import Mathlib.MeasureTheory.Function.JacobianOneDim
import Mathlib.MeasureTheory.Integral.Prod

/-!
# Analytic meaning of the Rys-form specification (over ℝ)

* Part A: the Boys function `boys T m = ∫₀¹ t^{2m} e^{-T t²} dt`, its downward recurrence, and
  `boysF (boys T) m w = ∫₀¹ t^{2m} w(t²) e^{-T t²} dt`.
* Part B: the Rys polynomial `rys1` evaluated at `s ∈ [0,1)` is a normalised Gaussian integral.
* Part C: the base case of the nuclear-attraction integral,
  `∫ e^{-p|r-P|²}/|r-C| dr = (2π/p) F₀(p|P-C|²)` in a 3-dimensional real inner product space, by the
  Gaussian transform `1/a = (2/√π) ∫₀^∞ e^{-a²w²} dw`, Tonelli, and the Rys substitution
  `t = w/√(p+w²)` in the remaining `w`-integral.
-/
open MeasureTheory Real Polynomial intervalIntegral Set

namespace GB

/-! ## A. The Boys function -/

noncomputable def boys (T : ℝ) (m : ℕ) : ℝ := ∫ t in (0:ℝ)..1, t^(2*m) * Real.exp (-T * t^2)

lemma boys_integrand_continuous (T : ℝ) (m : ℕ) :
    Continuous fun t : ℝ => t^(2*m) * Real.exp (-T * t^2) := by
  fun_prop

theorem boys_zero_arg (m : ℕ) : boys 0 m = 1 / (2 * (m:ℝ) + 1) := by
  unfold boys
  simp only [neg_zero, zero_mul, Real.exp_zero, mul_one]
  rw [integral_pow]
  simp

lemma hasDerivAt_gauss (a c x : ℝ) :
    HasDerivAt (fun x : ℝ => Real.exp (-a * (x - c)^2))
      (Real.exp (-a * (x - c)^2) * (-a * (2 * (x - c)))) x := by
  simpa only [Nat.cast_ofNat, Nat.add_one_sub_one, pow_one, mul_one] using
    ((((hasDerivAt_id' x).sub_const c).fun_pow 2).const_mul (-a)).exp

lemma hasDerivAt_exp_neg_mul_sq (T t : ℝ) :
    HasDerivAt (fun t : ℝ => Real.exp (-T * t^2)) (Real.exp (-T * t^2) * (-T * (2 * t))) t := by
  simpa only [sub_zero] using hasDerivAt_gauss T 0 t

/-- integration by parts: `d/dt (t^{2m+1} e^{-T t²})` integrated over `[0, 1]` -/
theorem boys_downward (T : ℝ) (m : ℕ) :
    (2 * (m:ℝ) + 1) * boys T m = 2 * T * boys T (m+1) + Real.exp (-T) := by
  have hderiv : ∀ t ∈ Set.uIcc (0:ℝ) 1,
      HasDerivAt (fun t : ℝ => t^(2*m+1) * Real.exp (-T * t^2))
        ((2 * (m:ℝ) + 1) * (t^(2*m) * Real.exp (-T * t^2))
          - 2 * T * (t^(2*(m+1)) * Real.exp (-T * t^2))) t := by
    intro t _
    refine ((hasDerivAt_pow (2*m+1) t).mul (hasDerivAt_exp_neg_mul_sq T t)).congr_deriv ?_
    rw [Nat.add_sub_cancel]
    push_cast
    ring
  have h := integral_eq_sub_of_hasDerivAt hderiv (Continuous.intervalIntegrable (by fun_prop) _ _)
  rw [intervalIntegral.integral_sub (Continuous.intervalIntegrable (by fun_prop) _ _)
      (Continuous.intervalIntegrable (by fun_prop) _ _),
    intervalIntegral.integral_const_mul, intervalIntegral.integral_const_mul, one_pow, one_pow,
    mul_one, zero_pow (Nat.succ_ne_zero _), zero_mul, sub_zero, one_mul] at h
  unfold boys
  linear_combination h

theorem boys_pos (T : ℝ) (m : ℕ) : 0 < boys T m := by
  unfold boys
  apply intervalIntegral_pos_of_pos_on
  · exact (boys_integrand_continuous T m).intervalIntegrable _ _
  · intro t ht
    exact mul_pos (pow_pos ht.1 _) (Real.exp_pos _)
  · norm_num

theorem boys_anti (T : ℝ) (m : ℕ) : boys T (m+1) ≤ boys T m := by
  unfold boys
  apply integral_mono_on (by norm_num)
  · exact (boys_integrand_continuous T (m+1)).intervalIntegrable _ _
  · exact (boys_integrand_continuous T m).intervalIntegrable _ _
  · intro t ht
    apply mul_le_mul_of_nonneg_right _ (Real.exp_pos _).le
    exact pow_le_pow_of_le_one ht.1 ht.2 (by omega)

lemma boys_poly_integrand_continuous (T : ℝ) (m : ℕ) (w : ℝ[X]) :
    Continuous fun t : ℝ => t^(2*m) * w.eval (t^2) * Real.exp (-T * t^2) := by
  fun_prop

theorem boysF_eq_integral (T : ℝ) (m : ℕ) (w : ℝ[X]) :
    boysF (boys T) m w = ∫ t in (0:ℝ)..1, t^(2*m) * w.eval (t^2) * Real.exp (-T * t^2) := by
  induction w using Polynomial.induction_on' with
  | add a b ha hb =>
    rw [map_add, ha, hb, ← intervalIntegral.integral_add]
    · congr 1; ext t; simp only [eval_add]; ring
    · exact (boys_poly_integrand_continuous T m a).intervalIntegrable _ _
    · exact (boys_poly_integrand_continuous T m b).intervalIntegrable _ _
  | monomial n a =>
    rw [boysF_monomial, boys, ← intervalIntegral.integral_const_mul]
    congr 1; ext t
    simp only [eval_monomial]
    ring

/-! ## B. The Rys polynomial at a numeric point -/

section RingHom
variable {R R' : Type*} [CommRing R] [CommRing R']

lemma map_gm (φ : R →+* R') (h : R) (n : ℕ) : φ (gm h n) = gm (φ h) n := by
  induction n using Nat.twoStepInduction with
  | zero => rw [gm, gm, RingHom.map_one]
  | one => rw [gm, gm, RingHom.map_zero]
  | more n ih _ =>
    rw [gm, gm, RingHom.map_mul, RingHom.map_mul, RingHom.map_add, map_natCast, RingHom.map_one, ih]

lemma map_Gh (φ : R →+* R') (h : R) (q : R[X]) : φ (Gh h q) = Gh (φ h) (q.map φ) := by
  induction q using Polynomial.induction_on' with
  | add a b ha hb =>
    rw [LinearMap.map_add, RingHom.map_add, Polynomial.map_add, LinearMap.map_add, ha, hb]
  | monomial n a =>
    rw [Gh_monomial, Polynomial.map_monomial, Gh_monomial, RingHom.map_mul, map_gm]

theorem map_S2 (φ : R →+* R') (h PA PB : R) (i j : ℕ) :
    φ (S2 h PA PB i j) = S2 (φ h) (φ PA) (φ PB) i j := by
  unfold S2
  rw [map_Gh]
  simp only [Polynomial.map_mul, Polynomial.map_pow, Polynomial.map_add, Polynomial.map_X,
    Polynomial.map_C]

end RingHom

theorem rys1_eval {K : Type} [Field K] (p PA PB PC s : K) (i j : ℕ) :
    (rys1 p PA PB PC i j).eval s
      = S2 ((1/(2*p)) * (1 - s)) (PA - s * PC) (PB - s * PC) i j := by
  rw [rys1, ← coe_evalRingHom, map_S2]
  simp only [coe_evalRingHom, eval_mul, eval_sub, eval_C, eval_X, eval_one]

section FieldVersion
variable {K : Type} [Field K] [CharZero K]

lemma gm_eq_gmom (p : K) : ∀ n, gm (1/(2*p)) n = gmom p n
  | 0 => rfl
  | 1 => rfl
  | (n+2) => by simp only [gm, gmom, gm_eq_gmom p n]; ring

lemma Gh_eq_G (p : K) (q : K[X]) : Gh (1/(2*p)) q = G p q := by
  induction q using Polynomial.induction_on' with
  | add a b ha hb => rw [map_add, map_add, ha, hb]
  | monomial n a => rw [Gh_monomial, G_monomial, gm_eq_gmom]

theorem S2_eq_G (p PA PB : K) (i j : ℕ) :
    S2 (1/(2*p)) PA PB i j = G p ((X + C PA)^i * (X + C PB)^j) := Gh_eq_G p _

end FieldVersion

theorem rys1_eval_eq_G (p PA PB PC s : ℝ) (hs1 : s < 1) (i j : ℕ) :
    (rys1 p PA PB PC i j).eval s
      = G (p / (1 - s)) ((X + C (PA - s * PC))^i * (X + C (PB - s * PC))^j) := by
  have h1 : (1 - s) ≠ 0 := by linarith
  rw [rys1_eval, ← S2_eq_G]
  congr 1
  rw [one_div, one_div, mul_inv, mul_inv, inv_div, div_eq_mul_inv]
  ring

theorem rys1_eval_eq_integral (p PA PB PC s : ℝ) (hp : 0 < p) (hs1 : s < 1) (i j : ℕ) :
    (rys1 p PA PB PC i j).eval s
      = (∫ x : ℝ, (x + (PA - s * PC))^i * (x + (PB - s * PC))^j * exp (-(p / (1 - s)) * x^2))
        / (∫ x : ℝ, exp (-(p / (1 - s)) * x^2)) := by
  have hb : 0 < p / (1 - s) := div_pos hp (by linarith)
  have hq := integral_poly_mul_gauss hb ((X + C (PA - s * PC))^i * (X + C (PB - s * PC))^j)
  simp only [eval_mul, eval_pow, eval_add, eval_X, eval_C] at hq
  have hsq : √(π / (p / (1 - s))) ≠ 0 := (Real.sqrt_pos.mpr (div_pos Real.pi_pos hb)).ne'
  rw [hq, integral_gaussian, rys1_eval_eq_G p PA PB PC s hs1, mul_div_cancel_left₀ _ hsq]

theorem gauss_product_exp (p u2 P Cc x : ℝ) (h : p + u2 ≠ 0) :
    exp (-p * (x - P)^2) * exp (-u2 * (x - Cc)^2)
      = exp (-(p * u2 / (p + u2)) * (P - Cc)^2)
        * exp (-(p + u2) * (x - (p * P + u2 * Cc) / (p + u2))^2) := by
  rw [← Real.exp_add, ← Real.exp_add]
  congr 1
  field_simp
  ring

lemma integral_gauss_product {p u2 : ℝ} (h : 0 < p + u2) (P Cc : ℝ) :
    ∫ x : ℝ, exp (-p * (x - P)^2) * exp (-u2 * (x - Cc)^2)
      = exp (-(p * u2 / (p + u2)) * (P - Cc)^2) * √(π / (p + u2)) := by
  simp_rw [gauss_product_exp p u2 P Cc _ h.ne']
  rw [MeasureTheory.integral_const_mul,
    integral_sub_right_eq_self (fun x : ℝ => exp (-(p + u2) * x^2)), integral_gaussian]

/-- with `u² = p s/(1-s)` the total exponent is `p/(1-s)` -/
lemma rys_exponent (p s : ℝ) (hs1 : s < 1) : p + p * s / (1 - s) = p / (1 - s) := by
  have h1 : (1 - s) ≠ 0 := by linarith
  field_simp
  ring

/-- with `u² = p s/(1-s)` the product centre is `P - s (P - C)` -/
lemma rys_centre (p s P Cc : ℝ) (hp : p ≠ 0) (hs1 : s < 1) :
    (p * P + p * s / (1 - s) * Cc) / (p + p * s / (1 - s)) = P - s * (P - Cc) := by
  have h1 : (1 - s) ≠ 0 := by linarith
  rw [rys_exponent p s hs1]
  field_simp
  ring

/-- In terms of the original Gaussians: with `u² = p s/(1-s)`, that is `s = u²/(p+u²)` as in
`rysSub`, the weight is the primitive product `e^{-p(x-P)²}` times the factor `e^{-u²(x-C)²}` that the
Gaussian transform of `1/|r-C|` contributes. -/
theorem rys1_eval_eq_weighted_integral (p P A B Cc s : ℝ) (hp : 0 < p) (hs1 : s < 1) (i j : ℕ) :
    (rys1 p (P - A) (P - B) (P - Cc) i j).eval s
      = (∫ x : ℝ, (x - A)^i * (x - B)^j
            * (exp (-p * (x - P)^2) * exp (-(p * s / (1 - s)) * (x - Cc)^2)))
        / (∫ x : ℝ, exp (-p * (x - P)^2) * exp (-(p * s / (1 - s)) * (x - Cc)^2)) := by
  have h1 : 0 < 1 - s := by linarith
  have hb : 0 < p / (1 - s) := div_pos hp h1
  have hne : p + p * s / (1 - s) ≠ 0 := by rw [rys_exponent p s hs1]; exact hb.ne'
  obtain ⟨E, hE⟩ : ∃ E : ℝ, E = exp (-(p * (p * s / (1 - s)) / (p / (1 - s))) * (P - Cc)^2) :=
    ⟨_, rfl⟩
  have hE0 : E ≠ 0 := by rw [hE]; exact (Real.exp_pos _).ne'
  obtain ⟨P', hP'⟩ : ∃ P' : ℝ, P' = P - s * (P - Cc) := ⟨_, rfl⟩
  have hprod : ∀ x : ℝ, exp (-p * (x - P)^2) * exp (-(p * s / (1 - s)) * (x - Cc)^2)
      = E * exp (-(p / (1 - s)) * (x - P')^2) := by
    intro x
    rw [gauss_product_exp p _ P Cc x hne, rys_centre p s P Cc hp.ne' hs1, rys_exponent p s hs1,
      hE, hP']
  simp_rw [hprod]
  rw [rys1_eval_eq_integral p _ _ _ s hp hs1]
  rw [← integral_add_right_eq_self (μ := volume)
      (fun x : ℝ => (x - A)^i * (x - B)^j * (E * exp (-(p / (1 - s)) * (x - P')^2))) P',
    ← integral_add_right_eq_self (μ := volume)
      (fun x : ℝ => E * exp (-(p / (1 - s)) * (x - P')^2)) P']
  have e1 : ∀ x : ℝ, (x + P' - A)^i * (x + P' - B)^j * (E * exp (-(p / (1 - s)) * (x + P' - P')^2))
      = E * ((x + (P - A - s * (P - Cc)))^i * (x + (P - B - s * (P - Cc)))^j
          * exp (-(p / (1 - s)) * x^2)) := by
    intro x
    rw [add_sub_cancel_right, hP']
    ring
  have e2 : ∀ x : ℝ, E * exp (-(p / (1 - s)) * (x + P' - P')^2)
      = E * exp (-(p / (1 - s)) * x^2) := by
    intro x; rw [add_sub_cancel_right]
  simp_rw [e1, e2]
  rw [MeasureTheory.integral_const_mul, MeasureTheory.integral_const_mul,
    mul_div_mul_left _ _ hE0]

/-! ## C. The Coulomb integral of an s-type Gaussian -/

section Coulomb
variable {V : Type*} [NormedAddCommGroup V] [InnerProductSpace ℝ V]

open scoped RealInnerProductSpace

lemma norm_sq_product_rule (p u : ℝ) (h : p + u ≠ 0) (r P Cc : V) :
    p * ‖r - P‖^2 + u * ‖r - Cc‖^2
      = (p * u / (p + u)) * ‖P - Cc‖^2
        + (p + u) * ‖r - (p + u)⁻¹ • (p • P + u • Cc)‖^2 := by
  simp only [← real_inner_self_eq_norm_sq, inner_sub_left, inner_sub_right, inner_add_left,
    inner_add_right, real_inner_smul_left, real_inner_smul_right]
  rw [real_inner_comm r P, real_inner_comm r Cc, real_inner_comm P Cc]
  field_simp
  ring

lemma gauss3_product_pointwise (p u : ℝ) (h : p + u ≠ 0) (r P Cc : V) :
    exp (-p * ‖r - P‖^2) * exp (-u * ‖r - Cc‖^2)
      = exp (-(p * u / (p + u)) * ‖P - Cc‖^2)
        * exp (-(p + u) * ‖r - (p + u)⁻¹ • (p • P + u • Cc)‖^2) := by
  rw [← Real.exp_add, ← Real.exp_add, neg_mul, neg_mul, neg_mul, neg_mul, ← neg_add, ← neg_add,
    norm_sq_product_rule p u h r P Cc]

variable [FiniteDimensional ℝ V] [MeasurableSpace V] [BorelSpace V]

lemma rpow_three_half (x : ℝ) (hx : 0 < x) : x ^ ((3:ℝ)/2) = x * √x := by
  rw [show (3:ℝ)/2 = 1 + 1/2 by norm_num, Real.rpow_add hx, Real.rpow_one, Real.sqrt_eq_rpow]


lemma integrable_gauss_norm {b : ℝ} (hb : 0 < b) : Integrable fun v : V => exp (-b * ‖v‖^2) := by
  by_contra hni
  have h0 := integral_undef hni
  rw [GaussianFourier.integral_rexp_neg_mul_sq_norm hb] at h0
  exact (Real.rpow_pos_of_pos (div_pos Real.pi_pos hb) _).ne' h0

lemma integrable_gauss3_product (p u : ℝ) (hp : 0 < p) (hu : 0 ≤ u) (P Cc : V) :
    Integrable fun r : V => exp (-p * ‖r - P‖^2) * exp (-u * ‖r - Cc‖^2) := by
  have hpu : 0 < p + u := by linarith
  simp_rw [gauss3_product_pointwise p u hpu.ne' _ P Cc]
  exact ((integrable_gauss_norm hpu).comp_sub_right _).const_mul _

theorem gauss3_product_integral (p u : ℝ) (hp : 0 < p) (hu : 0 ≤ u) (P Cc : V) :
    ∫ r : V, exp (-p * ‖r - P‖^2) * exp (-u * ‖r - Cc‖^2)
      = exp (-(p * u / (p + u)) * ‖P - Cc‖^2)
        * (π / (p + u)) ^ (Module.finrank ℝ V / 2 : ℝ) := by
  have hpu : 0 < p + u := by linarith
  simp_rw [gauss3_product_pointwise p u hpu.ne' _ P Cc]
  rw [MeasureTheory.integral_const_mul,
    integral_sub_right_eq_self (fun v : V => exp (-(p + u) * ‖v‖^2)),
    GaussianFourier.integral_rexp_neg_mul_sq_norm hpu]

/-- holds also at `a = 0`: `1/0 = 0`, and the integrand `1` is not integrable, so that the Bochner
integral is `0` -/
theorem inv_eq_integral_gauss (a : ℝ) (ha : 0 ≤ a) :
    1 / a = 2 / √π * ∫ w in Ioi (0:ℝ), exp (-a^2 * w^2) := by
  rw [integral_gaussian_Ioi, Real.sqrt_div Real.pi_pos.le, Real.sqrt_sq ha]
  have : √π ≠ 0 := (Real.sqrt_pos.mpr Real.pi_pos).ne'
  field_simp

theorem div_eq_integral_gauss (c a : ℝ) (ha : 0 ≤ a) :
    c / a = 2 / √π * ∫ w in Ioi (0:ℝ), c * exp (-w^2 * a^2) := by
  rw [MeasureTheory.integral_const_mul, div_eq_mul_one_div, inv_eq_integral_gauss a ha,
    mul_left_comm]
  simp_rw [neg_mul, mul_comm (a^2)]

theorem integrable_uncurry_of_nonneg {X Y : Type*} [MeasurableSpace X] [MeasurableSpace Y]
    {μ : Measure X} {ν : Measure Y} [SFinite μ] [SFinite ν] {F : X → Y → ℝ}
    (hm : AEStronglyMeasurable (Function.uncurry F) (μ.prod ν)) (hnn : ∀ x y, 0 ≤ F x y)
    (hint : ∀ y, Integrable (fun x => F x y) μ) (hI : Integrable (fun y => ∫ x, F x y ∂μ) ν) :
    Integrable (Function.uncurry F) (μ.prod ν) := by
  refine (integrable_prod_iff' hm).2 ⟨Filter.Eventually.of_forall hint, ?_⟩
  simpa only [Function.uncurry_apply_pair, Real.norm_of_nonneg (hnn _ _)] using hI

/-- integrability of a signed product `T·G`, `G ≥ 0`, follows from that of the non-negative `G` and
`T²·G` -/
lemma abs_mul_le_add_sq_mul (t : ℝ) {g : ℝ} (hg : 0 ≤ g) : |t * g| ≤ g + t^2 * g := by
  rw [abs_mul, abs_of_nonneg hg, ← one_add_mul, ← sq_abs t]
  refine mul_le_mul_of_nonneg_right ?_ hg
  linarith [sq_nonneg (|t| - 1), abs_nonneg t]

end Coulomb

/-! ### The Rys substitution `t = w/√(p+w²)` -/

/-- maps `(0,∞)` bijectively onto `(0,1)` (`rysSub_image`, `rysSub_injOn`) -/
noncomputable def rysSub (p w : ℝ) : ℝ := w / √(p + w^2)

lemma rysSub_sq (p : ℝ) (hp : 0 < p) (w : ℝ) : (rysSub p w)^2 = w^2 / (p + w^2) := by
  have hq : 0 < p + w^2 := by positivity
  rw [rysSub, div_pow, Real.sq_sqrt hq.le]

lemma rysSub_hasDerivAt (p : ℝ) (hp : 0 < p) (w : ℝ) :
    HasDerivAt (rysSub p) (p / ((p + w^2) * √(p + w^2))) w := by
  have hq : 0 < p + w^2 := by positivity
  have hsq : √(p + w^2) ≠ 0 := (Real.sqrt_pos.mpr hq).ne'
  have h1 : HasDerivAt (fun w : ℝ => p + w^2) (2 * w) w := by
    simpa using ((hasDerivAt_pow 2 w).const_add p)
  have h2 := h1.sqrt hq.ne'
  have h3 := (hasDerivAt_id w).div h2 hsq
  have e : p / ((p + w^2) * √(p + w^2))
      = (1 * √(p + w^2) - id w * (2 * w / (2 * √(p + w^2)))) / √(p + w^2) ^ 2 := by
    rw [Real.sq_sqrt hq.le, id]
    field_simp
    rw [Real.sq_sqrt hq.le]
    ring
  rw [e]
  exact h3

lemma rysSub_image (p : ℝ) (hp : 0 < p) : rysSub p '' Ioi 0 = Ioo 0 1 := by
  ext t
  constructor
  · rintro ⟨w, hw, rfl⟩
    have hw0 : (0:ℝ) < w := hw
    have hq : 0 < p + w^2 := by positivity
    have hsq : 0 < √(p + w^2) := Real.sqrt_pos.mpr hq
    refine ⟨div_pos hw0 hsq, ?_⟩
    rw [rysSub, div_lt_one hsq, Real.lt_sqrt hw0.le]
    linarith
  · rintro ⟨ht0, ht1⟩
    have h1 : 0 < 1 - t^2 := sub_pos.2 (pow_lt_one₀ ht0.le ht1 two_ne_zero)
    have hs1 : 0 < √(1 - t^2) := Real.sqrt_pos.mpr h1
    have hsp : 0 < √p := Real.sqrt_pos.mpr hp
    refine ⟨√p * t / √(1 - t^2), div_pos (mul_pos hsp ht0) hs1, ?_⟩
    have hw2 : p + (√p * t / √(1 - t^2))^2 = p / (1 - t^2) := by
      rw [div_pow, mul_pow, Real.sq_sqrt hp.le, Real.sq_sqrt h1.le]
      field_simp
      ring
    rw [rysSub, hw2, Real.sqrt_div hp.le]
    field_simp

lemma rysSub_injOn (p : ℝ) (hp : 0 < p) : InjOn (rysSub p) (Ioi 0) := by
  have key : ∀ w : ℝ, w^2 = p / (1 - (rysSub p w)^2) - p := by
    intro w
    have hq : 0 < p + w^2 := by positivity
    rw [rysSub_sq p hp]
    have : 1 - w^2 / (p + w^2) = p / (p + w^2) := by field_simp; ring
    rw [this]
    field_simp
    ring
  intro w1 h1 w2 h2 h
  have h1' : (0:ℝ) < w1 := h1
  have h2' : (0:ℝ) < w2 := h2
  have : w1^2 = w2^2 := by rw [key w1, key w2, h]
  exact (pow_left_inj₀ h1'.le h2'.le (by norm_num)).mp this

theorem integral_rysSub (p : ℝ) (hp : 0 < p) (g : ℝ → ℝ) :
    ∫ t in Ioo (0:ℝ) 1, g t
      = ∫ w in Ioi (0:ℝ), p / ((p + w^2) * √(p + w^2)) * g (rysSub p w) := by
  rw [← rysSub_image p hp,
    integral_image_eq_integral_abs_deriv_smul measurableSet_Ioi
      (fun w _ => (rysSub_hasDerivAt p hp w).hasDerivWithinAt) (rysSub_injOn p hp) g]
  refine setIntegral_congr_fun measurableSet_Ioi fun w _ => ?_
  have hq : 0 < p + w^2 := by positivity
  have : 0 < p / ((p + w^2) * √(p + w^2)) := by positivity
  simp only [abs_of_pos this, smul_eq_mul]

theorem integrableOn_rysSub (p : ℝ) (hp : 0 < p) (g : ℝ → ℝ) (hg : IntegrableOn g (Ioo 0 1)) :
    IntegrableOn (fun w => p / ((p + w^2) * √(p + w^2)) * g (rysSub p w)) (Ioi 0) := by
  rw [← rysSub_image p hp,
    integrableOn_image_iff_integrableOn_abs_deriv_smul measurableSet_Ioi
      (fun w _ => (rysSub_hasDerivAt p hp w).hasDerivWithinAt) (rysSub_injOn p hp) g] at hg
  refine hg.congr_fun (fun w _ => ?_) measurableSet_Ioi
  have hq : 0 < p + w^2 := by positivity
  have : 0 < p / ((p + w^2) * √(p + w^2)) := by positivity
  simp only [abs_of_pos this, smul_eq_mul]

/-! ### The `w`-integral with a polynomial in `s = w²/(p+w²)` -/

/-- the `w`-integrand left after the spatial integration, in the substituted form -/
lemma rysK_poly_eq (p D w : ℝ) (hp : 0 < p) (Q : ℝ[X]) :
    exp (-(p * w^2 / (p + w^2)) * D) * (π / (p + w^2)) ^ ((3:ℝ)/2) * Q.eval (w^2 / (p + w^2))
      = (π * √π / p) * (p / ((p + w^2) * √(p + w^2))
          * (exp (-(p * D) * (rysSub p w)^2) * Q.eval ((rysSub p w)^2))) := by
  have hq : 0 < p + w^2 := by positivity
  have hsq : 0 < √(p + w^2) := Real.sqrt_pos.mpr hq
  rw [rpow_three_half _ (div_pos pi_pos hq), Real.sqrt_div pi_pos.le, rysSub_sq p hp,
    show -(p * w^2 / (p + w^2)) * D = -(p * D) * (w^2 / (p + w^2)) by ring]
  generalize Q.eval _ = y
  generalize rexp _ = E
  field_simp

lemma integrableOn_rysK_poly (p D : ℝ) (hp : 0 < p) (Q : ℝ[X]) :
    IntegrableOn (fun w : ℝ => exp (-(p * w^2 / (p + w^2)) * D) * (π / (p + w^2)) ^ ((3:ℝ)/2)
      * Q.eval (w^2 / (p + w^2))) (Ioi 0) := by
  simp_rw [rysK_poly_eq p D _ hp]
  apply Integrable.const_mul
  apply integrableOn_rysSub p hp (fun t => exp (-(p * D) * t^2) * Q.eval (t^2))
  exact (Continuous.integrableOn_Icc (by fun_prop)).mono_set Ioo_subset_Icc_self

theorem integral_rysK_poly (p D : ℝ) (hp : 0 < p) (Q : ℝ[X]) :
    ∫ w in Ioi (0:ℝ), exp (-(p * w^2 / (p + w^2)) * D) * (π / (p + w^2)) ^ ((3:ℝ)/2)
        * Q.eval (w^2 / (p + w^2))
      = (π * √π / p) * boysF (boys (p * D)) 0 Q := by
  simp_rw [rysK_poly_eq p D _ hp]
  rw [MeasureTheory.integral_const_mul,
    ← integral_rysSub p hp (fun t => exp (-(p * D) * t^2) * Q.eval (t^2)),
    boysF_eq_integral, intervalIntegral.integral_of_le zero_le_one, integral_Ioc_eq_integral_Ioo]
  congr 2
  ext t
  simp only [mul_zero, pow_zero, one_mul]
  ring

section Coulomb2
variable {V : Type*} [NormedAddCommGroup V] [InnerProductSpace ℝ V] [FiniteDimensional ℝ V]
  [MeasurableSpace V] [BorelSpace V]

/-- The start value `[0|0]^{(0)}` of the point-charge integrals: `2π/p` and `F₀(p|PC|²)` are the
`pref` (without the factor `e^{-ab/p |AB|²}` of the Gaussian product) and the `F` of
`oneElecBlockOrdered`. -/
theorem coulomb_s_integral (h3 : Module.finrank ℝ V = 3) (p : ℝ) (hp : 0 < p) (P Cc : V) :
    ∫ r : V, exp (-p * ‖r - P‖^2) / ‖r - Cc‖ = (2 * π / p) * boys (p * ‖P - Cc‖^2) 0 := by
  have hK := fun w : ℝ => gauss3_product_integral p (w^2) hp (sq_nonneg w) P Cc
  -- the `w`-integral is `integral_rysK_poly` for the constant polynomial `1`
  have hI := integral_rysK_poly p (‖P - Cc‖^2) hp 1
  have hI' := integrableOn_rysK_poly p (‖P - Cc‖^2) hp 1
  simp only [eval_one, mul_one, boysF_one] at hI hI'
  simp_rw [div_eq_integral_gauss _ _ (norm_nonneg _)]
  rw [MeasureTheory.integral_const_mul, integral_integral_swap]
  · simp_rw [hK, h3, Nat.cast_ofNat]
    rw [hI]
    have hsp : √π ≠ 0 := (Real.sqrt_pos.mpr pi_pos).ne'
    field_simp
  · refine integrable_uncurry_of_nonneg (Continuous.aestronglyMeasurable (by fun_prop))
      (fun r w => (mul_pos (Real.exp_pos _) (Real.exp_pos _)).le)
      (fun w => integrable_gauss3_product p (w^2) hp (sq_nonneg w) P Cc) ?_
    simp_rw [hK, h3, Nat.cast_ofNat]
    exact hI'

end Coulomb2


end GB
