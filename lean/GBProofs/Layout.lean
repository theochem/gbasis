import GBModel.Assemble
import Mathlib.Data.List.Basic
import Mathlib.Tactic.Ring

/-!
# Layout of assembled arrays: *shell, then segment, then component*

The order C01 documents.  `Basis.locate` inverts `(i, m, f) ↦ offset i + m · nfun + f`; the entry of a
two-index array at such a position is the entry of the normalised, transformed block of the shell pair
(`entry2_layout`), and `assemble2` is the row-major flat array of these entries.  Bases with the same
shape number their functions in the same way, and the array of two runs of consecutive shells of bigger
bases is a sub-array of the array of those (`IsRun`, `entry2_of_runs`), in particular of the array of
the union basis `B₁ ++ B₂`.
-/
namespace GB
variable {K : Type}

/-! ## one position of a mixed-radix index

Every flat index of this development (`m · nfun + f` inside a shell, `(r · nc + c) · ne + e` in an
array) is built by `a ↦ a · n + e`, `e < n`; these four facts about one such step are all the
index arithmetic there is. -/

theorem mul_add_lt {a m e n : Nat} (ha : a < m) (he : e < n) : a * n + e < m * n :=
  calc a * n + e < a * n + n := Nat.add_lt_add_left he _
    _ = (a + 1) * n := (Nat.succ_mul a n).symm
    _ ≤ m * n := Nat.mul_le_mul_right n ha

theorem mul_add_div_self {a n e : Nat} (he : e < n) : (a * n + e) / n = a := by
  rw [Nat.add_comm, Nat.add_mul_div_right _ _ (Nat.zero_lt_of_lt he), Nat.div_eq_of_lt he,
    Nat.zero_add]

theorem mul_add_mod_self {a n e : Nat} (he : e < n) : (a * n + e) % n = e := by
  rw [Nat.add_comm, Nat.add_mul_mod_self_right, Nat.mod_eq_of_lt he]

theorem mul_add_div_mul {a n e : Nat} (k : Nat) (he : e < n) : (a * n + e) / (k * n) = a / k := by
  rw [Nat.mul_comm k n, ← Nat.div_div_eq_div_mul, mul_add_div_self he]

/-! ## sums of shell sizes -/

theorem foldl_size_eq (l : List (Shell K)) (a : Nat) :
    l.foldl (fun n s => n + s.size) a = a + (l.map Shell.size).sum := by
  induction l generalizing a with
  | nil => simp
  | cons x xs ih => simp [ih, Nat.add_assoc]

theorem total_eq_sum (b : Basis K) : b.total = (b.toList.map Shell.size).sum := by
  unfold Basis.total
  rw [← Array.foldl_toList, foldl_size_eq]; simp

theorem offset_eq_sum (b : Basis K) (i : Nat) :
    b.offset i = ((b.toList.take i).map Shell.size).sum := by
  unfold Basis.offset
  rw [foldl_size_eq]; simp

theorem offset_zero (b : Basis K) : b.offset 0 = 0 := by
  simp [offset_eq_sum]

theorem offset_succ (b : Basis K) (i : Nat) (hi : i < b.size) :
    b.offset (i + 1) = b.offset i + b[i].size := by
  have hl : i < b.toList.length := by simpa using hi
  simp only [offset_eq_sum]
  rw [List.take_succ_eq_append_getElem hl]
  simp

theorem offset_of_size_le (b : Basis K) (i : Nat) (hi : b.size ≤ i) : b.offset i = b.total := by
  rw [total_eq_sum, offset_eq_sum, List.take_of_length_le (by simpa using hi)]

theorem total_eq_offset_size (b : Basis K) : b.total = b.offset b.size :=
  (offset_of_size_le b b.size (Nat.le_refl _)).symm

theorem offset_le_succ (b : Basis K) (i : Nat) : b.offset i ≤ b.offset (i + 1) := by
  by_cases hi : i < b.size
  · rw [offset_succ b i hi]; exact Nat.le_add_right _ _
  · rw [offset_of_size_le b i (by omega), offset_of_size_le b (i + 1) (by omega)]

theorem offset_mono (b : Basis K) {i j : Nat} (hij : i ≤ j) : b.offset i ≤ b.offset j :=
  monotone_nat_of_le_succ (offset_le_succ b) hij

theorem offset_le_total (b : Basis K) (i : Nat) : b.offset i ≤ b.total := by
  rw [← offset_of_size_le b (max i b.size) (Nat.le_max_right _ _)]
  exact offset_mono b (Nat.le_max_left _ _)

theorem offset_add_size_le_total (b : Basis K) (i : Nat) (hi : i < b.size) :
    b.offset i + b[i].size ≤ b.total := by
  rw [← offset_succ b i hi]; exact offset_le_total b (i + 1)

theorem exists_offset_add (b : Basis K) (r : Nat) (hr : r < b.total) :
    ∃ (i : Nat) (hi : i < b.size) (x : Nat), x < b[i].size ∧ r = b.offset i + x := by
  have h : ∀ n, n ≤ b.size → r < b.offset n →
      ∃ (i : Nat) (hi : i < b.size) (x : Nat), x < b[i].size ∧ r = b.offset i + x := by
    intro n
    induction n with
    | zero => intro _ h0; rw [offset_zero] at h0; omega
    | succ n ih =>
      intro hn h1
      by_cases hlt : r < b.offset n
      · exact ih (by omega) hlt
      · rw [offset_succ b n hn] at h1
        exact ⟨n, hn, r - b.offset n, by omega, by omega⟩
  exact h b.size (Nat.le_refl _) (total_eq_offset_size b ▸ hr)

/-! ## `locate` -/

/-- the loop of `locate` keeps `offset k + r` -/
theorem locate_go_offset (b : Basis K) (i : Nat) (hi : i < b.size) (x : Nat)
    (hx : x < b[i].size) :
    ∀ (fuel k r : Nat), k ≤ i → i < k + fuel → b.offset k + r = b.offset i + x →
      Basis.locate.go b k fuel r = (i, x / b[i].nfun, x % b[i].nfun) := by
  intro fuel
  induction fuel with
  | zero => intro k r h1 h2; omega
  | succ fuel ih =>
    intro k r hk hf hr
    have hkb : k < b.size := Nat.lt_of_le_of_lt hk hi
    rw [Basis.locate.go, Array.getElem?_eq_getElem hkb]
    simp only
    rcases Nat.eq_or_lt_of_le hk with rfl | hlt
    · rw [Nat.add_left_cancel hr, if_pos hx]
    · have hm : b.offset k + b[k].size ≤ b.offset i := offset_succ b k hkb ▸ offset_mono b hlt
      rw [if_neg (by omega)]
      exact ih (k + 1) (r - b[k].size) hlt (by omega) (by rw [offset_succ b k hkb]; omega)

theorem locate_offset' (b : Basis K) (i : Nat) (hi : i < b.size) (x : Nat) (hx : x < b[i].size) :
    b.locate (b.offset i + x) = (i, x / b[i].nfun, x % b[i].nfun) := by
  unfold Basis.locate
  apply locate_go_offset b i hi x hx b.size 0 (b.offset i + x) (Nat.zero_le _) (by omega)
  rw [offset_zero]; omega

theorem seg_fun_lt_size {s : Shell K} {m f : Nat} (hm : m < s.nseg) (hf : f < s.nfun) :
    m * s.nfun + f < s.size :=
  mul_add_lt hm hf

/-- C01, the documented order: the basis index of function `f` of segment `m` of shell `i` is
`offset i + m · nfun + f` -/
theorem locate_offset (b : Basis K) (i : Nat) (hi : i < b.size) (m f : Nat)
    (hm : m < b[i].nseg) (hf : f < b[i].nfun) :
    b.locate (b.offset i + m * b[i].nfun + f) = (i, m, f) := by
  rw [Nat.add_assoc, locate_offset' b i hi _ (seg_fun_lt_size hm hf),
    mul_add_div_self hf, mul_add_mod_self hf]

theorem offset_index_lt (b : Basis K) (i : Nat) (hi : i < b.size) {m f : Nat}
    (hm : m < b[i].nseg) (hf : f < b[i].nfun) : b.offset i + m * b[i].nfun + f < b.total :=
  calc b.offset i + m * b[i].nfun + f < b.offset i + b[i].size := by
        rw [Nat.add_assoc]; exact Nat.add_lt_add_left (seg_fun_lt_size hm hf) _
    _ ≤ b.total := offset_add_size_le_total b i hi

/-- no positivity hypothesis is needed: `locate` skips empty shells -/
theorem locate_cases (b : Basis K) (r : Nat) (hr : r < b.total) :
    ∃ (i : Nat) (hi : i < b.size) (m f : Nat), m < b[i].nseg ∧ f < b[i].nfun ∧
      r = b.offset i + m * b[i].nfun + f ∧ b.locate r = (i, m, f) := by
  obtain ⟨i, hi, x, hx, rfl⟩ := exists_offset_add b r hr
  have hx' : x < b[i].nfun * b[i].nseg := Nat.mul_comm b[i].nseg _ ▸ hx
  refine ⟨i, hi, x / b[i].nfun, x % b[i].nfun, Nat.div_lt_of_lt_mul hx',
    Nat.mod_lt _ (Nat.pos_of_mul_pos_right (Nat.zero_lt_of_lt hx')), ?_, locate_offset' b i hi x hx⟩
  rw [Nat.add_assoc, Nat.mul_comm, Nat.div_add_mod]

theorem locate_lt (b : Basis K) (r : Nat) (hr : r < b.total) :
    ∃ (hi : (b.locate r).1 < b.size),
      (b.locate r).2.1 < b[(b.locate r).1].nseg ∧
      (b.locate r).2.2 < b[(b.locate r).1].nfun ∧
      b.offset (b.locate r).1 + (b.locate r).2.1 * b[(b.locate r).1].nfun + (b.locate r).2.2 = r := by
  obtain ⟨i, hi, m, f, hm, hf, hr', hloc⟩ := locate_cases b r hr
  rw [hloc]
  exact ⟨hi, hm, hf, hr'.symm⟩

/-! ## bases with the same shape -/

theorem offset_congr (b b' : Basis K) (hsz : b'.size = b.size)
    (h : ∀ j (hj : j < b.size) (hj' : j < b'.size), b'[j].size = b[j].size) (j : Nat) :
    b'.offset j = b.offset j := by
  induction j with
  | zero => rw [offset_zero, offset_zero]
  | succ j ih =>
    by_cases hj : j < b.size
    · rw [offset_succ b j hj, offset_succ b' j (hsz ▸ hj), ih, h j hj (hsz ▸ hj)]
    · rw [offset_of_size_le b (j + 1) (by omega), ← offset_of_size_le b j (by omega),
        offset_of_size_le b' (j + 1) (by omega), ← offset_of_size_le b' j (by omega), ih]

theorem total_congr (b b' : Basis K) (hsz : b'.size = b.size)
    (h : ∀ j (hj : j < b.size) (hj' : j < b'.size), b'[j].size = b[j].size) :
    b'.total = b.total := by
  rw [total_eq_offset_size, total_eq_offset_size, hsz]
  exact offset_congr b b' hsz h b.size

theorem locate_congr (b b' : Basis K) (hsz : b'.size = b.size)
    (h : ∀ j (hj : j < b.size) (hj' : j < b'.size),
      b'[j].nseg = b[j].nseg ∧ b'[j].nfun = b[j].nfun) (r : Nat) :
    b'.locate r = b.locate r := by
  have go : ∀ (fuel i r : Nat), Basis.locate.go b' i fuel r = Basis.locate.go b i fuel r := by
    intro fuel
    induction fuel with
    | zero => intro i r; rfl
    | succ fuel ih =>
      intro i r
      rw [Basis.locate.go, Basis.locate.go]
      by_cases hi : i < b.size
      · have hi' : i < b'.size := hsz ▸ hi
        rw [Array.getElem?_eq_getElem hi, Array.getElem?_eq_getElem hi']
        simp only
        have hs : b'[i].size = b[i].size := by
          unfold Shell.size; rw [(h i hi hi').1, (h i hi hi').2]
        rw [hs, (h i hi hi').2, ih]
      · rw [Array.getElem?_eq_none (by omega), Array.getElem?_eq_none (by omega)]
  unfold Basis.locate
  rw [hsz]
  exact go b.size 0 r

/-! ## `entry2` -/

theorem getD_eq_getElem (b : Basis K) (i : Nat) (hi : i < b.size) (d : Shell K) :
    b.getD i d = b[i] := by
  simp only [Array.getD, hi, ↓reduceDIte, Array.getInternal_eq_getElem]

section
variable [Transc K]

theorem pairBlocks_get (b1 b2 : Basis K) (nextra : Nat) (blk : Nat → Nat → Tab (Tab4 K))
    (i j e : Nat) (hi : i < b1.size) (hj : j < b2.size) :
    ((pairBlocks b1 b2 nextra blk).get2 i j).get e
      = wBlock2 b1[i] b2[j] b1[i].weights b2[j].weights ((blk i j).get e) := by
  unfold pairBlocks
  simp only [tab2_get, tab_get]
  rw [Array.getElem?_eq_getElem hi, Array.getElem?_eq_getElem hj, getD_eq_getElem b1 i hi,
    getD_eq_getElem b2 j hj]

theorem entry2_of_locate (b1 b2 : Basis K) (nextra : Nat) (blk : Nat → Nat → Tab (Tab4 K))
    {r c i j m f n g : Nat} (e : Nat) (hr : b1.locate r = (i, m, f)) (hc : b2.locate c = (j, n, g))
    (hi : i < b1.size) (hj : j < b2.size) :
    entry2 b1 b2 (pairBlocks b1 b2 nextra blk) r c e
      = (wBlock2 b1[i] b2[j] b1[i].weights b2[j].weights ((blk i j).get e)).get4 m f n g := by
  simp only [entry2, hr, hc]
  rw [pairBlocks_get b1 b2 nextra blk i j e hi hj]

/-- C01: the entry at row `offset i + m·nfun + f`, column `offset j + n·nfun + g` is entry `(m, f, n, g)` of
the normalised and transformed block of the shell pair `(i, j)` -/
theorem entry2_layout (b1 b2 : Basis K) (nextra : Nat) (blk : Nat → Nat → Tab (Tab4 K))
    (i j : Nat) (hi : i < b1.size) (hj : j < b2.size) (m f n g e : Nat)
    (hm : m < b1[i].nseg) (hf : f < b1[i].nfun) (hn : n < b2[j].nseg) (hg : g < b2[j].nfun) :
    entry2 b1 b2 (pairBlocks b1 b2 nextra blk)
        (b1.offset i + m * b1[i].nfun + f) (b2.offset j + n * b2[j].nfun + g) e
      = (wBlock2 b1[i] b2[j] b1[i].weights b2[j].weights ((blk i j).get e)).get4 m f n g :=
  entry2_of_locate b1 b2 nextra blk e (locate_offset b1 i hi m f hm hf)
    (locate_offset b2 j hj n g hn hg) hi hj

/-! ## the flat array -/

theorem assemble2_size (b1 b2 : Basis K) (nextra : Nat) (blk : Nat → Nat → Tab (Tab4 K)) :
    (assemble2 b1 b2 nextra blk).size = b1.total * b2.total * nextra := by
  simp [assemble2]

theorem assemble2_getElem (b1 b2 : Basis K) (nextra : Nat) (blk : Nat → Nat → Tab (Tab4 K))
    (r c e : Nat) (hc : c < b2.total) (he : e < nextra)
    (h : (r * b2.total + c) * nextra + e < (assemble2 b1 b2 nextra blk).size) :
    (assemble2 b1 b2 nextra blk)[(r * b2.total + c) * nextra + e]
      = entry2 b1 b2 (pairBlocks b1 b2 nextra blk) r c e := by
  simp only [assemble2, Array.getElem_ofFn]
  rw [mul_add_div_mul _ he, mul_add_div_self he, mul_add_mod_self he,
    mul_add_div_self hc, mul_add_mod_self hc]

theorem assemble2_get [Inhabited K] (b1 b2 : Basis K) (nextra : Nat)
    (blk : Nat → Nat → Tab (Tab4 K))
    (r c e : Nat) (hr : r < b1.total) (hc : c < b2.total) (he : e < nextra) :
    (assemble2 b1 b2 nextra blk)[(r * b2.total + c) * nextra + e]!
      = entry2 b1 b2 (pairBlocks b1 b2 nextra blk) r c e := by
  have h : (r * b2.total + c) * nextra + e < (assemble2 b1 b2 nextra blk).size := by
    rw [assemble2_size]; exact mul_add_lt (mul_add_lt hr hc) he
  rw [getElem!_pos (assemble2 b1 b2 nextra blk) ((r * b2.total + c) * nextra + e) h]
  exact assemble2_getElem b1 b2 nextra blk r c e hc he h

end

/-! ## runs of consecutive shells; appended bases -/

theorem total_append (b1 b2 : Basis K) : Basis.total (b1 ++ b2) = b1.total + b2.total := by
  simp [total_eq_sum]

theorem offset_append_left (b1 b2 : Basis K) (i : Nat) (hi : i ≤ b1.size) :
    Basis.offset (b1 ++ b2) i = b1.offset i := by
  simp only [offset_eq_sum, Array.toList_append]
  rw [List.take_append_of_le_length (by simpa using hi)]

/-- `b` is the run of consecutive shells of `U` that starts at shell `s`; `t` is the basis index
in `U` of the first function of the run -/
structure IsRun (b U : Basis K) (s t : Nat) : Prop where
  le : s ≤ U.size
  shell : ∀ j (hj : j < b.size), ∃ h : s + j < U.size, U[s + j] = b[j]
  start : U.offset s = t

theorem isRun_self (b : Basis K) : IsRun b b 0 0 :=
  ⟨Nat.zero_le _, fun j hj => ⟨by omega, by simp only [Nat.zero_add]⟩, offset_zero b⟩

theorem isRun_append_right (p b : Basis K) : IsRun b (p ++ b) p.size p.total where
  le := by rw [Array.size_append]; exact Nat.le_add_right _ _
  shell j hj := ⟨by rw [Array.size_append]; omega, by
    rw [Array.getElem_append_right (Nat.le_add_right _ _)]; simp only [Nat.add_sub_cancel_left]⟩
  start := by rw [offset_append_left p b p.size (Nat.le_refl _), total_eq_offset_size]

theorem IsRun.append {b U : Basis K} {s t : Nat} (h : IsRun b U s t) (q : Basis K) :
    IsRun b (U ++ q) s t where
  le := by rw [Array.size_append]; exact Nat.le_add_right_of_le h.le
  shell j hj := by
    obtain ⟨hu, e⟩ := h.shell j hj
    exact ⟨by rw [Array.size_append]; omega, (Array.getElem_append_left hu).trans e⟩
  start := (offset_append_left U q s h.le).trans h.start

theorem IsRun.offset {b U : Basis K} {s t : Nat} (h : IsRun b U s t) :
    ∀ j, j ≤ b.size → U.offset (s + j) = t + b.offset j
  | 0, _ => by rw [Nat.add_zero, offset_zero, Nat.add_zero]; exact h.start
  | j + 1, hj => by
    obtain ⟨hu, e⟩ := h.shell j hj
    rw [← Nat.add_assoc, offset_succ U (s + j) hu, h.offset j (Nat.le_of_succ_le hj), e,
      offset_succ b j hj, Nat.add_assoc]

theorem IsRun.locate {b U : Basis K} {s t : Nat} (h : IsRun b U s t) {r i m f : Nat}
    (hr : r < b.total) (hl : b.locate r = (i, m, f)) : U.locate (t + r) = (s + i, m, f) := by
  obtain ⟨j, hj, m', f', hm, hf, hrj, hloc⟩ := locate_cases b r hr
  obtain ⟨rfl, rfl, rfl⟩ : j = i ∧ m' = m ∧ f' = f := by simpa using hloc.symm.trans hl
  obtain ⟨hu, e⟩ := h.shell j hj
  have := locate_offset U (s + j) hu m' f' (e ▸ hm) (e ▸ hf)
  rw [h.offset j (Nat.le_of_lt hj), e, Nat.add_assoc, Nat.add_assoc,
    ← Nat.add_assoc (b.offset j), ← hrj] at this
  exact this

theorem locate_append_left (b1 b2 : Basis K) (r : Nat) (hr : r < b1.total) :
    Basis.locate (b1 ++ b2) r = b1.locate r := by
  have h := ((isRun_self b1).append b2).locate hr
    (rfl : b1.locate r = ((b1.locate r).1, (b1.locate r).2.1, (b1.locate r).2.2))
  rwa [Nat.zero_add, Nat.zero_add] at h

theorem locate_append_right (b1 b2 : Basis K) (c : Nat) (hc : c < b2.total) :
    Basis.locate (b1 ++ b2) (b1.total + c)
      = (b1.size + (b2.locate c).1, (b2.locate c).2.1, (b2.locate c).2.2) :=
  (isRun_append_right b1 b2).locate hc rfl

section
variable [Transc K]

theorem entry2_of_runs {b1 b2 U1 U2 : Basis K} {s1 t1 s2 t2 : Nat} (h1 : IsRun b1 U1 s1 t1)
    (h2 : IsRun b2 U2 s2 t2) (nextra : Nat) (blk blkU : Nat → Nat → Tab (Tab4 K))
    (hblk : ∀ i j, i < b1.size → j < b2.size → blkU (s1 + i) (s2 + j) = blk i j)
    (r c e : Nat) (hr : r < b1.total) (hc : c < b2.total) :
    entry2 U1 U2 (pairBlocks U1 U2 nextra blkU) (t1 + r) (t2 + c) e
      = entry2 b1 b2 (pairBlocks b1 b2 nextra blk) r c e := by
  obtain ⟨i, hi, m, f, -, -, -, hlr⟩ := locate_cases b1 r hr
  obtain ⟨j, hj, n, g, -, -, -, hlc⟩ := locate_cases b2 c hc
  obtain ⟨hiu, ei⟩ := h1.shell i hi
  obtain ⟨hju, ej⟩ := h2.shell j hj
  rw [entry2_of_locate b1 b2 nextra blk e hlr hlc hi hj,
    entry2_of_locate U1 U2 nextra blkU e (h1.locate hr hlr) (h2.locate hc hlc) hiu hju,
    ei, ej, hblk i j hi hj]

/-- C01: the array of two different basis sets is the off-diagonal block (rows of `b1`, columns of `b2`) of
the array of their union `b1 ++ b2` -/
theorem entry2_append (b1 b2 : Basis K) (nextra : Nat) (blk blkU : Nat → Nat → Tab (Tab4 K))
    (hblk : ∀ i j, i < b1.size → j < b2.size → blkU i (b1.size + j) = blk i j)
    (r c e : Nat) (hr : r < b1.total) (hc : c < b2.total) :
    entry2 (b1 ++ b2) (b1 ++ b2) (pairBlocks (b1 ++ b2) (b1 ++ b2) nextra blkU) r (b1.total + c) e
      = entry2 b1 b2 (pairBlocks b1 b2 nextra blk) r c e := by
  simpa only [Nat.zero_add] using entry2_of_runs ((isRun_self b1).append b2)
    (isRun_append_right b1 b2) nextra blk blkU (by simpa only [Nat.zero_add] using hblk) r c e hr hc

/-- the same for the flat arrays -/
theorem assemble2_append [Inhabited K] (b1 b2 : Basis K) (nextra : Nat)
    (blk blkU : Nat → Nat → Tab (Tab4 K))
    (hblk : ∀ i j, i < b1.size → j < b2.size → blkU i (b1.size + j) = blk i j)
    (r c e : Nat) (hr : r < b1.total) (hc : c < b2.total) (he : e < nextra) :
    (assemble2 (b1 ++ b2) (b1 ++ b2) nextra blkU)[(r * (b1.total + b2.total) + (b1.total + c)) * nextra + e]!
      = (assemble2 b1 b2 nextra blk)[(r * b2.total + c) * nextra + e]! := by
  rw [assemble2_get b1 b2 nextra blk r c e hr hc he]
  have h := assemble2_get (b1 ++ b2) (b1 ++ b2) nextra blkU r (b1.total + c) e
    (by rw [total_append]; omega) (by rw [total_append]; omega) he
  rw [total_append] at h
  rw [h]
  exact entry2_append b1 b2 nextra blk blkU hblk r c e hr hc

end

end GB
