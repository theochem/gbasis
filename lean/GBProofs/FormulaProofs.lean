import GBModel.Formulas
import GBProofs.ScreenLaws
import Mathlib.Analysis.SpecialFunctions.Log.Basic
import Mathlib.Analysis.SpecialFunctions.Pow.Real
/-!
# Meaning of the expected formula trees

`evalR` / `evalB` interpret, over the reals and in an environment that gives the variables their values, the part of the
trees of `GBModel/Formulas.lean` the theorems below need: literals, `np.sqrt`, `np.log`, `abs`, `+ − * /`, unary minus,
`< > !=` and `and`.  The `_tree` theorems evaluate an expected tree to the quantity the property theorems are about, the
`_shape` theorems display one as syntax.  Together with the obligations of `Obl/Formulas*.lean` (extracted = expected)
these statements are about the text of the source.
-/
namespace GB.Formula
open Real

def litVal : String → Option ℝ
  | "0" => some 0 | "0.0" => some 0 | "1" => some 1 | "1.0" => some 1 | "2" => some 2 | "3" => some 3 | "4" => some 4
  | _ => none

/-- `np.f` -/
def npName (f : String) : E := .app (.app (.name ".") (.name "np")) (.name f)

noncomputable def evalR (env : String → ℝ) : E → Option ℝ
  | .lit s => litVal s
  | .name s => some (env s)
  | .app (.name "neg") a => (evalR env a).map Neg.neg
  | .app (.name "abs") a => (evalR env a).map abs
  | .app (.app (.name "+") a) b => do let x ← evalR env a; let y ← evalR env b; pure (x + y)
  | .app (.app (.name "-") a) b => do let x ← evalR env a; let y ← evalR env b; pure (x - y)
  | .app (.app (.name "*") a) b => do let x ← evalR env a; let y ← evalR env b; pure (x * y)
  | .app (.app (.name "/") a) b => do let x ← evalR env a; let y ← evalR env b; pure (x / y)
  | .app (.app (.app (.name ".") (.name "np")) (.name "sqrt")) a => (evalR env a).map Real.sqrt
  | .app (.app (.app (.name ".") (.name "np")) (.name "log")) a => (evalR env a).map Real.log
  | _ => none

noncomputable def evalB (env : String → ℝ) : E → Option Prop
  | .app (.app (.name "<") a) b => do let x ← evalR env a; let y ← evalR env b; pure (x < y)
  | .app (.app (.name ">") a) b => do let x ← evalR env a; let y ← evalR env b; pure (x > y)
  | .app (.app (.name "!=") a) b => do let x ← evalR env a; let y ← evalR env b; pure (x ≠ y)
  | .app (.app (.name "and") a) b => do let p ← evalB env a; let q ← evalB env b; pure (p ∧ q)
  | _ => none

/-- the cutoff formula of the source is the cutoff of the screening theorems -/
theorem cutoff_tree (env : String → ℝ) :
    evalR env x_screen_cutoff
      = some (GB.cutoff (env "alpha_a") (env "alpha_b") (env "tol_screen")) := by
  -- the source multiplies `np.log(tol_screen)` from the left
  exact congrArg (fun x => some (Real.sqrt x)) (mul_comm _ _)

/-- the returned test: the distance (the value bound to `np.linalg.norm(r_12)`, here the variable `dist`) exceeds the cutoff.
The tree compares `np.linalg.norm(r_12)` with the *variable* `cutoff`; with that call abbreviated by a variable this is `screened`. -/
theorem screen_result_shape :
    x_screen_result
      = .app (.app (.name ">") (.app (.app (.app (.name ".") (.app (.app (.name ".") (.name "np")) (.name "linalg"))) (.name "norm"))
          (.name "r_12"))) (.name "cutoff") := rfl

/-- the smallest exponents enter the cutoff: `alpha_a = min(contractions_one.exps)`, `alpha_b = min(contractions_two.exps)` -/
theorem screen_alpha_shape :
    x_screen_alpha_a = .app (.name "min") (.app (.app (.name ".") (.name "contractions_one")) (.name "exps")) ∧
    x_screen_alpha_b = .app (.name "min") (.app (.app (.name ".") (.name "contractions_two")) (.name "exps")) := ⟨rfl, rfl⟩

/-- rejection test of the clipping rule: `min_output < 0 ∧ |min_output| > threshold` (both functions share it) -/
theorem clip_reject_tree (env : String → ℝ) :
    evalB env x_density_reject = some (env "min_output" < 0 ∧ |env "min_output"| > env "threshold") ∧
    x_tplus_reject = x_density_reject :=
  ⟨rfl, rfl⟩

/-- the mask of the nuclear term: entries with `dist < threshold_dist` are set to `0`; no charge occurs in the test -/
theorem esp_mask_tree (env : String → ℝ) :
    x_esp_mask = .app (.app (.name "tuple") (.app (.app (.name "<") (.name "dist")) (.name "threshold_dist"))) (.lit "0") ∧
    evalB env (.app (.app (.name "<") (.name "dist")) (.name "threshold_dist")) = some (env "dist" < env "threshold_dist") :=
  ⟨rfl, rfl⟩

/-- the nuclear terms are `nuclear_charges / dist` before masking -/
theorem esp_terms_shape :
    x_esp_nuclear_terms
      = .app (.app (.name "/") (.app (.app (.name "[]") (.name "nuclear_charges"))
          (.app (.app (.name "tuple") (.lit "None")) (.app (.app (.app (.name "slice") (.lit "None")) (.lit "None")) (.lit "None")))))
          (.name "dist") := rfl

/-- the Laplacian term of the general kinetic energy density is evaluated exactly when `alpha ≠ 0` -/
theorem generalke_guard_tree (env : String → ℝ) :
    evalB env x_generalke_guard = some (env "alpha" ≠ 0) := rfl

/-- the orientation of the repulsion block is swapped exactly when the swapped estimate is smaller -/
theorem swap_tree (env : String → ℝ) :
    evalB env x_eri_swap_pairs = some (env "amplification_swapped" < env "amplification") := rfl

end GB.Formula
