import GBProofs.ArrayContractionLayout
import GBProofs.ArrayDefiniteness

/-!
# Contractions behave as the linear combinations they denote — the assembled arrays (C13)

`BlockContraction.lean` proves the four laws for the blocks, `ArrayContractionLayout.lean` the index
bookkeeping.  Here they are put together for the arrays over basis functions that the user sees
(`entry2 b₁ b₂ (pairBlocks b₁ b₂ nextra blk) r c e`, i.e. after `norm_cont` and the Cartesian → spherical
transformation, for every mixture of Cartesian and spherical shells, one basis in both slots or two
different ones).  The parts of C13, as numbered here, in `ArrayContraction14.lean` and in
`ArrayAsym.lean`:

* C13.1 (`…_flat_splitColumns`): a generalized shell with several coefficient columns gives the same
  functions, in the same order, as that many single-column shells sharing its primitives
  (`Basis.splitColumns`);
* C13.2 (`…_flat_permPrims`): listing the primitives of a shell in another order changes nothing;
* C13.3 (`…_flat_splitPrim`): splitting a primitive (same exponent, coefficients `x·c`, `(1-x)·c`)
  changes nothing;
* C13.4 (`…_flat_scaleColumn_pos`, `…_scaleColumn_neg`): multiplying a coefficient column of a
  unit-normalised shell by `x > 0` changes nothing, by `x < 0` flips the sign of the functions of that
  column only: entry `(r, c)` gets a factor `-1` for each of `r`, `c` that is such a function
  (`colSign`).

The route: `Replaced b' b i new` says that `b'` is `b` with shell `i` replaced, function `(i, m, f)` of
`b` being function `f` of segment `(new m).2` of the shell `(new m).1` at the same basis index.
`entry2_replaced_of_blocks_asym` is the generic lemma: if the contraction norm of `new m` is `lam m`
times that of `(b[i], m)` and the raw block entries `mu m` times, every array entry is multiplied by
`lam m · mu m` for each of its two indices that is a function of segment `m` of the replaced shell.
`ShellOp` packages what one of the four operations does to a shell (for every `SlotLinearOn` entry at
once), `BlockLaws` what is needed of a block former, and `Rewrite b' b f` a basis with one shell
rewritten by one of the operations, after which basis function `r` is `f r` times what it was.

All statements are over ℝ (`realTransc`).  `hseg` in the `…_permPrims` theorems (the permuted shell has
as many columns as the original) is automatic for a rectangular coefficient matrix:
`permPrims_nseg_of_rect`.  For C13.4 `b[i].unitNorm = true` is needed: otherwise `norm_cont` is
identically 1 and the entries are simply multiplied by `x`.  For the point-charge array the component
degrees must not exceed the angular momenta (`Basis.CompsLe`, as `pointChargeBlock_eq_rys_self` needs).
No positivity of exponents is needed for the two-index arrays.
-/
namespace GB
open Finset

/-! ## Weights of shells with the same frame -/
section Weights

theorem frame_sph {s' s : Shell ℝ} (h : s'.frame = s.frame) : s'.sph = s.sph :=
  (congrArg Shell.sph h :)
theorem frame_unitNorm {s' s : Shell ℝ} (h : s'.frame = s.frame) : s'.unitNorm = s.unitNorm :=
  (congrArg Shell.unitNorm h :)
theorem frame_ncart {s' s : Shell ℝ} (h : s'.frame = s.frame) : s'.ncart = s.ncart :=
  (congrArg Shell.ncart h :)
theorem frame_nfun {s' s : Shell ℝ} (h : s'.frame = s.frame) : s'.nfun = s.nfun :=
  (congrArg Shell.nfun h :)
theorem frame_transTab {s' s : Shell ℝ} (h : s'.frame = s.frame) : s'.transTab = s.transTab :=
  (congrArg Shell.transTab h :)
theorem frame_degOK {s' s : Shell ℝ} (h : s'.frame = s.frame) (a : ℕ) :
    s'.degOK a ↔ s.degOK a :=
  Iff.of_eq (congrArg (Shell.degOK · a) h :)

theorem cwS_formula (s : Shell ℝ) (m f a : ℕ) :
    cwS s m f a
      = (if s.sph then s.transTab.get2 f a else if a = f then 1 else 0) * (normCont s).get2 m a := by
  unfold cwS Shell.weights
  simp only [tab3_get]
  cases s.sph
  · simp only [Bool.false_eq_true, if_false]
    by_cases h : a = f
    · subst h; simp
    · simp [h]
  · simp

theorem cwS_rel {s' s : Shell ℝ} (hfr : s'.frame = s.frame) (m' m f : ℕ) (ε : ℝ) (a : ℕ)
    (hn : (normCont s').get2 m' a = ε * (normCont s).get2 m a) :
    cwS s' m' f a = ε * cwS s m f a := by
  rw [cwS_formula, cwS_formula, frame_sph hfr, frame_transTab hfr, hn]; ring

/-- the contraction norm is built from the same-shell overlap -/
theorem normCont_congr {s' s : Shell ℝ} (hu : s'.unitNorm = s.unitNorm) (m' m a : ℕ)
    (h : (overlapBlock s' s').get4 m' a m' a = (overlapBlock s s).get4 m a m a) :
    (normCont s').get2 m' a = (normCont s).get2 m a := by
  unfold normCont
  rw [hu]
  cases s.unitNorm
  · simp only [Bool.false_eq_true, if_false, tab2_get]
  · simp only [if_true, tab2_get, h]

theorem normCont_column (s : Shell ℝ) (m a : ℕ) :
    (normCont (s.column m)).get2 0 a = (normCont s).get2 m a := by
  refine normCont_congr (s' := s.column m) (s := s) rfl 0 m a ?_
  rw [overlapBlock_column Real.exp Real.sqrt Real.pi s (s.column m) m a 0 a,
    overlapBlock_column_right Real.exp Real.sqrt Real.pi s s m a m a]

theorem normCont_permPrims (s : Shell ℝ) (σ : ℕ → ℕ) (m a : ℕ)
    (hmap : ∀ k < s.nprim, σ k < s.nprim)
    (hinj : ∀ k < s.nprim, ∀ k' < s.nprim, σ k = σ k' → k = k') :
    (normCont (s.permPrims σ)).get2 m a = (normCont s).get2 m a := by
  refine normCont_congr (s' := s.permPrims σ) (s := s) rfl m m a ?_
  rw [overlapBlock_permPrims Real.exp Real.sqrt Real.pi s (s.permPrims σ) σ m a m a hmap hinj,
    overlapBlock_permPrims_right Real.exp Real.sqrt Real.pi s s σ m a m a hmap hinj]

theorem normCont_splitPrim (s : Shell ℝ) (j : ℕ) (x : ℝ) (m a : ℕ) (hj : j < s.nprim) :
    (normCont (s.splitPrim j x)).get2 m a = (normCont s).get2 m a := by
  refine normCont_congr (s' := s.splitPrim j x) (s := s) rfl m m a ?_
  rw [overlapBlock_splitPrim Real.exp Real.sqrt Real.pi s (s.splitPrim j x) j x m a m a hj,
    overlapBlock_splitPrim_right Real.exp Real.sqrt Real.pi s s j x m a m a hj]

theorem normCont_scaleColumn (s : Shell ℝ) (m : ℕ) (x : ℝ) (m' a : ℕ) (hn : s.unitNorm = true) :
    (normCont (s.scaleColumn m x)).get2 m' a
      = (if m' = m then 1 / |x| else 1) * (normCont s).get2 m' a := by
  by_cases h : m' = m
  · subst h
    rw [if_pos rfl, normCont_scaleColumn_self s m' x a hn, normCont_unit s m' a hn,
      Real.sqrt_mul (mul_self_nonneg x), Real.sqrt_mul_self_eq_abs, one_div_mul_one_div]
  · rw [if_neg h, one_mul, normCont_scaleColumn_other s m x m' a h]

theorem weights_get3 (s : Shell ℝ) (m f a : ℕ) :
    s.weights.get3 m f a
      = if s.sph then s.transTab.get2 f a * (normCont s).get2 m a
        else if f = a then (normCont s).get2 m a else 0 := by
  unfold Shell.weights
  simp only [tab3_get]
  cases s.sph <;> simp

theorem weights_congr {s' s : Shell ℝ} (hfr : s'.frame = s.frame) (m' m f a : ℕ)
    (hn : (normCont s').get2 m' a = (normCont s).get2 m a) :
    s'.weights.get3 m' f a = s.weights.get3 m f a := by
  rw [weights_get3, weights_get3, frame_sph hfr, frame_transTab hfr, hn]

theorem weights_column (s : Shell ℝ) (m f a : ℕ) :
    (s.column m).weights.get3 0 f a = s.weights.get3 m f a :=
  weights_congr (s' := s.column m) (s := s) rfl 0 m f a (normCont_column s m a)

theorem weights_permPrims (s : Shell ℝ) (σ : ℕ → ℕ) (m f a : ℕ)
    (hmap : ∀ k < s.nprim, σ k < s.nprim)
    (hinj : ∀ k < s.nprim, ∀ k' < s.nprim, σ k = σ k' → k = k') :
    (s.permPrims σ).weights.get3 m f a = s.weights.get3 m f a :=
  weights_congr (s' := s.permPrims σ) (s := s) rfl m m f a (normCont_permPrims s σ m a hmap hinj)

theorem weights_splitPrim (s : Shell ℝ) (j : ℕ) (x : ℝ) (m f a : ℕ) (hj : j < s.nprim) :
    (s.splitPrim j x).weights.get3 m f a = s.weights.get3 m f a :=
  weights_congr (s' := s.splitPrim j x) (s := s) rfl m m f a (normCont_splitPrim s j x m a hj)

end Weights

/-! ## The generic lemma -/
section Framework

theorem ite_one_mul_ite_one (c : Prop) [Decidable c] (x y : ℝ) :
    (if c then x else 1) * (if c then y else 1) = if c then x * y else 1 := by
  split_ifs
  · rfl
  · exact one_mul 1

theorem located (b : Basis ℝ) (r : ℕ) (hr : r < b.total) :
    ∃ hi : (b.locate r).1 < b.size, shellOf b r = b[(b.locate r).1] ∧
      segOf b r < (shellOf b r).nseg ∧ funOf b r < (shellOf b r).nfun := by
  obtain ⟨hi, hm, hf, -⟩ := locate_lt b r hr
  refine ⟨hi, shellOf_eq b r hi, ?_, ?_⟩
  · rw [shellOf_eq b r hi]; exact hm
  · rw [shellOf_eq b r hi]; exact hf

theorem shellOf_at (b : Basis ℝ) (r i : ℕ) (h : (b.locate r).1 = i) (hi : i < b.size) :
    shellOf b r = b[i] := by
  unfold shellOf; rw [h]; exact getElem!_pos b i hi

theorem entry2_scale_of_located (b1 b1' b2 b2' : Basis ℝ) (nextra : ℕ)
    (blk blk' : ℕ → ℕ → Tab (Tab4 ℝ)) (e r c : ℕ) (hr : r < b1.total) (hc : c < b2.total)
    (ht1 : b1'.total = b1.total) (ht2 : b2'.total = b2.total) (εr εc μ : ℝ)
    (hsr : (shellOf b1' r).ncart = (shellOf b1 r).ncart)
    (hsc : (shellOf b2' c).ncart = (shellOf b2 c).ncart)
    (hwr : ∀ a < (shellOf b1 r).ncart, cw b1' r a = εr * cw b1 r a)
    (hwc : ∀ a < (shellOf b2 c).ncart, cw b2' c a = εc * cw b2 c a)
    (hX : ∀ a < (shellOf b1 r).ncart, ∀ a' < (shellOf b2 c).ncart,
      ((blk' (b1'.locate r).1 (b2'.locate c).1).get e).get4 (segOf b1' r) a (segOf b2' c) a'
        = μ * ((blk (b1.locate r).1 (b2.locate c).1).get e).get4 (segOf b1 r) a (segOf b2 c) a') :
    entry2 b1' b2' (pairBlocks b1' b2' nextra blk') r c e
      = εr * εc * μ * entry2 b1 b2 (pairBlocks b1 b2 nextra blk) r c e := by
  rw [entry2_eq_sum_asym b1 b2 nextra blk r c e hr hc,
    entry2_eq_sum_asym b1' b2' nextra blk' r c e (by rw [ht1]; exact hr) (by rw [ht2]; exact hc),
    hsr, hsc, Finset.mul_sum]
  refine Finset.sum_congr rfl fun a ha => ?_
  rw [Finset.mul_sum]
  refine Finset.sum_congr rfl fun a' ha' => ?_
  rw [hwr a (Finset.mem_range.mp ha), hwc a' (Finset.mem_range.mp ha'),
    hX a (Finset.mem_range.mp ha) a' (Finset.mem_range.mp ha')]
  ring

structure Replaced (b' b : Basis ℝ) (i : ℕ) (new : ℕ → Shell ℝ × ℕ) : Prop where
  total : b'.total = b.total
  funOf : ∀ r, r < b.total → funOf b' r = funOf b r
  at_i : ∀ r, r < b.total → (b.locate r).1 = i →
    shellOf b' r = (new (segOf b r)).1 ∧ segOf b' r = (new (segOf b r)).2
  off_i : ∀ r, r < b.total → (b.locate r).1 ≠ i →
    shellOf b' r = shellOf b r ∧ segOf b' r = segOf b r

theorem Replaced.refl (b : Basis ℝ) (i : ℕ) (hi : i < b.size) :
    Replaced b b i (fun m => (b[i], m)) :=
  ⟨rfl, fun _ _ => rfl, fun r _ h => ⟨shellOf_at b r i h hi, rfl⟩, fun _ _ _ => ⟨rfl, rfl⟩⟩

variable {b' b : Basis ℝ} {i : ℕ} {new : ℕ → Shell ℝ × ℕ}

theorem Replaced.seg_lt (hi : i < b.size) (r : ℕ) (hr : r < b.total)
    (h : (b.locate r).1 = i) : segOf b r < b[i].nseg := by
  obtain ⟨-, -, hm, -⟩ := located b r hr
  rwa [shellOf_at b r i h hi] at hm

theorem Replaced.transfer (hR : Replaced b' b i new) (hi : i < b.size) (mu : ℕ → ℝ)
    (F : Shell ℝ → ℕ → ℕ → ℝ)
    (hF : ∀ m < b[i].nseg, ∀ a < b[i].ncart, F (new m).1 (new m).2 a = mu m * F b[i] m a)
    (r : ℕ) (hr : r < b.total) (a : ℕ) (ha : a < (shellOf b r).ncart) :
    F (shellOf b' r) (segOf b' r) a
      = (if (b.locate r).1 = i then mu (segOf b r) else 1) * F (shellOf b r) (segOf b r) a := by
  by_cases h : (b.locate r).1 = i
  · have hs := shellOf_at b r i h hi
    rw [if_pos h, (hR.at_i r hr h).1, (hR.at_i r hr h).2, hs]
    rw [hs] at ha
    exact hF _ (Replaced.seg_lt hi r hr h) a ha
  · rw [if_neg h, (hR.off_i r hr h).1, (hR.off_i r hr h).2, one_mul]

theorem Replaced.pred (hR : Replaced b' b i new) (hi : i < b.size) (P : Shell ℝ → Prop)
    (hPb : ∀ j (hj : j < b.size), P b[j]) (hPnew : ∀ m < b[i].nseg, P (new m).1)
    (r : ℕ) (hr : r < b.total) : P (shellOf b r) ∧ P (shellOf b' r) := by
  obtain ⟨hir, hsr, -, -⟩ := located b r hr
  have h0 : P (shellOf b r) := by rw [hsr]; exact hPb _ hir
  refine ⟨h0, ?_⟩
  by_cases h : (b.locate r).1 = i
  · rw [(hR.at_i r hr h).1]; exact hPnew _ (Replaced.seg_lt hi r hr h)
  · rw [(hR.off_i r hr h).1]; exact h0

theorem Replaced.slot (hR : Replaced b' b i new) (hi : i < b.size) (lam : ℕ → ℝ)
    (hframe : ∀ m < b[i].nseg, (new m).1.frame = b[i].frame)
    (hnorm : ∀ m < b[i].nseg, ∀ a < b[i].ncart,
      (normCont (new m).1).get2 (new m).2 a = lam m * (normCont b[i]).get2 m a)
    (r : ℕ) (hr : r < b.total) :
    (shellOf b' r).frame = (shellOf b r).frame ∧
      ∀ a < (shellOf b r).ncart,
        cw b' r a = (if (b.locate r).1 = i then lam (segOf b r) else 1) * cw b r a := by
  refine ⟨?_, fun a ha => ?_⟩
  · by_cases h : (b.locate r).1 = i
    · rw [(hR.at_i r hr h).1, shellOf_at b r i h hi]
      exact hframe _ (Replaced.seg_lt hi r hr h)
    · rw [(hR.off_i r hr h).1]
  · unfold cw
    rw [hR.funOf r hr]
    exact hR.transfer hi lam (fun s m a => cwS s m (GB.funOf b r) a)
      (fun m hm a ha => cwS_rel (hframe m hm) _ _ _ _ a (hnorm m hm a ha)) r hr a ha

/-- The left slot is changed first, against the shells of `b2'`, then the right slot against those of
`b1`: hence `P2` is needed of the shells replacing `b2[i2]` (`hPnew2`) but `P1` only of the shells of
`b1`.  `Replaced.refl` gives the case of a basis in which nothing is replaced. -/
theorem entry2_replaced_of_blocks_asym {b1' b1 b2' b2 : Basis ℝ} {i1 i2 : ℕ}
    {new1 new2 : ℕ → Shell ℝ × ℕ}
    (hR1 : Replaced b1' b1 i1 new1) (hi1 : i1 < b1.size)
    (hR2 : Replaced b2' b2 i2 new2) (hi2 : i2 < b2.size) (lam1 mu1 lam2 mu2 : ℕ → ℝ)
    (hframe1 : ∀ m < b1[i1].nseg, (new1 m).1.frame = b1[i1].frame)
    (hnorm1 : ∀ m < b1[i1].nseg, ∀ a < b1[i1].ncart,
      (normCont (new1 m).1).get2 (new1 m).2 a = lam1 m * (normCont b1[i1]).get2 m a)
    (hframe2 : ∀ m < b2[i2].nseg, (new2 m).1.frame = b2[i2].frame)
    (hnorm2 : ∀ m < b2[i2].nseg, ∀ a < b2[i2].ncart,
      (normCont (new2 m).1).get2 (new2 m).2 a = lam2 m * (normCont b2[i2]).get2 m a)
    (P1 P2 : Shell ℝ → Prop) (hPb1 : ∀ j (hj : j < b1.size), P1 b1[j])
    (hPb2 : ∀ j (hj : j < b2.size), P2 b2[j]) (hPnew2 : ∀ m < b2[i2].nseg, P2 (new2 m).1)
    (nextra : ℕ) (B : Shell ℝ → Shell ℝ → Tab (Tab4 ℝ)) (e : ℕ)
    (hBl : ∀ m < b1[i1].nseg, ∀ t n, P2 t → ∀ a < b1[i1].ncart, ∀ c < t.ncart,
      ((B (new1 m).1 t).get e).get4 (new1 m).2 a n c = mu1 m * ((B b1[i1] t).get e).get4 m a n c)
    (hBr : ∀ n < b2[i2].nseg, ∀ s m, P1 s → ∀ a < s.ncart, ∀ c < b2[i2].ncart,
      ((B s (new2 n).1).get e).get4 m a (new2 n).2 c = mu2 n * ((B s b2[i2]).get e).get4 m a n c)
    (r c : ℕ) (hr : r < b1.total) (hc : c < b2.total) :
    entry2 b1' b2' (pairBlocks b1' b2' nextra fun j k => B b1'[j]! b2'[k]!) r c e
      = (if (b1.locate r).1 = i1 then lam1 (segOf b1 r) * mu1 (segOf b1 r) else 1)
        * (if (b2.locate c).1 = i2 then lam2 (segOf b2 c) * mu2 (segOf b2 c) else 1)
        * entry2 b1 b2 (pairBlocks b1 b2 nextra fun j k => B b1[j]! b2[k]!) r c e := by
  obtain ⟨hfrr, hcwr⟩ := hR1.slot hi1 lam1 hframe1 hnorm1 r hr
  obtain ⟨hfrc, hcwc⟩ := hR2.slot hi2 lam2 hframe2 hnorm2 c hc
  obtain ⟨hir, hsr, -, -⟩ := located b1 r hr
  have hPr : P1 (shellOf b1 r) := by rw [hsr]; exact hPb1 _ hir
  obtain ⟨-, hPc'⟩ := hR2.pred hi2 P2 hPb2 hPnew2 c hc
  have key := entry2_scale_of_located b1 b1' b2 b2' nextra (fun j k => B b1[j]! b2[k]!)
    (fun j k => B b1'[j]! b2'[k]!) e r c hr hc hR1.total hR2.total _ _
    ((if (b1.locate r).1 = i1 then mu1 (segOf b1 r) else 1)
      * (if (b2.locate c).1 = i2 then mu2 (segOf b2 c) else 1))
    (frame_ncart hfrr) (frame_ncart hfrc) hcwr hcwc (by
      intro a ha a' ha'
      have e1 := hR1.transfer hi1 mu1
        (fun s m a => ((B s (shellOf b2' c)).get e).get4 m a (segOf b2' c) a')
        (fun m hm a ha => hBl m hm _ _ hPc' a ha a' (by rw [frame_ncart hfrc]; exact ha')) r hr a ha
      have e2 := hR2.transfer hi2 mu2
        (fun t n a' => ((B (shellOf b1 r) t).get e).get4 (segOf b1 r) a n a')
        (fun n hn a' ha' => hBr n hn _ _ hPr a ha a' ha') c hc a' ha'
      beta_reduce at e1 e2
      show ((B (shellOf b1' r) (shellOf b2' c)).get e).get4 (segOf b1' r) a (segOf b2' c) a'
        = _ * ((B (shellOf b1 r) (shellOf b2 c)).get e).get4 (segOf b1 r) a (segOf b2 c) a'
      rw [e1, e2, mul_assoc])
  rw [key, ← ite_one_mul_ite_one, ← ite_one_mul_ite_one]
  ring

theorem entry2_replaced_of_blocks (hR : Replaced b' b i new) (hi : i < b.size) (lam mu : ℕ → ℝ)
    (hframe : ∀ m < b[i].nseg, (new m).1.frame = b[i].frame)
    (hnorm : ∀ m < b[i].nseg, ∀ a < b[i].ncart,
      (normCont (new m).1).get2 (new m).2 a = lam m * (normCont b[i]).get2 m a)
    (P : Shell ℝ → Prop) (hPb : ∀ j (hj : j < b.size), P b[j])
    (hPnew : ∀ m < b[i].nseg, P (new m).1)
    (nextra : ℕ) (B : Shell ℝ → Shell ℝ → Tab (Tab4 ℝ)) (e : ℕ)
    (hBl : ∀ m < b[i].nseg, ∀ t n, P t → ∀ a < b[i].ncart, ∀ c < t.ncart,
      ((B (new m).1 t).get e).get4 (new m).2 a n c = mu m * ((B b[i] t).get e).get4 m a n c)
    (hBr : ∀ n < b[i].nseg, ∀ s m, P s → ∀ a < s.ncart, ∀ c < b[i].ncart,
      ((B s (new n).1).get e).get4 m a (new n).2 c = mu n * ((B s b[i]).get e).get4 m a n c)
    (r c : ℕ) (hr : r < b.total) (hc : c < b.total) :
    entry2 b' b' (pairBlocks b' b' nextra fun j k => B b'[j]! b'[k]!) r c e
      = (if (b.locate r).1 = i then lam (segOf b r) * mu (segOf b r) else 1)
        * (if (b.locate c).1 = i then lam (segOf b c) * mu (segOf b c) else 1)
        * entry2 b b (pairBlocks b b nextra fun j k => B b[j]! b[k]!) r c e :=
  entry2_replaced_of_blocks_asym hR hi hR hi lam mu lam mu hframe hnorm hframe hnorm P P hPb hPb hPnew
    nextra B e hBl hBr r c hr hc

/-! ### flat arrays -/

theorem ofFn_congr {n n' : ℕ} (h : n' = n) (f' : Fin n' → ℝ) (f : Fin n → ℝ)
    (hf : ∀ k (hk : k < n'), f' ⟨k, hk⟩ = f ⟨k, h ▸ hk⟩) : Array.ofFn f' = Array.ofFn f := by
  subst h
  congr
  funext k
  exact hf k.1 k.2

theorem assemble2_congr (b1 b1' b2 b2' : Basis ℝ) (nextra : ℕ)
    (blk blk' : ℕ → ℕ → Tab (Tab4 ℝ)) (ht1 : b1'.total = b1.total) (ht2 : b2'.total = b2.total)
    (h : ∀ r c e, r < b1.total → c < b2.total → e < nextra →
      entry2 b1' b2' (pairBlocks b1' b2' nextra blk') r c e
        = entry2 b1 b2 (pairBlocks b1 b2 nextra blk) r c e) :
    assemble2 b1' b2' nextra blk' = assemble2 b1 b2 nextra blk := by
  unfold assemble2
  refine ofFn_congr (by rw [ht1, ht2]) _ _ fun k hk => ?_
  have hk' : k < b1.total * b2.total * nextra := by rw [ht1, ht2] at hk; exact hk
  have hn : 0 < nextra := Nat.pos_of_lt_mul_left hk'
  have hb : 0 < b2.total := Nat.pos_of_mul_pos_left (Nat.pos_of_lt_mul_right hk')
  show entry2 b1' b2' (pairBlocks b1' b2' nextra blk') (k / (b2'.total * nextra))
      (k / nextra % b2'.total) (k % nextra)
    = entry2 b1 b2 (pairBlocks b1 b2 nextra blk) (k / (b2.total * nextra)) (k / nextra % b2.total)
      (k % nextra)
  rw [ht2]
  refine h _ _ _ (Nat.div_lt_of_lt_mul ?_) (Nat.mod_lt _ hb) (Nat.mod_lt _ hn)
  rwa [Nat.mul_comm, ← Nat.mul_assoc]

theorem assemble2_get_rel (b1 b1' b2 b2' : Basis ℝ) (nextra : ℕ)
    (blk blk' : ℕ → ℕ → Tab (Tab4 ℝ)) (ht1 : b1'.total = b1.total) (ht2 : b2'.total = b2.total)
    (r c e : ℕ) (hr : r < b1.total) (hc : c < b2.total) (he : e < nextra) (ε : ℝ)
    (h : entry2 b1' b2' (pairBlocks b1' b2' nextra blk') r c e
        = ε * entry2 b1 b2 (pairBlocks b1 b2 nextra blk) r c e) :
    (assemble2 b1' b2' nextra blk')[(r * b2.total + c) * nextra + e]!
      = ε * (assemble2 b1 b2 nextra blk)[(r * b2.total + c) * nextra + e]! := by
  rw [assemble2_get b1 b2 nextra blk r c e hr hc he, ← h]
  have := assemble2_get b1' b2' nextra blk' r c e (by rw [ht1]; exact hr) (by rw [ht2]; exact hc) he
  rw [ht2] at this
  exact this

end Framework

/-! ## The two ways of replacing a shell -/
section Instances

theorem replaced_splitColumns (b : Basis ℝ) (i : ℕ) (hi : i < b.size) :
    Replaced (b.splitColumns i) b i (fun m => (b[i].column m, 0)) := by
  refine ⟨Basis.splitColumns_total b i, fun r hr => ?_, fun r hr h => ⟨?_, ?_⟩,
    fun r hr h => ⟨?_, ?_⟩⟩
  · unfold funOf
    rw [Basis.splitColumns_locate b i hi r hr]
    split_ifs <;> rfl
  · unfold shellOf segOf
    rw [Basis.splitColumns_shell b i hi r hr, if_pos h]
  · unfold segOf
    rw [Basis.splitColumns_locate b i hi r hr, if_neg (by omega), if_pos h]
  · unfold shellOf
    rw [Basis.splitColumns_shell b i hi r hr, if_neg h]
  · unfold segOf
    rw [Basis.splitColumns_locate b i hi r hr]
    split_ifs <;> rfl

theorem replaced_mapShell (b : Basis ℝ) (i : ℕ) (op : Shell ℝ → Shell ℝ) (hi : i < b.size)
    (hseg : (op b[i]).nseg = b[i].nseg) (hfun : (op b[i]).nfun = b[i].nfun) :
    Replaced (b.mapShell i op) b i (fun m => (op b[i], m)) := by
  have hloc := Basis.mapShell_locate b i op hi hseg hfun
  refine ⟨Basis.mapShell_total b i op hi hseg hfun, fun r hr => ?_, fun r hr h => ⟨?_, ?_⟩,
    fun r hr h => ⟨?_, ?_⟩⟩
  · unfold funOf; rw [hloc]
  · obtain ⟨hlt, -⟩ := locate_lt b r hr
    unfold shellOf
    rw [hloc, Basis.mapShell_getElem! b i op _ hlt, if_pos h.symm, h, getElem!_pos b i hi]
  · unfold segOf; rw [hloc]
  · obtain ⟨hlt, -⟩ := locate_lt b r hr
    unfold shellOf
    rw [hloc, Basis.mapShell_getElem! b i op _ hlt, if_neg (Ne.symm h)]
  · unfold segOf; rw [hloc]

end Instances

/-! ## The four operations on a shell -/
section Ops

theorem splitPrim_nseg (s : Shell ℝ) (j : ℕ) (x : ℝ) (hj : j < s.nprim) :
    (s.splitPrim j x).nseg = s.nseg := by
  rw [nseg_eq, nseg_eq s]
  show ((Array.ofFn (n := s.nprim + 1) _)[0]?.getD #[]).size = _
  rw [Array.getElem?_ofFn, dif_pos (Nat.succ_pos _), Option.getD_some, ← Array.getD_eq_getD_getElem?]
  by_cases h : 0 = j
  · rw [if_pos h, Array.size_map, ← h]
  · rw [if_neg h, if_neg (Nat.ne_of_lt (Nat.zero_lt_of_lt hj))]

theorem scaleColumn_nseg (s : Shell ℝ) (m : ℕ) (x : ℝ) : (s.scaleColumn m x).nseg = s.nseg := by
  rw [nseg_eq, nseg_eq s]
  show ((s.coefs.map _)[0]?.getD #[]).size = _
  rw [Array.getElem?_map]
  cases s.coefs[0]? with
  | none => rfl
  | some r => exact Array.size_modify

/-- `nseg` is the length of the first coefficient row (`nseg_eq`), hence `hrow` -/
theorem permPrims_nseg (s : Shell ℝ) (σ : ℕ → ℕ) (hpos : 0 < s.nprim)
    (hrow : (s.coefs.getD (σ 0) #[]).size = s.nseg) : (s.permPrims σ).nseg = s.nseg := by
  rw [nseg_eq, ← hrow]
  show ((Array.ofFn (n := s.nprim) _)[0]?.getD #[]).size = _
  rw [Array.getElem?_ofFn, dif_pos hpos, Option.getD_some]

def Shell.Rect (s : Shell ℝ) : Prop := ∀ k < s.nprim, (s.coefs.getD k #[]).size = s.nseg

/-- discharges the hypothesis `hseg` of the `…_permPrims` theorems -/
theorem permPrims_nseg_of_rect (s : Shell ℝ) (σ : ℕ → ℕ) (hr : s.Rect) (hpos : 0 < s.nprim)
    (hmap : ∀ k < s.nprim, σ k < s.nprim) : (s.permPrims σ).nseg = s.nseg :=
  permPrims_nseg s σ hpos (hr _ (hmap 0 hpos))


def OpLaw (s₀ : Shell ℝ) (new : ℕ → Shell ℝ × ℕ) (mu : ℕ → ℝ) : Prop :=
  ∀ (ok : Shell ℝ → ℕ → Prop) (E : Shell ℝ → ℕ → ℕ → ℝ),
    SlotLinearOn Real.exp Real.sqrt Real.pi ok E →
      ∀ m < s₀.nseg, ∀ a, ok s₀ a → ok (new m).1 a → E (new m).1 (new m).2 a = mu m * E s₀ m a

structure ShellOp (s₀ : Shell ℝ) (new : ℕ → Shell ℝ × ℕ) (lam mu : ℕ → ℝ) : Prop where
  frame : ∀ m < s₀.nseg, (new m).1.frame = s₀.frame
  expsIn : ∀ m < s₀.nseg, (new m).1.ExpsIn Real.exp Real.sqrt Real.pi s₀
  norm : ∀ m < s₀.nseg, ∀ a < s₀.ncart,
    (normCont (new m).1).get2 (new m).2 a = lam m * (normCont s₀).get2 m a
  law : OpLaw s₀ new mu

theorem shellOp_refl (s : Shell ℝ) : ShellOp s (fun m => (s, m)) (fun _ => 1) (fun _ => 1) where
  frame := fun _ _ => rfl
  expsIn := fun _ _ => Shell.ExpsIn.refl Real.exp Real.sqrt Real.pi s
  norm := fun _ _ _ _ => (one_mul _).symm
  law := fun _ _ _ _ _ _ _ _ => (one_mul _).symm

theorem shellOp_column (s : Shell ℝ) :
    ShellOp s (fun m => (s.column m, 0)) (fun _ => 1) (fun _ => 1) where
  frame := fun _ _ => rfl
  expsIn := fun m _ => column_expsIn Real.exp Real.sqrt Real.pi s m
  norm := fun m _ a _ => by rw [one_mul]; exact normCont_column s m a
  law := fun ok E h m _ a h0 h1 => by rw [one_mul]; exact h.column s m a h0 h1

theorem shellOp_permPrims (s : Shell ℝ) (σ : ℕ → ℕ) (hmap : ∀ k < s.nprim, σ k < s.nprim)
    (hinj : ∀ k < s.nprim, ∀ k' < s.nprim, σ k = σ k' → k = k') :
    ShellOp s (fun m => (s.permPrims σ, m)) (fun _ => 1) (fun _ => 1) where
  frame := fun _ _ => rfl
  expsIn := fun _ _ => permPrims_expsIn Real.exp Real.sqrt Real.pi s σ hmap
  norm := fun m _ a _ => by rw [one_mul]; exact normCont_permPrims s σ m a hmap hinj
  law := fun ok E h m _ a h0 h1 => by rw [one_mul]; exact h.permPrims s σ m a h0 h1 hmap hinj

theorem shellOp_splitPrim (s : Shell ℝ) (j : ℕ) (x : ℝ) (hj : j < s.nprim) :
    ShellOp s (fun m => (s.splitPrim j x, m)) (fun _ => 1) (fun _ => 1) where
  frame := fun _ _ => rfl
  expsIn := fun _ _ => splitPrim_expsIn Real.exp Real.sqrt Real.pi s j x hj
  norm := fun m _ a _ => by rw [one_mul]; exact normCont_splitPrim s j x m a hj
  law := fun ok E h m _ a h0 h1 => by rw [one_mul]; exact h.splitPrim s j x m a h0 h1 hj

theorem shellOp_scaleColumn (s : Shell ℝ) (m₀ : ℕ) (x : ℝ) (hn : s.unitNorm = true) :
    ShellOp s (fun m => (s.scaleColumn m₀ x, m)) (fun m => if m = m₀ then 1 / |x| else 1)
      (fun m => if m = m₀ then x else 1) where
  frame := fun _ _ => rfl
  expsIn := fun _ _ => scaleColumn_expsIn Real.exp Real.sqrt Real.pi s m₀ x
  norm := fun m _ a _ => normCont_scaleColumn s m₀ x m a hn
  law := fun ok E h m _ a h0 h1 => by
    have := h.scaleColumn s m₀ x m a h0 h1
    show E (s.scaleColumn m₀ x) m a = (if m = m₀ then x else 1) * E s m a
    by_cases hm : m = m₀
    · rw [this, if_pos hm, if_pos hm]
    · rw [this, if_neg hm, if_neg hm, one_mul]

end Ops

/-! ## Blocks whose entries are contractions over the primitives of either shell -/
section Packaged

theorem SlotLinearOn.mono {ok ok' : Shell ℝ → ℕ → Prop} {E : Shell ℝ → ℕ → ℕ → ℝ}
    (h : SlotLinearOn Real.exp Real.sqrt Real.pi ok E) (himp : ∀ s c, ok' s c → ok s c) :
    SlotLinearOn Real.exp Real.sqrt Real.pi ok' E := by
  obtain ⟨G, hG⟩ := h
  exact ⟨G, fun s m c hs => hG s m c (himp s c hs)⟩

/-- what the four laws need of a block former `B`, for slice `e`: `P` is a condition on shells that
depends on the frame only (`frame`); for shells satisfying `P` and Cartesian component indices below
`ncart`, every entry of `(B s t).get e` is a contraction over the primitives of `s` (`left`) and over
those of `t` (`right`) in the sense of `SlotLinearOn`. -/
structure BlockLaws (P : Shell ℝ → Prop) (B : Shell ℝ → Shell ℝ → Tab (Tab4 ℝ)) (e : ℕ) : Prop where
  frame : ∀ s s' : Shell ℝ, s'.frame = s.frame → P s → P s'
  left : ∀ t n c, P t → c < t.ncart →
    SlotLinearOn Real.exp Real.sqrt Real.pi (fun s a => P s ∧ a < s.ncart)
      (fun s m a => ((B s t).get e).get4 m a n c)
  right : ∀ s m a, P s → a < s.ncart →
    SlotLinearOn Real.exp Real.sqrt Real.pi (fun t c => P t ∧ c < t.ncart)
      (fun t n c => ((B s t).get e).get4 m a n c)

theorem BlockLaws.of_slotLinear {B : Shell ℝ → Shell ℝ → Tab (Tab4 ℝ)} {e : ℕ}
    (hl : ∀ t n c, SlotLinear Real.exp Real.sqrt Real.pi fun s m a => ((B s t).get e).get4 m a n c)
    (hr : ∀ s m a, SlotLinear Real.exp Real.sqrt Real.pi fun t n c => ((B s t).get e).get4 m a n c) :
    BlockLaws (fun _ => True) B e :=
  ⟨fun _ _ _ _ => trivial, fun t n c _ _ => (hl t n c).on _, fun s m a _ _ => (hr s m a).on _⟩

end Packaged

/-! ## A basis with one shell rewritten -/
section Rewrites

noncomputable def Basis.permPrimsAt (b : Basis ℝ) (i : ℕ) (σ : ℕ → ℕ) : Basis ℝ :=
  b.mapShell i fun s => s.permPrims σ
noncomputable def Basis.splitPrimAt (b : Basis ℝ) (i j : ℕ) (x : ℝ) : Basis ℝ :=
  b.mapShell i fun s => s.splitPrim j x
noncomputable def Basis.scaleColumnAt (b : Basis ℝ) (i m : ℕ) (x : ℝ) : Basis ℝ :=
  b.mapShell i fun s => s.scaleColumn m x

noncomputable def colSign (b : Basis ℝ) (i m r : ℕ) : ℝ :=
  if (b.locate r).1 = i ∧ (b.locate r).2.1 = m then -1 else 1

theorem Basis.permPrimsAt_locate (b : Basis ℝ) (i : ℕ) (hi : i < b.size) (σ : ℕ → ℕ)
    (hseg : (b[i].permPrims σ).nseg = b[i].nseg) (r : ℕ) :
    (b.permPrimsAt i σ).locate r = b.locate r :=
  Basis.mapShell_locate b i (fun s => s.permPrims σ) hi hseg rfl r

theorem Basis.splitPrimAt_locate (b : Basis ℝ) (i : ℕ) (hi : i < b.size) (j : ℕ) (x : ℝ)
    (hj : j < b[i].nprim) (r : ℕ) : (b.splitPrimAt i j x).locate r = b.locate r :=
  Basis.mapShell_locate b i (fun s => s.splitPrim j x) hi (splitPrim_nseg b[i] j x hj) rfl r

theorem Basis.scaleColumnAt_locate (b : Basis ℝ) (i : ℕ) (hi : i < b.size) (m : ℕ) (x : ℝ)
    (r : ℕ) : (b.scaleColumnAt i m x).locate r = b.locate r :=
  Basis.mapShell_locate b i (fun s => s.scaleColumn m x) hi (scaleColumn_nseg b[i] m x) rfl r

theorem Basis.permPrimsAt_total (b : Basis ℝ) (i : ℕ) (hi : i < b.size) (σ : ℕ → ℕ)
    (hseg : (b[i].permPrims σ).nseg = b[i].nseg) : (b.permPrimsAt i σ).total = b.total :=
  Basis.mapShell_total b i (fun s => s.permPrims σ) hi hseg rfl

theorem Basis.splitPrimAt_total (b : Basis ℝ) (i : ℕ) (hi : i < b.size) (j : ℕ) (x : ℝ)
    (hj : j < b[i].nprim) : (b.splitPrimAt i j x).total = b.total :=
  Basis.mapShell_total b i (fun s => s.splitPrim j x) hi (splitPrim_nseg b[i] j x hj) rfl

theorem Basis.scaleColumnAt_total (b : Basis ℝ) (i : ℕ) (hi : i < b.size) (m : ℕ) (x : ℝ) :
    (b.scaleColumnAt i m x).total = b.total :=
  Basis.mapShell_total b i (fun s => s.scaleColumn m x) hi (scaleColumn_nseg b[i] m x) rfl

/-- `f r`: the factor by which basis function `r` of `b'` differs from basis function `r` of `b` -/
def Rewrite (b' b : Basis ℝ) (f : ℕ → ℝ) : Prop :=
  ∃ (i : ℕ) (hi : i < b.size) (new : ℕ → Shell ℝ × ℕ) (lam mu : ℕ → ℝ),
    Replaced b' b i new ∧ ShellOp b[i] new lam mu ∧
      ∀ r < b.total, (if (b.locate r).1 = i then lam (segOf b r) * mu (segOf b r) else 1) = f r

variable {b' b b1' b1 b2' b2 : Basis ℝ} {f f1 f2 : ℕ → ℝ}

theorem Rewrite.total (h : Rewrite b' b f) : b'.total = b.total := by
  obtain ⟨_, _, _, _, _, hR, -⟩ := h
  exact hR.total

theorem Rewrite.congr (h : Rewrite b' b f) {g : ℕ → ℝ} (hg : ∀ r < b.total, f r = g r) :
    Rewrite b' b g := by
  obtain ⟨i, hi, new, lam, mu, hR, hop, hf⟩ := h
  exact ⟨i, hi, new, lam, mu, hR, hop, fun r hr => (hf r hr).trans (hg r hr)⟩

theorem Rewrite.of_unit {i : ℕ} {new : ℕ → Shell ℝ × ℕ} (hi : i < b.size)
    (hR : Replaced b' b i new) (hop : ShellOp b[i] new (fun _ => 1) (fun _ => 1)) :
    Rewrite b' b (fun _ => 1) :=
  ⟨i, hi, new, _, _, hR, hop, fun _ _ => by simp⟩

theorem Rewrite.refl (b : Basis ℝ) (i : ℕ) (hi : i < b.size) : Rewrite b b (fun _ => 1) :=
  Rewrite.of_unit hi (Replaced.refl b i hi) (shellOp_refl b[i])

/-- C13.1 -/
theorem Rewrite.splitColumns (b : Basis ℝ) (i : ℕ) (hi : i < b.size) :
    Rewrite (b.splitColumns i) b (fun _ => 1) :=
  Rewrite.of_unit hi (replaced_splitColumns b i hi) (shellOp_column b[i])

/-- C13.2 -/
theorem Rewrite.permPrims (b : Basis ℝ) (i : ℕ) (hi : i < b.size) (σ : ℕ → ℕ)
    (hmap : ∀ k < b[i].nprim, σ k < b[i].nprim)
    (hinj : ∀ k < b[i].nprim, ∀ k' < b[i].nprim, σ k = σ k' → k = k')
    (hseg : (b[i].permPrims σ).nseg = b[i].nseg) : Rewrite (b.permPrimsAt i σ) b (fun _ => 1) :=
  Rewrite.of_unit hi (replaced_mapShell b i (fun s => s.permPrims σ) hi hseg rfl)
    (shellOp_permPrims b[i] σ hmap hinj)

/-- C13.3 -/
theorem Rewrite.splitPrim (b : Basis ℝ) (i : ℕ) (hi : i < b.size) (j : ℕ) (x : ℝ)
    (hj : j < b[i].nprim) : Rewrite (b.splitPrimAt i j x) b (fun _ => 1) :=
  Rewrite.of_unit hi
    (replaced_mapShell b i (fun s => s.splitPrim j x) hi (splitPrim_nseg b[i] j x hj) rfl)
    (shellOp_splitPrim b[i] j x hj)

/-- C13.4 in sign form.  `x ≠ 0` is not needed: for `x = 0` the factor `x / |x|` is `0`, as it must
be. -/
theorem Rewrite.scaleColumn (b : Basis ℝ) (i : ℕ) (hi : i < b.size) (m : ℕ) (x : ℝ)
    (hn : b[i].unitNorm = true) :
    Rewrite (b.scaleColumnAt i m x) b
      (fun r => if (b.locate r).1 = i ∧ (b.locate r).2.1 = m then x / |x| else 1) :=
  ⟨i, hi, _, _, _,
    replaced_mapShell b i (fun s => s.scaleColumn m x) hi (scaleColumn_nseg b[i] m x) rfl,
    shellOp_scaleColumn b[i] m x hn, fun r _ => by
      rw [ite_one_mul_ite_one, one_div_mul_eq_div, ← ite_and]
      rfl⟩

theorem Rewrite.scaleColumn_pos (b : Basis ℝ) (i : ℕ) (hi : i < b.size) (m : ℕ) (x : ℝ)
    (hx : 0 < x) (hn : b[i].unitNorm = true) : Rewrite (b.scaleColumnAt i m x) b (fun _ => 1) :=
  (Rewrite.scaleColumn b i hi m x hn).congr fun r _ => by
    rw [abs_of_pos hx, div_self hx.ne', ite_self]

theorem Rewrite.scaleColumn_neg (b : Basis ℝ) (i : ℕ) (hi : i < b.size) (m : ℕ) (x : ℝ)
    (hx : x < 0) (hn : b[i].unitNorm = true) : Rewrite (b.scaleColumnAt i m x) b (colSign b i m) :=
  (Rewrite.scaleColumn b i hi m x hn).congr fun r _ => by
    rw [abs_of_neg hx, div_neg, div_self hx.ne]
    rfl

variable {P : Shell ℝ → Prop} {B : Shell ℝ → Shell ℝ → Tab (Tab4 ℝ)} {e : ℕ}

theorem Rewrite.entry2_eq (h1 : Rewrite b1' b1 f1) (h2 : Rewrite b2' b2 f2) (L : BlockLaws P B e)
    (hP1 : ∀ j (hj : j < b1.size), P b1[j]) (hP2 : ∀ j (hj : j < b2.size), P b2[j])
    (nextra r c : ℕ) (hr : r < b1.total) (hc : c < b2.total) :
    entry2 b1' b2' (pairBlocks b1' b2' nextra fun j k => B b1'[j]! b2'[k]!) r c e
      = f1 r * f2 c * entry2 b1 b2 (pairBlocks b1 b2 nextra fun j k => B b1[j]! b2[k]!) r c e := by
  obtain ⟨i1, hi1, new1, lam1, mu1, hR1, hop1, hf1⟩ := h1
  obtain ⟨i2, hi2, new2, lam2, mu2, hR2, hop2, hf2⟩ := h2
  have hnew1 : ∀ m < b1[i1].nseg, P (new1 m).1 := fun m hm =>
    L.frame _ _ (hop1.frame m hm) (hP1 i1 hi1)
  have hnew2 : ∀ m < b2[i2].nseg, P (new2 m).1 := fun m hm =>
    L.frame _ _ (hop2.frame m hm) (hP2 i2 hi2)
  rw [← hf1 r hr, ← hf2 c hc]
  exact entry2_replaced_of_blocks_asym hR1 hi1 hR2 hi2 lam1 mu1 lam2 mu2 hop1.frame hop1.norm
    hop2.frame hop2.norm P P hP1 hP2 hnew2 nextra B e
    (fun m hm t n ht a ha c hc => hop1.law _ _ (L.left t n c ht hc) m hm a ⟨hP1 i1 hi1, ha⟩
      ⟨hnew1 m hm, by rw [frame_ncart (hop1.frame m hm)]; exact ha⟩)
    (fun n hn s m hs a ha c hc => hop2.law _ _ (L.right s m a hs ha) n hn c ⟨hP2 i2 hi2, hc⟩
      ⟨hnew2 n hn, by rw [frame_ncart (hop2.frame n hn)]; exact hc⟩)
    r c hr hc

theorem Rewrite.entry2_eq_left (h : Rewrite b1' b1 f) (b2 : Basis ℝ) (L : BlockLaws P B e)
    (hP1 : ∀ j (hj : j < b1.size), P b1[j]) (hP2 : ∀ j (hj : j < b2.size), P b2[j])
    (nextra r c : ℕ) (hr : r < b1.total) (hc : c < b2.total) :
    entry2 b1' b2 (pairBlocks b1' b2 nextra fun j k => B b1'[j]! b2[k]!) r c e
      = f r * entry2 b1 b2 (pairBlocks b1 b2 nextra fun j k => B b1[j]! b2[k]!) r c e := by
  rw [h.entry2_eq (Rewrite.refl b2 _ (locate_lt b2 c hc).1) L hP1 hP2 nextra r c hr hc, mul_one]

theorem Rewrite.entry2_eq_right (b1 : Basis ℝ) (h : Rewrite b2' b2 f) (L : BlockLaws P B e)
    (hP1 : ∀ j (hj : j < b1.size), P b1[j]) (hP2 : ∀ j (hj : j < b2.size), P b2[j])
    (nextra r c : ℕ) (hr : r < b1.total) (hc : c < b2.total) :
    entry2 b1 b2' (pairBlocks b1 b2' nextra fun j k => B b1[j]! b2'[k]!) r c e
      = f c * entry2 b1 b2 (pairBlocks b1 b2 nextra fun j k => B b1[j]! b2[k]!) r c e := by
  rw [(Rewrite.refl b1 _ (locate_lt b1 r hr).1).entry2_eq h L hP1 hP2 nextra r c hr hc, one_mul]

theorem Rewrite.assemble2_eq (h : Rewrite b' b (fun _ => 1)) (L : ∀ e, BlockLaws P B e)
    (hP : ∀ j (hj : j < b.size), P b[j]) (nextra : ℕ) :
    assemble2 b' b' nextra (fun j k => B b'[j]! b'[k]!)
      = assemble2 b b nextra (fun j k => B b[j]! b[k]!) :=
  assemble2_congr b b' b b' nextra _ _ h.total h.total fun r c e hr hc _ => by
    rw [h.entry2_eq h (L e) hP hP nextra r c hr hc, one_mul, one_mul]

theorem Rewrite.assemble2_eq_left (h : Rewrite b1' b1 (fun _ => 1)) (b2 : Basis ℝ)
    (L : ∀ e, BlockLaws P B e) (hP1 : ∀ j (hj : j < b1.size), P b1[j])
    (hP2 : ∀ j (hj : j < b2.size), P b2[j]) (nextra : ℕ) :
    assemble2 b1' b2 nextra (fun j k => B b1'[j]! b2[k]!)
      = assemble2 b1 b2 nextra (fun j k => B b1[j]! b2[k]!) :=
  assemble2_congr b1 b1' b2 b2 nextra _ _ h.total rfl fun r c e hr hc _ => by
    rw [h.entry2_eq_left b2 (L e) hP1 hP2 nextra r c hr hc, one_mul]

theorem Rewrite.assemble2_eq_right (b1 : Basis ℝ) (h : Rewrite b2' b2 (fun _ => 1))
    (L : ∀ e, BlockLaws P B e) (hP1 : ∀ j (hj : j < b1.size), P b1[j])
    (hP2 : ∀ j (hj : j < b2.size), P b2[j]) (nextra : ℕ) :
    assemble2 b1 b2' nextra (fun j k => B b1[j]! b2'[k]!)
      = assemble2 b1 b2 nextra (fun j k => B b1[j]! b2[k]!) :=
  assemble2_congr b1 b1 b2 b2' nextra _ _ rfl h.total fun r c e hr hc _ => by
    rw [Rewrite.entry2_eq_right b1 h (L e) hP1 hP2 nextra r c hr hc, one_mul]

theorem Rewrite.assemble2_getElem (h : Rewrite b' b f) (L : ∀ e, BlockLaws P B e)
    (hP : ∀ j (hj : j < b.size), P b[j]) (nextra r c e : ℕ) (hr : r < b.total) (hc : c < b.total)
    (he : e < nextra) :
    (assemble2 b' b' nextra fun j k => B b'[j]! b'[k]!)[(r * b.total + c) * nextra + e]!
      = f r * f c * (assemble2 b b nextra fun j k => B b[j]! b[k]!)[(r * b.total + c) * nextra + e]! :=
  assemble2_get_rel b b' b b' nextra _ _ h.total h.total r c e hr hc he _
    (h.entry2_eq h (L e) hP hP nextra r c hr hc)

end Rewrites

/-! ## The arrays of the model -/
section Arrays

/-- the `blk` argument with which `Driver.lean` calls `assemble2` for `"moment"` -/
noncomputable def momentBlk (b : Basis ℝ) (O : ℕ → ℝ) (orders : List Comp) (i j : ℕ) :
    Tab (Tab4 ℝ) := momentBlock b[i]! b[j]! O orders
/-- the `blk` argument with which `Driver.lean` calls `assemble2` for `"momentum"` -/
noncomputable def momentumBlk (b : Basis ℝ) (i j : ℕ) : Tab (Tab4 ℝ) := momentumBlock b[i]! b[j]!
/-- the `blk` argument with which `Driver.lean` calls `assemble2` for `"angmom"` -/
noncomputable def angmomBlk (b : Basis ℝ) (i j : ℕ) : Tab (Tab4 ℝ) := angmomBlock b[i]! b[j]!

def Shell.CompsLe (s : Shell ℝ) : Prop := ∀ a < s.ncart, s.degOK a

theorem overlap_blockLaws (e : ℕ) :
    BlockLaws (fun _ => True) (fun s t => tab 1 fun _ => overlapBlock s t) e :=
  .of_slotLinear
    (fun t n c => (overlapBlock_slotLinear_left Real.exp Real.sqrt Real.pi t n c).congr
      fun s m a => by simp only [tab_get])
    (fun s m a => (overlapBlock_slotLinear_right Real.exp Real.sqrt Real.pi s m a).congr
      fun t n c => by simp only [tab_get])

theorem kinetic_blockLaws (e : ℕ) :
    BlockLaws (fun _ => True) (fun s t => tab 1 fun _ => kineticBlock s t) e :=
  .of_slotLinear
    (fun t n c => (kineticBlock_slotLinear_left Real.exp Real.sqrt Real.pi t n c).congr
      fun s m a => by simp only [tab_get])
    (fun s m a => (kineticBlock_slotLinear_right Real.exp Real.sqrt Real.pi s m a).congr
      fun t n c => by simp only [tab_get])

theorem moment_blockLaws (O : ℕ → ℝ) (orders : List Comp) (e : ℕ) :
    BlockLaws (fun _ => True) (fun s t => momentBlock s t O orders) e :=
  .of_slotLinear (fun t => momentBlock_slotLinear_left Real.exp Real.sqrt Real.pi t O orders e)
    (fun s => momentBlock_slotLinear_right Real.exp Real.sqrt Real.pi s O orders e)

theorem momentum_blockLaws (e : ℕ) :
    BlockLaws (fun _ => True) (fun s t => momentumBlock s t) e :=
  .of_slotLinear (fun t => momentumBlock_slotLinear_left Real.exp Real.sqrt Real.pi t e)
    (fun s => momentumBlock_slotLinear_right Real.exp Real.sqrt Real.pi s e)

theorem angmom_blockLaws (e : ℕ) :
    BlockLaws (fun _ => True) (fun s t => angmomBlock s t) e :=
  .of_slotLinear (fun t => angmomBlock_slotLinear_left Real.exp Real.sqrt Real.pi t e)
    (fun s => angmomBlock_slotLinear_right Real.exp Real.sqrt Real.pi s e)

theorem pointCharge_blockLaws (boysT : ℝ → ℕ → Tab ℝ) (np : ℕ) (pts : ℕ → ℕ → ℝ) (qs : ℕ → ℝ)
    (e : ℕ) :
    BlockLaws Shell.CompsLe
      (fun s t => tab np fun e => pointChargeBlock boysT s t (pts e) (qs e)) e where
  frame := fun s s' h hs a ha => (frame_degOK h a).mpr (hs a (by rw [← frame_ncart h]; exact ha))
  left := fun t n c ht hc =>
    ((pointChargeBlock_slotLinear_left Real.exp Real.sqrt Real.pi boysT t (pts e) (qs e) n c
      (ht c hc)).mono fun s a h => h.1 a h.2).congr fun s m a _ => by simp only [tab_get]
  right := fun s m a hs ha =>
    ((pointChargeBlock_slotLinear_right Real.exp Real.sqrt Real.pi boysT s (pts e) (qs e) m a
      (hs a ha)).mono fun t c h => h.1 c h.2).congr fun t n c _ => by simp only [tab_get]

theorem Basis.CompsLe.shell {b : Basis ℝ} (hb : b.CompsLe) (j : ℕ) (hj : j < b.size) :
    b[j].CompsLe := fun a ha => hb j hj a ha

/-! ### the overlap array (`overlap_integral`) -/

/-- C13.1 -/
theorem overlap_flat_splitColumns (b : Basis ℝ) (i : ℕ) (hi : i < b.size) :
    assemble2 (b.splitColumns i) (b.splitColumns i) 1 (overlapBlk (b.splitColumns i))
      = assemble2 b b 1 (overlapBlk b) :=
  (Rewrite.splitColumns b i hi).assemble2_eq overlap_blockLaws (fun _ _ => trivial) 1

/-- C13.2 -/
theorem overlap_flat_permPrims (b : Basis ℝ) (i : ℕ) (hi : i < b.size) (σ : ℕ → ℕ)
    (hmap : ∀ k < b[i].nprim, σ k < b[i].nprim)
    (hinj : ∀ k < b[i].nprim, ∀ k' < b[i].nprim, σ k = σ k' → k = k')
    (hseg : (b[i].permPrims σ).nseg = b[i].nseg) :
    assemble2 (b.permPrimsAt i σ) (b.permPrimsAt i σ) 1 (overlapBlk (b.permPrimsAt i σ))
      = assemble2 b b 1 (overlapBlk b) :=
  (Rewrite.permPrims b i hi σ hmap hinj hseg).assemble2_eq overlap_blockLaws (fun _ _ => trivial) 1

/-- C13.3 -/
theorem overlap_flat_splitPrim (b : Basis ℝ) (i : ℕ) (hi : i < b.size) (j : ℕ) (x : ℝ)
    (hj : j < b[i].nprim) :
    assemble2 (b.splitPrimAt i j x) (b.splitPrimAt i j x) 1 (overlapBlk (b.splitPrimAt i j x))
      = assemble2 b b 1 (overlapBlk b) :=
  (Rewrite.splitPrim b i hi j x hj).assemble2_eq overlap_blockLaws (fun _ _ => trivial) 1

/-- C13.4, `x > 0` -/
theorem overlap_flat_scaleColumn_pos (b : Basis ℝ) (i : ℕ) (hi : i < b.size) (m : ℕ) (x : ℝ)
    (hx : 0 < x) (hn : b[i].unitNorm = true) :
    assemble2 (b.scaleColumnAt i m x) (b.scaleColumnAt i m x) 1 (overlapBlk (b.scaleColumnAt i m x))
      = assemble2 b b 1 (overlapBlk b) :=
  (Rewrite.scaleColumn_pos b i hi m x hx hn).assemble2_eq overlap_blockLaws (fun _ _ => trivial) 1

/-- C13.4, `x < 0` -/
theorem overlap_array_scaleColumn_neg (b : Basis ℝ) (i : ℕ) (hi : i < b.size) (m : ℕ) (x : ℝ)
    (hx : x < 0) (hn : b[i].unitNorm = true) (r c e : ℕ) (hr : r < b.total) (hc : c < b.total) :
    entry2 (b.scaleColumnAt i m x) (b.scaleColumnAt i m x)
        (pairBlocks (b.scaleColumnAt i m x) (b.scaleColumnAt i m x) 1 (overlapBlk (b.scaleColumnAt i m x))) r c e
      = colSign b i m r * colSign b i m c * entry2 b b (pairBlocks b b 1 (overlapBlk b)) r c e :=
  have h := Rewrite.scaleColumn_neg b i hi m x hx hn
  h.entry2_eq h (overlap_blockLaws e) (fun _ _ => trivial) (fun _ _ => trivial) 1 r c hr hc

/-- the same for the flat array that the driver prints -/
theorem overlap_flat_scaleColumn_neg (b : Basis ℝ) (i : ℕ) (hi : i < b.size) (m : ℕ) (x : ℝ)
    (hx : x < 0) (hn : b[i].unitNorm = true) (r c e : ℕ) (hr : r < b.total) (hc : c < b.total)
    (he : e < 1) :
    (assemble2 (b.scaleColumnAt i m x) (b.scaleColumnAt i m x) 1 (overlapBlk (b.scaleColumnAt i m x)))[(r * b.total + c) * 1 + e]!
      = colSign b i m r * colSign b i m c
        * (assemble2 b b 1 (overlapBlk b))[(r * b.total + c) * 1 + e]! :=
  (Rewrite.scaleColumn_neg b i hi m x hx hn).assemble2_getElem overlap_blockLaws (fun _ _ => trivial) 1 r c e hr hc he

/-! ### the kinetic-energy array (`kinetic_energy_integral`) -/

/-- C13.1 -/
theorem kinetic_flat_splitColumns (b : Basis ℝ) (i : ℕ) (hi : i < b.size) :
    assemble2 (b.splitColumns i) (b.splitColumns i) 1 (kineticBlk (b.splitColumns i))
      = assemble2 b b 1 (kineticBlk b) :=
  (Rewrite.splitColumns b i hi).assemble2_eq kinetic_blockLaws (fun _ _ => trivial) 1

/-- C13.2 -/
theorem kinetic_flat_permPrims (b : Basis ℝ) (i : ℕ) (hi : i < b.size) (σ : ℕ → ℕ)
    (hmap : ∀ k < b[i].nprim, σ k < b[i].nprim)
    (hinj : ∀ k < b[i].nprim, ∀ k' < b[i].nprim, σ k = σ k' → k = k')
    (hseg : (b[i].permPrims σ).nseg = b[i].nseg) :
    assemble2 (b.permPrimsAt i σ) (b.permPrimsAt i σ) 1 (kineticBlk (b.permPrimsAt i σ))
      = assemble2 b b 1 (kineticBlk b) :=
  (Rewrite.permPrims b i hi σ hmap hinj hseg).assemble2_eq kinetic_blockLaws (fun _ _ => trivial) 1

/-- C13.3 -/
theorem kinetic_flat_splitPrim (b : Basis ℝ) (i : ℕ) (hi : i < b.size) (j : ℕ) (x : ℝ)
    (hj : j < b[i].nprim) :
    assemble2 (b.splitPrimAt i j x) (b.splitPrimAt i j x) 1 (kineticBlk (b.splitPrimAt i j x))
      = assemble2 b b 1 (kineticBlk b) :=
  (Rewrite.splitPrim b i hi j x hj).assemble2_eq kinetic_blockLaws (fun _ _ => trivial) 1

/-- C13.4, `x > 0` -/
theorem kinetic_flat_scaleColumn_pos (b : Basis ℝ) (i : ℕ) (hi : i < b.size) (m : ℕ) (x : ℝ)
    (hx : 0 < x) (hn : b[i].unitNorm = true) :
    assemble2 (b.scaleColumnAt i m x) (b.scaleColumnAt i m x) 1 (kineticBlk (b.scaleColumnAt i m x))
      = assemble2 b b 1 (kineticBlk b) :=
  (Rewrite.scaleColumn_pos b i hi m x hx hn).assemble2_eq kinetic_blockLaws (fun _ _ => trivial) 1

/-- C13.4, `x < 0` -/
theorem kinetic_flat_scaleColumn_neg (b : Basis ℝ) (i : ℕ) (hi : i < b.size) (m : ℕ) (x : ℝ)
    (hx : x < 0) (hn : b[i].unitNorm = true) (r c e : ℕ) (hr : r < b.total) (hc : c < b.total)
    (he : e < 1) :
    (assemble2 (b.scaleColumnAt i m x) (b.scaleColumnAt i m x) 1 (kineticBlk (b.scaleColumnAt i m x)))[(r * b.total + c) * 1 + e]!
      = colSign b i m r * colSign b i m c
        * (assemble2 b b 1 (kineticBlk b))[(r * b.total + c) * 1 + e]! :=
  (Rewrite.scaleColumn_neg b i hi m x hx hn).assemble2_getElem kinetic_blockLaws (fun _ _ => trivial) 1 r c e hr hc he

/-! ### the multipole-moment array (`moment_integral`) -/

/-- C13.1 -/
theorem moment_flat_splitColumns (O : ℕ → ℝ) (orders : List Comp) (b : Basis ℝ) (i : ℕ) (hi : i < b.size) :
    assemble2 (b.splitColumns i) (b.splitColumns i) orders.length (momentBlk (b.splitColumns i) O orders)
      = assemble2 b b orders.length (momentBlk b O orders) :=
  (Rewrite.splitColumns b i hi).assemble2_eq (moment_blockLaws O orders) (fun _ _ => trivial) orders.length

/-- C13.2 -/
theorem moment_flat_permPrims (O : ℕ → ℝ) (orders : List Comp) (b : Basis ℝ) (i : ℕ) (hi : i < b.size) (σ : ℕ → ℕ)
    (hmap : ∀ k < b[i].nprim, σ k < b[i].nprim)
    (hinj : ∀ k < b[i].nprim, ∀ k' < b[i].nprim, σ k = σ k' → k = k')
    (hseg : (b[i].permPrims σ).nseg = b[i].nseg) :
    assemble2 (b.permPrimsAt i σ) (b.permPrimsAt i σ) orders.length (momentBlk (b.permPrimsAt i σ) O orders)
      = assemble2 b b orders.length (momentBlk b O orders) :=
  (Rewrite.permPrims b i hi σ hmap hinj hseg).assemble2_eq (moment_blockLaws O orders) (fun _ _ => trivial) orders.length

/-- C13.3 -/
theorem moment_flat_splitPrim (O : ℕ → ℝ) (orders : List Comp) (b : Basis ℝ) (i : ℕ) (hi : i < b.size) (j : ℕ) (x : ℝ)
    (hj : j < b[i].nprim) :
    assemble2 (b.splitPrimAt i j x) (b.splitPrimAt i j x) orders.length (momentBlk (b.splitPrimAt i j x) O orders)
      = assemble2 b b orders.length (momentBlk b O orders) :=
  (Rewrite.splitPrim b i hi j x hj).assemble2_eq (moment_blockLaws O orders) (fun _ _ => trivial) orders.length

/-- C13.4, `x > 0` -/
theorem moment_flat_scaleColumn_pos (O : ℕ → ℝ) (orders : List Comp) (b : Basis ℝ) (i : ℕ) (hi : i < b.size) (m : ℕ) (x : ℝ)
    (hx : 0 < x) (hn : b[i].unitNorm = true) :
    assemble2 (b.scaleColumnAt i m x) (b.scaleColumnAt i m x) orders.length (momentBlk (b.scaleColumnAt i m x) O orders)
      = assemble2 b b orders.length (momentBlk b O orders) :=
  (Rewrite.scaleColumn_pos b i hi m x hx hn).assemble2_eq (moment_blockLaws O orders) (fun _ _ => trivial) orders.length

/-- C13.4, `x < 0` -/
theorem moment_flat_scaleColumn_neg (O : ℕ → ℝ) (orders : List Comp) (b : Basis ℝ) (i : ℕ) (hi : i < b.size) (m : ℕ) (x : ℝ)
    (hx : x < 0) (hn : b[i].unitNorm = true) (r c e : ℕ) (hr : r < b.total) (hc : c < b.total)
    (he : e < orders.length) :
    (assemble2 (b.scaleColumnAt i m x) (b.scaleColumnAt i m x) orders.length (momentBlk (b.scaleColumnAt i m x) O orders))[(r * b.total + c) * orders.length + e]!
      = colSign b i m r * colSign b i m c
        * (assemble2 b b orders.length (momentBlk b O orders))[(r * b.total + c) * orders.length + e]! :=
  (Rewrite.scaleColumn_neg b i hi m x hx hn).assemble2_getElem (moment_blockLaws O orders) (fun _ _ => trivial) orders.length r c e hr hc he

/-! ### the point-charge array (`point_charge_integral`) -/

/-- C13.1 -/
theorem pointCharge_flat_splitColumns (boysT : ℝ → ℕ → Tab ℝ) (np : ℕ) (pts : ℕ → ℕ → ℝ) (qs : ℕ → ℝ) (b : Basis ℝ) (hb : b.CompsLe) (i : ℕ) (hi : i < b.size) :
    assemble2 (b.splitColumns i) (b.splitColumns i) np (pointChargeBlk boysT (b.splitColumns i) np pts qs)
      = assemble2 b b np (pointChargeBlk boysT b np pts qs) :=
  (Rewrite.splitColumns b i hi).assemble2_eq (pointCharge_blockLaws boysT np pts qs) hb.shell np

/-- C13.2 -/
theorem pointCharge_flat_permPrims (boysT : ℝ → ℕ → Tab ℝ) (np : ℕ) (pts : ℕ → ℕ → ℝ) (qs : ℕ → ℝ) (b : Basis ℝ) (hb : b.CompsLe) (i : ℕ) (hi : i < b.size) (σ : ℕ → ℕ)
    (hmap : ∀ k < b[i].nprim, σ k < b[i].nprim)
    (hinj : ∀ k < b[i].nprim, ∀ k' < b[i].nprim, σ k = σ k' → k = k')
    (hseg : (b[i].permPrims σ).nseg = b[i].nseg) :
    assemble2 (b.permPrimsAt i σ) (b.permPrimsAt i σ) np (pointChargeBlk boysT (b.permPrimsAt i σ) np pts qs)
      = assemble2 b b np (pointChargeBlk boysT b np pts qs) :=
  (Rewrite.permPrims b i hi σ hmap hinj hseg).assemble2_eq (pointCharge_blockLaws boysT np pts qs) hb.shell np

/-- C13.3 -/
theorem pointCharge_flat_splitPrim (boysT : ℝ → ℕ → Tab ℝ) (np : ℕ) (pts : ℕ → ℕ → ℝ) (qs : ℕ → ℝ) (b : Basis ℝ) (hb : b.CompsLe) (i : ℕ) (hi : i < b.size) (j : ℕ) (x : ℝ)
    (hj : j < b[i].nprim) :
    assemble2 (b.splitPrimAt i j x) (b.splitPrimAt i j x) np (pointChargeBlk boysT (b.splitPrimAt i j x) np pts qs)
      = assemble2 b b np (pointChargeBlk boysT b np pts qs) :=
  (Rewrite.splitPrim b i hi j x hj).assemble2_eq (pointCharge_blockLaws boysT np pts qs) hb.shell np

/-- C13.4, `x > 0` -/
theorem pointCharge_flat_scaleColumn_pos (boysT : ℝ → ℕ → Tab ℝ) (np : ℕ) (pts : ℕ → ℕ → ℝ) (qs : ℕ → ℝ) (b : Basis ℝ) (hb : b.CompsLe) (i : ℕ) (hi : i < b.size) (m : ℕ) (x : ℝ)
    (hx : 0 < x) (hn : b[i].unitNorm = true) :
    assemble2 (b.scaleColumnAt i m x) (b.scaleColumnAt i m x) np (pointChargeBlk boysT (b.scaleColumnAt i m x) np pts qs)
      = assemble2 b b np (pointChargeBlk boysT b np pts qs) :=
  (Rewrite.scaleColumn_pos b i hi m x hx hn).assemble2_eq (pointCharge_blockLaws boysT np pts qs) hb.shell np

/-- C13.4, `x < 0` -/
theorem pointCharge_array_scaleColumn_neg (boysT : ℝ → ℕ → Tab ℝ) (np : ℕ) (pts : ℕ → ℕ → ℝ) (qs : ℕ → ℝ) (b : Basis ℝ) (hb : b.CompsLe) (i : ℕ) (hi : i < b.size) (m : ℕ) (x : ℝ)
    (hx : x < 0) (hn : b[i].unitNorm = true) (r c e : ℕ) (hr : r < b.total) (hc : c < b.total) :
    entry2 (b.scaleColumnAt i m x) (b.scaleColumnAt i m x)
        (pairBlocks (b.scaleColumnAt i m x) (b.scaleColumnAt i m x) np (pointChargeBlk boysT (b.scaleColumnAt i m x) np pts qs)) r c e
      = colSign b i m r * colSign b i m c * entry2 b b (pairBlocks b b np (pointChargeBlk boysT b np pts qs)) r c e :=
  have h := Rewrite.scaleColumn_neg b i hi m x hx hn
  h.entry2_eq h (pointCharge_blockLaws boysT np pts qs e) hb.shell hb.shell np r c hr hc

/-- the same for the flat array that the driver prints -/
theorem pointCharge_flat_scaleColumn_neg (boysT : ℝ → ℕ → Tab ℝ) (np : ℕ) (pts : ℕ → ℕ → ℝ) (qs : ℕ → ℝ) (b : Basis ℝ) (hb : b.CompsLe) (i : ℕ) (hi : i < b.size) (m : ℕ) (x : ℝ)
    (hx : x < 0) (hn : b[i].unitNorm = true) (r c e : ℕ) (hr : r < b.total) (hc : c < b.total)
    (he : e < np) :
    (assemble2 (b.scaleColumnAt i m x) (b.scaleColumnAt i m x) np (pointChargeBlk boysT (b.scaleColumnAt i m x) np pts qs))[(r * b.total + c) * np + e]!
      = colSign b i m r * colSign b i m c
        * (assemble2 b b np (pointChargeBlk boysT b np pts qs))[(r * b.total + c) * np + e]! :=
  (Rewrite.scaleColumn_neg b i hi m x hx hn).assemble2_getElem (pointCharge_blockLaws boysT np pts qs) hb.shell np r c e hr hc he

/-! ### the momentum array (`momentum_integral`) -/

/-- C13.1 -/
theorem momentum_flat_splitColumns (b : Basis ℝ) (i : ℕ) (hi : i < b.size) :
    assemble2 (b.splitColumns i) (b.splitColumns i) 3 (momentumBlk (b.splitColumns i))
      = assemble2 b b 3 (momentumBlk b) :=
  (Rewrite.splitColumns b i hi).assemble2_eq momentum_blockLaws (fun _ _ => trivial) 3

/-- C13.2 -/
theorem momentum_flat_permPrims (b : Basis ℝ) (i : ℕ) (hi : i < b.size) (σ : ℕ → ℕ)
    (hmap : ∀ k < b[i].nprim, σ k < b[i].nprim)
    (hinj : ∀ k < b[i].nprim, ∀ k' < b[i].nprim, σ k = σ k' → k = k')
    (hseg : (b[i].permPrims σ).nseg = b[i].nseg) :
    assemble2 (b.permPrimsAt i σ) (b.permPrimsAt i σ) 3 (momentumBlk (b.permPrimsAt i σ))
      = assemble2 b b 3 (momentumBlk b) :=
  (Rewrite.permPrims b i hi σ hmap hinj hseg).assemble2_eq momentum_blockLaws (fun _ _ => trivial) 3

/-- C13.3 -/
theorem momentum_flat_splitPrim (b : Basis ℝ) (i : ℕ) (hi : i < b.size) (j : ℕ) (x : ℝ)
    (hj : j < b[i].nprim) :
    assemble2 (b.splitPrimAt i j x) (b.splitPrimAt i j x) 3 (momentumBlk (b.splitPrimAt i j x))
      = assemble2 b b 3 (momentumBlk b) :=
  (Rewrite.splitPrim b i hi j x hj).assemble2_eq momentum_blockLaws (fun _ _ => trivial) 3

/-- C13.4, `x > 0` -/
theorem momentum_flat_scaleColumn_pos (b : Basis ℝ) (i : ℕ) (hi : i < b.size) (m : ℕ) (x : ℝ)
    (hx : 0 < x) (hn : b[i].unitNorm = true) :
    assemble2 (b.scaleColumnAt i m x) (b.scaleColumnAt i m x) 3 (momentumBlk (b.scaleColumnAt i m x))
      = assemble2 b b 3 (momentumBlk b) :=
  (Rewrite.scaleColumn_pos b i hi m x hx hn).assemble2_eq momentum_blockLaws (fun _ _ => trivial) 3

/-- C13.4, `x < 0` -/
theorem momentum_flat_scaleColumn_neg (b : Basis ℝ) (i : ℕ) (hi : i < b.size) (m : ℕ) (x : ℝ)
    (hx : x < 0) (hn : b[i].unitNorm = true) (r c e : ℕ) (hr : r < b.total) (hc : c < b.total)
    (he : e < 3) :
    (assemble2 (b.scaleColumnAt i m x) (b.scaleColumnAt i m x) 3 (momentumBlk (b.scaleColumnAt i m x)))[(r * b.total + c) * 3 + e]!
      = colSign b i m r * colSign b i m c
        * (assemble2 b b 3 (momentumBlk b))[(r * b.total + c) * 3 + e]! :=
  (Rewrite.scaleColumn_neg b i hi m x hx hn).assemble2_getElem momentum_blockLaws (fun _ _ => trivial) 3 r c e hr hc he

/-! ### the angular-momentum array (`angular_momentum_integral`) -/

/-- C13.1 -/
theorem angmom_flat_splitColumns (b : Basis ℝ) (i : ℕ) (hi : i < b.size) :
    assemble2 (b.splitColumns i) (b.splitColumns i) 3 (angmomBlk (b.splitColumns i))
      = assemble2 b b 3 (angmomBlk b) :=
  (Rewrite.splitColumns b i hi).assemble2_eq angmom_blockLaws (fun _ _ => trivial) 3

/-- C13.2 -/
theorem angmom_flat_permPrims (b : Basis ℝ) (i : ℕ) (hi : i < b.size) (σ : ℕ → ℕ)
    (hmap : ∀ k < b[i].nprim, σ k < b[i].nprim)
    (hinj : ∀ k < b[i].nprim, ∀ k' < b[i].nprim, σ k = σ k' → k = k')
    (hseg : (b[i].permPrims σ).nseg = b[i].nseg) :
    assemble2 (b.permPrimsAt i σ) (b.permPrimsAt i σ) 3 (angmomBlk (b.permPrimsAt i σ))
      = assemble2 b b 3 (angmomBlk b) :=
  (Rewrite.permPrims b i hi σ hmap hinj hseg).assemble2_eq angmom_blockLaws (fun _ _ => trivial) 3

/-- C13.3 -/
theorem angmom_flat_splitPrim (b : Basis ℝ) (i : ℕ) (hi : i < b.size) (j : ℕ) (x : ℝ)
    (hj : j < b[i].nprim) :
    assemble2 (b.splitPrimAt i j x) (b.splitPrimAt i j x) 3 (angmomBlk (b.splitPrimAt i j x))
      = assemble2 b b 3 (angmomBlk b) :=
  (Rewrite.splitPrim b i hi j x hj).assemble2_eq angmom_blockLaws (fun _ _ => trivial) 3

/-- C13.4, `x > 0` -/
theorem angmom_flat_scaleColumn_pos (b : Basis ℝ) (i : ℕ) (hi : i < b.size) (m : ℕ) (x : ℝ)
    (hx : 0 < x) (hn : b[i].unitNorm = true) :
    assemble2 (b.scaleColumnAt i m x) (b.scaleColumnAt i m x) 3 (angmomBlk (b.scaleColumnAt i m x))
      = assemble2 b b 3 (angmomBlk b) :=
  (Rewrite.scaleColumn_pos b i hi m x hx hn).assemble2_eq angmom_blockLaws (fun _ _ => trivial) 3

/-- C13.4, `x < 0` -/
theorem angmom_flat_scaleColumn_neg (b : Basis ℝ) (i : ℕ) (hi : i < b.size) (m : ℕ) (x : ℝ)
    (hx : x < 0) (hn : b[i].unitNorm = true) (r c e : ℕ) (hr : r < b.total) (hc : c < b.total)
    (he : e < 3) :
    (assemble2 (b.scaleColumnAt i m x) (b.scaleColumnAt i m x) 3 (angmomBlk (b.scaleColumnAt i m x)))[(r * b.total + c) * 3 + e]!
      = colSign b i m r * colSign b i m c
        * (assemble2 b b 3 (angmomBlk b))[(r * b.total + c) * 3 + e]! :=
  (Rewrite.scaleColumn_neg b i hi m x hx hn).assemble2_getElem angmom_blockLaws (fun _ _ => trivial) 3 r c e hr hc he

end Arrays

end GB
