import GBProofs.Block3D
import GBProofs.TranslationLaws

/-!
# Moving the moment origin: binomial expansion in lower moments

Part of C07 (moments are exact for every order and origin).  An entry of `momentBlock` at position
`d` depends only on the triple `orders[d]`, so blocks for different order lists can be compared entry
by entry.  Over ℝ with positive exponents the entries are integrals
(`momentBlock_eq_integral_mono`); expanding `(r-O')^e` binomially about `O` under the integral
writes a moment about `O'` as a combination of the moments of orders `≤ e` about `O`.  The dipole
case is `M(O') = M(O) + (O - O')·S` with `S` the entry of `overlapBlock`.
-/
open MeasureTheory Real

namespace GB

/-! ## An entry only depends on its own order triple -/

/-- The other members of the order list only change how many planes `nk` of the one-dimensional
tables `momAx` are built (`nk` is one more than the largest order in the list), never the values
in a plane: `momTab` reads plane `k` from `momPlanes … k`, which does not depend on `nk`. -/
theorem momentBlock_entry_order_indep {K : Type} [Transc K] (s t : Shell K) (O : ℕ → K)
    (orders : List Comp) (d ma ca mb cb : ℕ) :
    ((momentBlock s t O orders).get d).get4 ma ca mb cb
      = ((momentBlock s t O [orders.getD d (0,0,0)]).get 0).get4 ma ca mb cb := by
  simp only [momentBlock, tab_get, blockTab, tab4_get, List.getD_cons_zero, contract, prod3,
    pairTabs, tab3_get]
  simp only [momAx, momTab, Tab.get3, tab_get]

theorem momentBlock_entry_congr {K : Type} [Transc K] (s t : Shell K) (O : ℕ → K)
    (orders orders' : List Comp) (d d' ma ca mb cb : ℕ)
    (h : orders.getD d (0,0,0) = orders'.getD d' (0,0,0)) :
    ((momentBlock s t O orders).get d).get4 ma ca mb cb
      = ((momentBlock s t O orders').get d').get4 ma ca mb cb := by
  rw [momentBlock_entry_order_indep s t O orders d, momentBlock_entry_order_indep s t O orders' d', h]

/-! ## The binomial expansion of the moment monomial -/

lemma sub_pow_shift (x a b : ℝ) (n : ℕ) :
    (x - b)^n = ∑ m ∈ Finset.range (n + 1), (x - a)^m * (a - b)^(n - m) * (n.choose m : ℝ) := by
  rw [← add_pow, sub_add_sub_cancel]

lemma monoFn_shift (O O' : ℕ → ℝ) (e₁ e₂ e₃ : ℕ) (r : ℝ × ℝ × ℝ) :
    monoFn O' (e₁, e₂, e₃) r
      = ∑ f₁ ∈ Finset.range (e₁ + 1), ∑ f₂ ∈ Finset.range (e₂ + 1), ∑ f₃ ∈ Finset.range (e₃ + 1),
          (e₁.choose f₁ : ℝ) * (e₂.choose f₂ : ℝ) * (e₃.choose f₃ : ℝ)
            * ((O 0 - O' 0)^(e₁ - f₁) * (O 1 - O' 1)^(e₂ - f₂) * (O 2 - O' 2)^(e₃ - f₃))
            * monoFn O (f₁, f₂, f₃) r := by
  simp only [monoFn]
  rw [sub_pow_shift r.1 (O 0) (O' 0), sub_pow_shift r.2.1 (O 1) (O' 1),
    sub_pow_shift r.2.2 (O 2) (O' 2), Finset.sum_mul_sum, Finset.sum_mul]
  refine Finset.sum_congr rfl fun f₁ _ => ?_
  rw [Finset.sum_mul_sum]
  refine Finset.sum_congr rfl fun f₂ _ => Finset.sum_congr rfl fun f₃ _ => ?_
  ring

/-! ## The origin shift of the blocks -/

/-- In multi-index notation `M_e(O') = Σ_{f ≤ e} C(e,f) (O-O')^{e-f} M_f(O)`.  The exponents are
positive so that both sides are integrals (`momentBlock_eq_integral_mono`); then `monoFn_shift`
expands the monomial under the integral. -/
theorem momentBlock_origin_shift (s t : Shell ℝ) (O O' : ℕ → ℝ) (e₁ e₂ e₃ : ℕ) (ma ca mb cb : ℕ)
    (hs : ∀ k < s.nprim, 0 < s.exp! k) (ht : ∀ k < t.nprim, 0 < t.exp! k) :
    ((momentBlock s t O' [(e₁, e₂, e₃)]).get 0).get4 ma ca mb cb
      = ∑ f₁ ∈ Finset.range (e₁ + 1), ∑ f₂ ∈ Finset.range (e₂ + 1), ∑ f₃ ∈ Finset.range (e₃ + 1),
          (e₁.choose f₁ : ℝ) * (e₂.choose f₂ : ℝ) * (e₃.choose f₃ : ℝ)
            * ((O 0 - O' 0)^(e₁ - f₁) * (O 1 - O' 1)^(e₂ - f₂) * (O 2 - O' 2)^(e₃ - f₃))
            * ((momentBlock s t O [(f₁, f₂, f₃)]).get 0).get4 ma ca mb cb := by
  have hI : ∀ (c : ℝ) (f : Comp), Integrable fun r : ℝ × ℝ × ℝ =>
      shellFn s ma ca r * shellFn t mb cb r * (c * monoFn O f r) := fun c f => by
    simp only [mul_left_comm _ c]
    exact (integrable_shell_mul s t O f ma ca mb cb hs ht).const_mul c
  simp only [momentBlock_eq_integral_mono s t _ _ 0 ma ca mb cb hs ht, List.getD_cons_zero,
    monoFn_shift O O', Finset.mul_sum]
  rw [integral_finsetSum _ fun f₁ _ => integrable_finsetSum _ fun f₂ _ =>
    integrable_finsetSum _ fun f₃ _ => hI _ _]
  refine Finset.sum_congr rfl fun f₁ _ => ?_
  rw [integral_finsetSum _ fun f₂ _ => integrable_finsetSum _ fun f₃ _ => hI _ _]
  refine Finset.sum_congr rfl fun f₂ _ => ?_
  rw [integral_finsetSum _ fun f₃ _ => hI _ _]
  refine Finset.sum_congr rfl fun f₃ _ => ?_
  simp only [mul_left_comm _ (_ * _ * _ * _ : ℝ), integral_const_mul]

/-- `momentBlock_origin_shift` for the order lists a caller of `Moment` passes: `orders` must contain
every triple `≤ orders'[d]` componentwise, and `idx f₁ f₂ f₃` is a position of `(f₁,f₂,f₃)` in it. -/
theorem momentBlock_origin_shift_list (s t : Shell ℝ) (O O' : ℕ → ℝ) (orders orders' : List Comp)
    (d ma ca mb cb : ℕ) (idx : ℕ → ℕ → ℕ → ℕ)
    (hs : ∀ k < s.nprim, 0 < s.exp! k) (ht : ∀ k < t.nprim, 0 < t.exp! k)
    (hidx : ∀ f₁ ≤ (orders'.getD d (0,0,0)).1, ∀ f₂ ≤ (orders'.getD d (0,0,0)).2.1,
      ∀ f₃ ≤ (orders'.getD d (0,0,0)).2.2, orders.getD (idx f₁ f₂ f₃) (0,0,0) = (f₁, f₂, f₃)) :
    ((momentBlock s t O' orders').get d).get4 ma ca mb cb
      = ∑ f₁ ∈ Finset.range ((orders'.getD d (0,0,0)).1 + 1),
        ∑ f₂ ∈ Finset.range ((orders'.getD d (0,0,0)).2.1 + 1),
        ∑ f₃ ∈ Finset.range ((orders'.getD d (0,0,0)).2.2 + 1),
          ((orders'.getD d (0,0,0)).1.choose f₁ : ℝ) * ((orders'.getD d (0,0,0)).2.1.choose f₂ : ℝ)
            * ((orders'.getD d (0,0,0)).2.2.choose f₃ : ℝ)
            * ((O 0 - O' 0)^((orders'.getD d (0,0,0)).1 - f₁)
                * (O 1 - O' 1)^((orders'.getD d (0,0,0)).2.1 - f₂)
                * (O 2 - O' 2)^((orders'.getD d (0,0,0)).2.2 - f₃))
            * ((momentBlock s t O orders).get (idx f₁ f₂ f₃)).get4 ma ca mb cb := by
  rw [momentBlock_entry_order_indep s t O' orders' d]
  have h := momentBlock_origin_shift s t O O' (orders'.getD d (0,0,0)).1
    (orders'.getD d (0,0,0)).2.1 (orders'.getD d (0,0,0)).2.2 ma ca mb cb hs ht
  rw [h]
  refine Finset.sum_congr rfl fun f₁ h₁ => Finset.sum_congr rfl fun f₂ h₂ =>
    Finset.sum_congr rfl fun f₃ h₃ => ?_
  have e := hidx f₁ (Nat.lt_succ_iff.mp (Finset.mem_range.mp h₁))
    f₂ (Nat.lt_succ_iff.mp (Finset.mem_range.mp h₂)) f₃ (Nat.lt_succ_iff.mp (Finset.mem_range.mp h₃))
  rw [momentBlock_entry_order_indep s t O orders (idx f₁ f₂ f₃), e]

/-! ## Dipole moments -/

/-- `overlapBlock` is by definition the order-`(0,0,0)` moment about the coordinate origin, and that
order does not see the origin (`momentBlock_order0_origin`). -/
theorem momentBlock_order0_eq_overlap (s t : Shell ℝ) (O : ℕ → ℝ) (ma ca mb cb : ℕ) :
    ((momentBlock s t O [(0,0,0)]).get 0).get4 ma ca mb cb = (overlapBlock s t).get4 ma ca mb cb := by
  unfold overlapBlock
  exact momentBlock_order0_origin Real.exp Real.sqrt Real.pi s t O _ ma ca mb cb

/-- `momentBlock_origin_shift` at order one, for the three-element order list dipole integrals
are asked with; `(overlapBlock s t)` is the order-`(0,0,0)` term of the expansion. -/
theorem momentBlock_dipole_shift (s t : Shell ℝ) (O O' : ℕ → ℝ) (axis ma ca mb cb : ℕ)
    (haxis : axis < 3)
    (hs : ∀ k < s.nprim, 0 < s.exp! k) (ht : ∀ k < t.nprim, 0 < t.exp! k) :
    ((momentBlock s t O' [(1,0,0), (0,1,0), (0,0,1)]).get axis).get4 ma ca mb cb
      = ((momentBlock s t O [(1,0,0), (0,1,0), (0,0,1)]).get axis).get4 ma ca mb cb
        + (O axis - O' axis) * (overlapBlock s t).get4 ma ca mb cb := by
  rw [momentBlock_entry_order_indep s t O' _ axis, momentBlock_entry_order_indep s t O _ axis,
    ← momentBlock_order0_eq_overlap s t O ma ca mb cb]
  interval_cases axis <;>
  · simp only [List.getD_cons_zero, List.getD_cons_succ]
    rw [momentBlock_origin_shift s t O O' _ _ _ ma ca mb cb hs ht]
    simp only [Finset.sum_range_succ, Finset.sum_range_zero, zero_add, Nat.choose_self, Nat.choose_zero_right,
      Nat.cast_one, one_mul, Nat.sub_self, Nat.sub_zero, pow_zero, pow_one, mul_one]
    ring

end GB
