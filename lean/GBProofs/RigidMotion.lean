import GBProofs.EriIntegral
import GBProofs.EvalDeriv
import GBProofs.TranslationLaws
import Mathlib.Analysis.InnerProductSpace.PiL2
import Mathlib.MeasureTheory.Measure.Haar.InnerProductSpace
import Mathlib.RingTheory.MvPolynomial.Homogeneous

/-!
# Rigid motions (C12): translations, proper and improper rotations

`g : E3 ≃ᵃⁱ[ℝ] E3` is an arbitrary affine isometry of Euclidean 3-space (`rigid R t` builds
`r ↦ t + R r`).  §1: `g` preserves the Lebesgue measure, so an integrand that at the image point is a
linear combination of integrands at the original point integrates to the same combination
(`lift_pair`, `lift_tensor`, `lift_coulomb'`).  §2: the functions of a moved shell (`Shell.moved`) at
the image point are the combination of the original ones with the representation matrix `repMat`,
which depends on the linear part and the component list only (`shellFnE_moved`).  §3: the overlap,
point-charge and electron-repulsion blocks of the model transform accordingly; integrals over
`ℝ × ℝ × ℝ` are read on `E3` through `e3Equiv`.
-/
open MeasureTheory Real Finset

namespace GB

/-! ## 1. Lifting theorem -/
section Lifting

lemma affineIso_sub (g : E3 ≃ᵃⁱ[ℝ] E3) (r A : E3) :
    g r - g A = g.linearIsometryEquiv (r - A) := (g.map_vsub r A).symm

lemma affineIso_apply (g : E3 ≃ᵃⁱ[ℝ] E3) (r : E3) :
    g r = g.linearIsometryEquiv r + g 0 := by
  rw [← sub_eq_iff_eq_add, affineIso_sub, sub_zero]

lemma affineIso_norm_sub (g : E3 ≃ᵃⁱ[ℝ] E3) (r A : E3) : ‖g r - g A‖ = ‖r - A‖ := by
  rw [affineIso_sub, LinearIsometryEquiv.norm_map]

theorem affineIso_measurePreserving (g : E3 ≃ᵃⁱ[ℝ] E3) :
    MeasurePreserving (g : E3 → E3) volume volume := by
  rw [funext (affineIso_apply g)]
  exact (measurePreserving_add_right volume (g 0)).comp g.linearIsometryEquiv.measurePreserving

lemma integral_comp_affineIso (g : E3 ≃ᵃⁱ[ℝ] E3) (Ψ : E3 → ℝ) : ∫ r, Ψ (g r) = ∫ r, Ψ r :=
  (affineIso_measurePreserving g).integral_comp g.toHomeomorph.measurableEmbedding Ψ

lemma integral_comp_affineIso_prod (g : E3 ≃ᵃⁱ[ℝ] E3) (Ψ : E3 × E3 → ℝ) :
    ∫ z : E3 × E3, Ψ (g z.1, g z.2) = ∫ z, Ψ z :=
  ((affineIso_measurePreserving g).prod (affineIso_measurePreserving g)).integral_comp
    (g.toHomeomorph.prodCongr g.toHomeomorph).measurableEmbedding Ψ

lemma sum_mul_sum_pair_div {ι₁ ι₂ : Type*} (S₁ : Finset ι₁) (S₂ : Finset ι₂) (D₁ : ι₁ → ℝ)
    (D₂ : ι₂ → ℝ) (x : ι₁ → ℝ) (y : ι₂ → ℝ) (n : ℝ) :
    (∑ a ∈ S₁, D₁ a * x a) * (∑ b ∈ S₂, D₂ b * y b) / n
      = ∑ a ∈ S₁, ∑ b ∈ S₂, D₁ a * D₂ b * (x a * y b / n) := by
  rw [sum_mul_sum_pair, Finset.sum_div]
  simp only [Finset.sum_div, mul_div_assoc]

lemma sum_mul_tensor_sum {κ ι₁ ι₂ : Type*} (J : Finset κ) (S₁ : Finset ι₁) (S₂ : Finset ι₂)
    (T : κ → ℝ) (D₁ : ι₁ → ℝ) (D₂ : ι₂ → ℝ) (x : ι₁ → ℝ) (y : κ → ι₂ → ℝ) :
    (∑ a ∈ S₁, D₁ a * x a) * (∑ j ∈ J, T j * ∑ b ∈ S₂, D₂ b * y j b)
      = ∑ j ∈ J, T j * ∑ a ∈ S₁, ∑ b ∈ S₂, D₁ a * D₂ b * (x a * y j b) := by
  rw [Finset.mul_sum]
  refine Finset.sum_congr rfl fun j _ => ?_
  rw [mul_left_comm, sum_mul_sum_pair]

theorem lift_pair {ι₁ ι₂ : Type*} (g : E3 ≃ᵃⁱ[ℝ] E3) (S₁ : Finset ι₁) (S₂ : Finset ι₂)
    (Ψ : E3 → ℝ) (Φ : ι₁ → ι₂ → E3 → ℝ) (c : ι₁ → ι₂ → ℝ)
    (h : ∀ r, Ψ (g r) = ∑ a ∈ S₁, ∑ b ∈ S₂, c a b * Φ a b r)
    (hint : ∀ a ∈ S₁, ∀ b ∈ S₂, Integrable (Φ a b)) :
    ∫ r, Ψ r = ∑ a ∈ S₁, ∑ b ∈ S₂, c a b * ∫ r, Φ a b r := by
  rw [← integral_comp_affineIso g, ← integral_sum_sum_mul S₁ S₂ c Φ hint]
  exact congrArg _ (funext h)

/-- The extra index `j` with its own coefficients `T j` carries the components of a vector or tensor
operator. -/
theorem lift_tensor {κ ι₁ ι₂ : Type*} (g : E3 ≃ᵃⁱ[ℝ] E3) (J : Finset κ) (S₁ : Finset ι₁)
    (S₂ : Finset ι₂) (Ψ : E3 → ℝ) (Φ : κ → ι₁ → ι₂ → E3 → ℝ) (T : κ → ℝ) (c : ι₁ → ι₂ → ℝ)
    (h : ∀ r, Ψ (g r) = ∑ j ∈ J, T j * ∑ a ∈ S₁, ∑ b ∈ S₂, c a b * Φ j a b r)
    (hint : ∀ j ∈ J, ∀ a ∈ S₁, ∀ b ∈ S₂, Integrable (Φ j a b)) :
    ∫ r, Ψ r = ∑ j ∈ J, T j * ∑ a ∈ S₁, ∑ b ∈ S₂, c a b * ∫ r, Φ j a b r := by
  rw [← integral_comp_affineIso g, funext h,
    integral_sum_mul J T _ fun j hj => integrable_sum_sum_mul S₁ S₂ c (Φ j) (hint j hj)]
  exact Finset.sum_congr rfl fun j hj =>
    congrArg _ (integral_sum_sum_mul S₁ S₂ c (Φ j) (hint j hj))

lemma four_sum_expand {ι₁ ι₂ ι₃ ι₄ : Type*} (S₁ : Finset ι₁) (S₂ : Finset ι₂) (S₃ : Finset ι₃)
    (S₄ : Finset ι₄) (a : ι₁ → ℝ) (b : ι₂ → ℝ) (c : ι₃ → ℝ) (d : ι₄ → ℝ) (n : ℝ) :
    (∑ j ∈ S₁, a j) * (∑ l ∈ S₂, b l) * ((∑ p ∈ S₃, c p) * (∑ q ∈ S₄, d q)) / n
      = ∑ j ∈ S₁, ∑ l ∈ S₂, ∑ p ∈ S₃, ∑ q ∈ S₄, a j * b l * (c p * d q) / n := by
  rw [Finset.sum_mul_sum, Finset.sum_mul_sum, Finset.sum_mul, Finset.sum_div]
  refine Finset.sum_congr rfl fun j _ => ?_
  rw [Finset.sum_mul, Finset.sum_div]
  refine Finset.sum_congr rfl fun l _ => ?_
  rw [Finset.mul_sum, Finset.sum_div]
  refine Finset.sum_congr rfl fun p _ => ?_
  rw [Finset.mul_sum, Finset.sum_div]

theorem lift_coulomb' {ι₁ ι₂ ι₃ ι₄ : Type*} (g : E3 ≃ᵃⁱ[ℝ] E3)
    (S₁ : Finset ι₁) (S₂ : Finset ι₂) (S₃ : Finset ι₃) (S₄ : Finset ι₄)
    (ψ₁ ψ₂ ψ₃ ψ₄ : E3 → ℝ) (φ₁ : ι₁ → E3 → ℝ) (φ₂ : ι₂ → E3 → ℝ) (φ₃ : ι₃ → E3 → ℝ)
    (φ₄ : ι₄ → E3 → ℝ) (D₁ : ι₁ → ℝ) (D₂ : ι₂ → ℝ) (D₃ : ι₃ → ℝ) (D₄ : ι₄ → ℝ)
    (h₁ : ∀ r, ψ₁ (g r) = ∑ j ∈ S₁, D₁ j * φ₁ j r) (h₂ : ∀ r, ψ₂ (g r) = ∑ l ∈ S₂, D₂ l * φ₂ l r)
    (h₃ : ∀ r, ψ₃ (g r) = ∑ p ∈ S₃, D₃ p * φ₃ p r) (h₄ : ∀ r, ψ₄ (g r) = ∑ q ∈ S₄, D₄ q * φ₄ q r)
    (hint : ∀ j ∈ S₁, ∀ l ∈ S₂, ∀ p ∈ S₃, ∀ q ∈ S₄, Integrable fun z : E3 × E3 =>
      φ₁ j z.1 * φ₂ l z.1 * (φ₃ p z.2 * φ₄ q z.2) / ‖z.1 - z.2‖) :
    ∫ z : E3 × E3, ψ₁ z.1 * ψ₂ z.1 * (ψ₃ z.2 * ψ₄ z.2) / ‖z.1 - z.2‖
      = ∑ j ∈ S₁, ∑ l ∈ S₂, ∑ p ∈ S₃, ∑ q ∈ S₄, D₁ j * D₂ l * D₃ p * D₄ q
          * ∫ z : E3 × E3, φ₁ j z.1 * φ₂ l z.1 * (φ₃ p z.2 * φ₄ q z.2) / ‖z.1 - z.2‖ := by
  have h := integral_sum_mul (μ := (volume : Measure (E3 × E3))) (S₁ ×ˢ S₂ ×ˢ S₃ ×ˢ S₄)
    (fun x => D₁ x.1 * D₂ x.2.1 * D₃ x.2.2.1 * D₄ x.2.2.2)
    (fun x z => φ₁ x.1 z.1 * φ₂ x.2.1 z.1 * (φ₃ x.2.2.1 z.2 * φ₄ x.2.2.2 z.2) / ‖z.1 - z.2‖)
    (fun x hx => by
      simp only [Finset.mem_product] at hx
      exact hint x.1 hx.1 x.2.1 hx.2.1 x.2.2.1 hx.2.2.1 x.2.2.2 hx.2.2.2)
  simp only [Finset.sum_product] at h
  rw [← integral_comp_affineIso_prod g, ← h]
  refine congrArg _ (funext fun z => ?_)
  simp only [h₁, h₂, h₃, h₄, affineIso_norm_sub]
  rw [four_sum_expand]
  refine Finset.sum_congr rfl fun j _ => Finset.sum_congr rfl fun l _ =>
    Finset.sum_congr rfl fun p _ => Finset.sum_congr rfl fun q _ => ?_
  ring

/-! ### The single-family forms (one family `φ`, `ψ`, one matrix `D`) -/

variable {ι : Type*} [Fintype ι]

theorem lift_overlap (g : E3 ≃ᵃⁱ[ℝ] E3) (φ ψ : ι → E3 → ℝ) (D : ι → ι → ℝ)
    (h : ∀ i r, ψ i (g r) = ∑ j, D i j * φ j r)
    (hint : ∀ j l, Integrable fun r => φ j r * φ l r) (i k : ι) :
    ∫ r, ψ i r * ψ k r = ∑ j, ∑ l, D i j * D k l * ∫ r, φ j r * φ l r :=
  lift_pair g univ univ _ (fun j l r => φ j r * φ l r) (fun j l => D i j * D k l)
    (fun r => by rw [h i, h k, sum_mul_sum_pair]) fun j _ l _ => hint j l

theorem lift_pointCharge (g : E3 ≃ᵃⁱ[ℝ] E3) (φ ψ : ι → E3 → ℝ) (D : ι → ι → ℝ) (Cc : E3)
    (h : ∀ i r, ψ i (g r) = ∑ j, D i j * φ j r)
    (hint : ∀ j l, Integrable fun r => φ j r * φ l r / ‖r - Cc‖) (i k : ι) :
    ∫ r, ψ i r * ψ k r / ‖r - g Cc‖ = ∑ j, ∑ l, D i j * D k l * ∫ r, φ j r * φ l r / ‖r - Cc‖ :=
  lift_pair g univ univ _ (fun j l r => φ j r * φ l r / ‖r - Cc‖) (fun j l => D i j * D k l)
    (fun r => by rw [h i, h k, affineIso_norm_sub, sum_mul_sum_pair_div]) fun j _ l _ => hint j l

theorem lift_coulomb (g : E3 ≃ᵃⁱ[ℝ] E3) (φ ψ : ι → E3 → ℝ) (D : ι → ι → ℝ)
    (h : ∀ i r, ψ i (g r) = ∑ j, D i j * φ j r)
    (hint : ∀ j l p q, Integrable fun z : E3 × E3 =>
      φ j z.1 * φ l z.1 * (φ p z.2 * φ q z.2) / ‖z.1 - z.2‖) (i k m n : ι) :
    ∫ z : E3 × E3, ψ i z.1 * ψ k z.1 * (ψ m z.2 * ψ n z.2) / ‖z.1 - z.2‖
      = ∑ j, ∑ l, ∑ p, ∑ q, D i j * D k l * D m p * D n q
          * ∫ z : E3 × E3, φ j z.1 * φ l z.1 * (φ p z.2 * φ q z.2) / ‖z.1 - z.2‖ :=
  lift_coulomb' g univ univ univ univ (ψ i) (ψ k) (ψ m) (ψ n) φ φ φ φ (D i) (D k) (D m) (D n)
    (h i) (h k) (h m) (h n) fun j _ l _ p _ q _ => hint j l p q

/-- The integrability hypotheses of `lift_overlap`, `lift_pointCharge`, `lift_coulomb` for continuous
Gaussian-bounded families. -/
theorem lift_hyps_of_gaussBdd {κ : Type*} (φ : κ → E3 → ℝ) (hc : ∀ j, Continuous (φ j))
    (hb : ∀ j, GaussBdd (φ j)) (Cc : E3) :
    (∀ j l, Integrable fun r => φ j r * φ l r)
    ∧ (∀ j l, Integrable fun r => φ j r * φ l r / ‖r - Cc‖)
    ∧ (∀ j l p q, Integrable fun z : E3 × E3 =>
        φ j z.1 * φ l z.1 * (φ p z.2 * φ q z.2) / ‖z.1 - z.2‖) := by
  refine ⟨fun j l => ?_, fun j l => ?_, fun j l p q => ?_⟩
  · exact ((hb j).mul (hb l)).integrable ((hc j).mul (hc l)).aestronglyMeasurable
  · obtain ⟨K, a, ha, hK⟩ := (hb j).mul (hb l)
    exact (GaussBdd.integrable_div_norm ((hc j).mul (hc l)).aestronglyMeasurable K a ha hK Cc).1
  · exact integrable_coulomb_pair (F := fun r => φ j r * φ l r) (G := fun r => φ p r * φ q r)
      ((hc j).mul (hc l)).aestronglyMeasurable ((hc p).mul (hc q)).aestronglyMeasurable
      ((hb j).mul (hb l)) ((hb p).mul (hb q))

end Lifting

/-! ## 2. Covariance of the Cartesian shell functions -/
section Covariance
open MvPolynomial

noncomputable def movedPt (g : E3 → E3) (v : ℕ → ℝ) : ℕ → ℝ :=
  fun i => if h : i < 3 then g (toE3 v) ⟨i, h⟩ else v i

@[simp] lemma toE3_movedPt (g : E3 → E3) (v : ℕ → ℝ) : toE3 (movedPt g v) = g (toE3 v) := by
  ext u
  have hu : (u : ℕ) < 3 := u.isLt
  simp only [toE3_apply, movedPt, hu, dif_pos, Fin.eta]

noncomputable def Shell.moved (s : Shell ℝ) (g : E3 → E3) : Shell ℝ :=
  { s with ctr := movedPt g s.ctr }

@[simp] lemma Shell.moved_l (s : Shell ℝ) (g : E3 → E3) : (s.moved g).l = s.l := rfl
@[simp] lemma Shell.moved_cart (s : Shell ℝ) (g : E3 → E3) : (s.moved g).cart = s.cart := rfl
@[simp] lemma Shell.moved_ncart (s : Shell ℝ) (g : E3 → E3) : (s.moved g).ncart = s.ncart := rfl
@[simp] lemma Shell.moved_nprim (s : Shell ℝ) (g : E3 → E3) : (s.moved g).nprim = s.nprim := rfl
@[simp] lemma Shell.moved_exp (s : Shell ℝ) (g : E3 → E3) (k : ℕ) :
    (s.moved g).exp! k = s.exp! k := rfl
@[simp] lemma Shell.moved_coef (s : Shell ℝ) (g : E3 → E3) (k m : ℕ) :
    (s.moved g).coef! k m = s.coef! k m := rfl
@[simp] lemma Shell.moved_comp (s : Shell ℝ) (g : E3 → E3) (c : ℕ) :
    (s.moved g).comp! c = s.comp! c := rfl
@[simp] lemma Shell.moved_ctr (s : Shell ℝ) (g : E3 → E3) :
    toE3 (s.moved g).ctr = g (toE3 s.ctr) := toE3_movedPt g s.ctr

def monoE (c : Comp) (u : Fin 3 → ℝ) : ℝ := u 0 ^ c.1 * u 1 ^ c.2.1 * u 2 ^ c.2.2

lemma primFnE_eq_mono (α : ℝ) (A : E3) (c : Comp) (r : E3) :
    primFnE α A c r = monoE c (fun i => (r - A) i) * exp (-α * ‖r - A‖ ^ 2) := by
  unfold primFnE monoE
  simp only [PiLp.sub_apply]

lemma primFnE_moved (g : E3 ≃ᵃⁱ[ℝ] E3) (α : ℝ) (A : E3) (c : Comp) (r : E3) :
    primFnE α (g A) c (g r)
      = monoE c (fun i => g.linearIsometryEquiv (r - A) i) * exp (-α * ‖r - A‖ ^ 2) := by
  rw [primFnE_eq_mono, affineIso_norm_sub, affineIso_sub]

/-! ### (a) translations -/

noncomputable def translation (t : E3) : E3 ≃ᵃⁱ[ℝ] E3 := AffineIsometryEquiv.constVAdd ℝ E3 t

@[simp] lemma translation_apply (t r : E3) : translation t r = t + r := rfl

lemma translation_linear (t : E3) (u : E3) : (translation t).linearIsometryEquiv u = u := by
  have h := affineIso_sub (translation t) u 0
  simp only [translation_apply, sub_zero, add_zero] at h
  rw [← h]; abel

noncomputable def vecOf (v : E3) : ℕ → ℝ := fun i => if h : i < 3 then v ⟨i, h⟩ else 0

lemma movedPt_translation_eq (v : E3) (w : ℕ → ℝ) :
    movedPt (translation v) w = fun i => w i + vecOf v i := by
  funext i
  unfold movedPt vecOf
  by_cases h : i < 3
  · simp only [h, dif_pos, translation_apply, PiLp.add_apply, toE3_apply, add_comm]
  · simp only [h, dif_neg, not_false_eq_true, add_zero]

lemma moved_translation_eq_translate (s : Shell ℝ) (v : E3) :
    s.moved (translation v) = s.translate (vecOf v) := by
  unfold Shell.moved Shell.translate
  rw [movedPt_translation_eq]

/-- No hypothesis on the component list, unlike `shellFnE_moved`. -/
theorem shellFnE_translate (s : Shell ℝ) (t : E3) (m c : ℕ) (r : E3) :
    shellFnE (s.moved (translation t)) m c (translation t r) = shellFnE s m c r := by
  unfold shellFnE
  refine Finset.sum_congr rfl fun k _ => ?_
  simp only [Shell.moved_coef, Shell.moved_exp, Shell.moved_l, Shell.moved_comp, Shell.moved_ctr]
  rw [primFnE_moved, primFnE_eq_mono]
  simp only [translation_linear]

/-! ### (b) linear isometries: the representation matrix -/

noncomputable def matOf (R : E3 →ₗ[ℝ] E3) (i j : Fin 3) : ℝ := R (EuclideanSpace.single j 1) i

lemma e3_eq_sum_single (u : E3) : u = ∑ j, u j • EuclideanSpace.single j (1:ℝ) := by
  have h := (EuclideanSpace.basisFun (Fin 3) ℝ).sum_repr u
  simp only [EuclideanSpace.basisFun_repr, EuclideanSpace.basisFun_apply] at h
  exact h.symm

lemma matOf_apply (R : E3 →ₗ[ℝ] E3) (u : E3) (i : Fin 3) :
    R u i = ∑ j, matOf R i j * u j := by
  conv_lhs => rw [e3_eq_sum_single u]
  simp only [map_sum, map_smul, WithLp.ofLp_sum, WithLp.ofLp_smul, Finset.sum_apply, Pi.smul_apply,
    smul_eq_mul, matOf, mul_comm]

/-- `(R⁻¹ e_k)_j = ⟪e_j, R⁻¹ e_k⟫ = ⟪R e_j, e_k⟫ = (R e_j)_k` -/
lemma matOf_symm (R : E3 ≃ₗᵢ[ℝ] E3) (k j : Fin 3) :
    matOf R.symm.toLinearEquiv.toLinearMap j k = matOf R.toLinearEquiv.toLinearMap k j := by
  have h := R.inner_map_eq_flip (EuclideanSpace.single j (1:ℝ)) (EuclideanSpace.single k (1:ℝ))
  rw [EuclideanSpace.inner_single_left, EuclideanSpace.inner_single_right, map_one, one_mul,
    one_mul] at h
  exact h.symm

/-- the columns `R e_k` are orthonormal, since `R` preserves `⟪e_k, e_l⟫` -/
theorem matOf_orthogonal_col (R : E3 ≃ₗᵢ[ℝ] E3) (k l : Fin 3) :
    ∑ i, matOf R.toLinearEquiv.toLinearMap i k * matOf R.toLinearEquiv.toLinearMap i l
      = if k = l then 1 else 0 := by
  have h := R.inner_map_map (EuclideanSpace.single k (1:ℝ)) (EuclideanSpace.single l (1:ℝ))
  rw [EuclideanSpace.inner_single_left, PiLp.single_apply, map_one, one_mul, PiLp.inner_apply] at h
  simp only [RCLike.inner_apply, conj_trivial] at h
  rw [← h]
  exact Finset.sum_congr rfl fun i _ => mul_comm _ _

/-- the rows are the columns of the matrix of `R⁻¹` -/
theorem matOf_orthogonal (R : E3 ≃ₗᵢ[ℝ] E3) (i k : Fin 3) :
    ∑ j, matOf R.toLinearEquiv.toLinearMap i j * matOf R.toLinearEquiv.toLinearMap k j
      = if i = k then 1 else 0 := by
  simp only [← matOf_symm R]
  exact matOf_orthogonal_col R.symm i k

noncomputable def rotLin (M : Fin 3 → Fin 3 → ℝ) (i : Fin 3) : MvPolynomial (Fin 3) ℝ :=
  ∑ j, C (M i j) * X j

noncomputable def rotPoly (M : Fin 3 → Fin 3 → ℝ) (c : Comp) : MvPolynomial (Fin 3) ℝ :=
  rotLin M 0 ^ c.1 * rotLin M 1 ^ c.2.1 * rotLin M 2 ^ c.2.2

lemma eval_rotLin (M : Fin 3 → Fin 3 → ℝ) (i : Fin 3) (u : Fin 3 → ℝ) :
    eval u (rotLin M i) = ∑ j, M i j * u j := by
  simp only [rotLin, map_sum, map_mul, eval_C, eval_X]

lemma eval_rotPoly (M : Fin 3 → Fin 3 → ℝ) (c : Comp) (u : Fin 3 → ℝ) :
    eval u (rotPoly M c) = monoE c (fun i => ∑ j, M i j * u j) := by
  simp only [rotPoly, map_mul, map_pow, eval_rotLin, monoE]

lemma rotLin_homog (M : Fin 3 → Fin 3 → ℝ) (i : Fin 3) : (rotLin M i).IsHomogeneous 1 :=
  IsHomogeneous.sum _ _ _ fun _ _ => isHomogeneous_C_mul_X _ _

lemma rotPoly_homog (M : Fin 3 → Fin 3 → ℝ) (c : Comp) :
    (rotPoly M c).IsHomogeneous (c.1 + c.2.1 + c.2.2) := by
  have h := (((rotLin_homog M 0).pow c.1).mul ((rotLin_homog M 1).pow c.2.1)).mul
    ((rotLin_homog M 2).pow c.2.2)
  simp only [one_mul] at h
  exact h

noncomputable def compFs (c : Comp) : Fin 3 →₀ ℕ := Finsupp.equivFunOnFinite.symm ![c.1, c.2.1, c.2.2]

@[simp] lemma compFs_zero (c : Comp) : compFs c 0 = c.1 := rfl
@[simp] lemma compFs_one (c : Comp) : compFs c 1 = c.2.1 := rfl
@[simp] lemma compFs_two (c : Comp) : compFs c 2 = c.2.2 := rfl

lemma compFs_injective : Function.Injective compFs := by
  intro c c' h
  have h0 := DFunLike.congr_fun h 0
  have h1 := DFunLike.congr_fun h 1
  have h2 := DFunLike.congr_fun h 2
  simp only [compFs_zero, compFs_one, compFs_two] at h0 h1 h2
  exact Prod.ext h0 (Prod.ext h1 h2)

lemma compFs_of (d : Fin 3 →₀ ℕ) : compFs (d 0, d 1, d 2) = d := by
  ext k
  fin_cases k <;> rfl

noncomputable def monoP (c : Comp) : MvPolynomial (Fin 3) ℝ := monomial (compFs c) 1

lemma monoP_eq (c : Comp) : monoP c = X 0 ^ c.1 * X 1 ^ c.2.1 * X 2 ^ c.2.2 := by
  rw [monoP, monomial_eq]
  simp [Finsupp.prod_fintype, Fin.prod_univ_three]

lemma eval_monoP (c : Comp) (u : Fin 3 → ℝ) : eval u (monoP c) = monoE c u := by
  rw [monoP_eq, map_mul, map_mul, map_pow, map_pow, map_pow, eval_X, eval_X, eval_X, monoE]

def FullCart (l : ℕ) (cart : List Comp) : Prop :=
  cart.Nodup ∧ ∀ c : Comp, c ∈ cart ↔ c.1 + c.2.1 + c.2.2 = l

lemma FullCart.degree {l : ℕ} {cart : List Comp} (hf : FullCart l cart) {c : ℕ}
    (hc : c < cart.length) :
    (cart.getD c (0,0,0)).1 + (cart.getD c (0,0,0)).2.1 + (cart.getD c (0,0,0)).2.2 = l := by
  rw [← List.getElem_eq_getD (h := hc) (0,0,0)]
  exact (hf.2 _).mp (List.getElem_mem hc)

/-- a homogeneous polynomial of degree `l` is the combination of the monomials of a full component list -/
theorem homog_expand (P : MvPolynomial (Fin 3) ℝ) {l : ℕ} (hP : P.IsHomogeneous l)
    {cart : List Comp} (hf : FullCart l cart) :
    P = ∑ a ∈ range cart.length,
      C (coeff (compFs (cart.getD a (0,0,0))) P) * monoP (cart.getD a (0,0,0)) := by
  classical
  conv_lhs => rw [P.as_sum]
  have hsub : P.support ⊆ cart.toFinset.image compFs := by
    intro d hd
    have hdeg : Finsupp.degree d = l := by
      by_contra hne
      exact (mem_support_iff.mp hd) (hP.coeff_eq_zero hne)
    rw [Finsupp.degree_eq_sum, Fin.sum_univ_three] at hdeg
    refine Finset.mem_image.mpr ⟨(d 0, d 1, d 2), ?_, compFs_of d⟩
    exact List.mem_toFinset.mpr ((hf.2 _).mpr hdeg)
  rw [Finset.sum_subset hsub (fun d _ hd => by
      rw [notMem_support_iff.mp hd, monomial_zero]),
    Finset.sum_image (fun a _ b _ h => compFs_injective h),
    List.sum_toFinset _ hf.1, sum_map_eq_sum_range _ (0,0,0)]
  refine Finset.sum_congr rfl fun a _ => ?_
  rw [monoP, C_mul_monomial, mul_one]

/-- Coefficient of the monomial `u^{c'}` in `(R u)^c`. -/
noncomputable def rotCoef (R : E3 →ₗ[ℝ] E3) (c c' : Comp) : ℝ :=
  coeff (compFs c') (rotPoly (matOf R) c)

theorem monoE_rot_expand (R : E3 →ₗ[ℝ] E3) {l : ℕ} {cart : List Comp} (hf : FullCart l cart)
    (c : Comp) (hc : c.1 + c.2.1 + c.2.2 = l) (u : E3) :
    monoE c (fun i => R u i)
      = ∑ i ∈ range cart.length,
          rotCoef R c (cart.getD i (0,0,0)) * monoE (cart.getD i (0,0,0)) (fun i => u i) := by
  have h := congrArg (eval fun i => u i)
    (homog_expand (rotPoly (matOf R) c) (hc ▸ rotPoly_homog (matOf R) c) hf)
  simp only [eval_rotPoly, ← matOf_apply, map_sum, map_mul, eval_C, eval_monoP] at h
  exact h

theorem primFnE_moved_expand (g : E3 ≃ᵃⁱ[ℝ] E3) {l : ℕ} {cart : List Comp} (hf : FullCart l cart)
    (α : ℝ) (A : E3) (c : Comp) (hc : c.1 + c.2.1 + c.2.2 = l) (r : E3) :
    primFnE α (g A) c (g r)
      = ∑ i ∈ range cart.length,
          rotCoef g.linearIsometryEquiv.toLinearEquiv.toLinearMap c (cart.getD i (0,0,0))
            * primFnE α A (cart.getD i (0,0,0)) r := by
  rw [primFnE_moved]
  have h := monoE_rot_expand g.linearIsometryEquiv.toLinearEquiv.toLinearMap hf c hc (r - A)
  simp only [LinearEquiv.coe_coe, LinearIsometryEquiv.coe_toLinearEquiv] at h
  rw [h, Finset.sum_mul]
  refine Finset.sum_congr rfl fun i _ => ?_
  rw [primFnE_eq_mono]
  ring

lemma normAng_pos (c : Comp) : 0 < (normAng c : ℝ) := by
  unfold normAng
  have h : (0:ℝ) < ((dfactOdd c.1 * dfactOdd c.2.1 * dfactOdd c.2.2 : ℕ) : ℝ) := by
    have := Nat.mul_pos (Nat.mul_pos (dfactOdd_pos c.1) (dfactOdd_pos c.2.1)) (dfactOdd_pos c.2.2)
    exact_mod_cast this
  exact div_pos (by simp) (Real.sqrt_pos.mpr h)

/-- The representation matrix of a shell with component list `cart` under the linear map `R`:
`D_{cc'} = [u^{c'}] (R u)^c · N^ang(c) / N^ang(c')`.  It depends on `R` and the component list
only, not on exponents, coefficients, centre or contraction. -/
noncomputable def repMat (R : E3 →ₗ[ℝ] E3) (cart : List Comp) (c c' : ℕ) : ℝ :=
  rotCoef R (cart.getD c (0,0,0)) (cart.getD c' (0,0,0)) * normAng (cart.getD c (0,0,0))
    / normAng (cart.getD c' (0,0,0))

lemma rotCoef_mul_normPrim (R : E3 →ₗ[ℝ] E3) (s : Shell ℝ) (α : ℝ) (c c' : ℕ) :
    rotCoef R (s.comp! c) (s.comp! c') * normPrim α s.l (s.comp! c)
      = repMat R s.cart c c' * normPrim α s.l (s.comp! c') := by
  unfold repMat normPrim Shell.comp!
  rw [div_mul_eq_mul_div, eq_div_iff (normAng_pos _).ne']
  ring

noncomputable def linPart (g : E3 ≃ᵃⁱ[ℝ] E3) : E3 →ₗ[ℝ] E3 :=
  g.linearIsometryEquiv.toLinearEquiv.toLinearMap

theorem shellFnE_moved (g : E3 ≃ᵃⁱ[ℝ] E3) (s : Shell ℝ) (hf : FullCart s.l s.cart) (m c : ℕ)
    (hc : c < s.ncart) (r : E3) :
    shellFnE (s.moved g) m c (g r)
      = ∑ c' ∈ range s.ncart, repMat (linPart g) s.cart c c' * shellFnE s m c' r := by
  unfold shellFnE
  simp only [Shell.moved_coef, Shell.moved_exp, Shell.moved_l, Shell.moved_comp, Shell.moved_ctr,
    Shell.moved_nprim]
  simp_rw [primFnE_moved_expand g hf _ _ (s.comp! c) (hf.degree hc), Finset.mul_sum]
  rw [Finset.sum_comm]
  refine Finset.sum_congr rfl fun i _ => Finset.sum_congr rfl fun k _ => ?_
  have h := rotCoef_mul_normPrim (linPart g) s (s.exp! k) c i
  unfold linPart Shell.comp! at h ⊢
  linear_combination (s.coef! k m * primFnE (s.exp! k) (toE3 s.ctr) (s.cart.getD i (0,0,0)) r) * h

/-- Existence form: the quantifier order says that one matrix serves every shell with that `l` and that
list, whatever its exponents, contraction coefficients and centre, and every rigid motion with linear
part `R`. -/
theorem exists_repMat (R : E3 ≃ₗᵢ[ℝ] E3) (l : ℕ) (cart : List Comp) :
    ∃ D : ℕ → ℕ → ℝ, ∀ (g : E3 ≃ᵃⁱ[ℝ] E3), g.linearIsometryEquiv = R →
      ∀ s : Shell ℝ, s.l = l → s.cart = cart → FullCart s.l s.cart →
        ∀ m c, c < s.ncart → ∀ r,
          shellFnE (s.moved g) m c (g r) = ∑ c' ∈ range s.ncart, D c c' * shellFnE s m c' r := by
  refine ⟨repMat R.toLinearEquiv.toLinearMap cart, ?_⟩
  intro g hg s _ hcart hf m c hc r
  rw [shellFnE_moved g s hf m c hc r]
  unfold linPart
  rw [hg, hcart]

theorem fullCart_defaultCart (l : ℕ) : FullCart l (defaultCart l) :=
  ⟨defaultCart_nodup l, mem_defaultCart l⟩

/-! ### The representation matrices of `s` and `p` shells -/

lemma compFs_000 : compFs (0,0,0) = 0 := by
  ext k; fin_cases k <;> rfl

lemma compFs_unit (j : Fin 3) :
    compFs ([(1,0,0), (0,1,0), (0,0,1)].getD j (0,0,0)) = Finsupp.single j 1 := by
  ext k
  rw [Finsupp.single_apply]
  fin_cases j <;> fin_cases k <;> rfl

lemma rotPoly_unit (M : Fin 3 → Fin 3 → ℝ) (i : Fin 3) :
    rotPoly M ([(1,0,0), (0,1,0), (0,0,1)].getD i (0,0,0)) = rotLin M i := by
  fin_cases i <;> simp [rotPoly]

lemma coeff_single_rotLin (M : Fin 3 → Fin 3 → ℝ) (i j : Fin 3) :
    coeff (Finsupp.single j 1) (rotLin M i) = M i j := by
  unfold rotLin
  rw [coeff_sum]
  simp only [coeff_C_mul, coeff_X, Finsupp.single_left_inj (one_ne_zero), mul_ite, mul_one,
    mul_zero, Finset.sum_ite_eq', Finset.mem_univ, if_true]

lemma defaultCart_s : defaultCart 0 = [(0,0,0)] := by decide

lemma defaultCart_p : defaultCart 1 = [(1,0,0), (0,1,0), (0,0,1)] := by decide

lemma rotCoef_order0 (R : E3 →ₗ[ℝ] E3) : rotCoef R (0,0,0) (0,0,0) = 1 := by
  simp [rotCoef, rotPoly, compFs_000]

lemma rotCoef_order1 (R : E3 →ₗ[ℝ] E3) (i j : Fin 3) :
    rotCoef R ([(1,0,0), (0,1,0), (0,0,1)].getD i (0,0,0))
      ([(1,0,0), (0,1,0), (0,0,1)].getD j (0,0,0)) = matOf R i j := by
  unfold rotCoef
  rw [rotPoly_unit, compFs_unit, coeff_single_rotLin]

lemma normAng_eq_one (c : Comp) (hc : dfactOdd c.1 * dfactOdd c.2.1 * dfactOdd c.2.2 = 1) :
    (normAng c : ℝ) = 1 := by
  unfold normAng
  rw [hc]
  show ((1:ℕ):ℝ) / Real.sqrt ((1:ℕ):ℝ) = 1
  rw [Nat.cast_one, Real.sqrt_one, div_one]

lemma normAng_order1 (i : Fin 3) :
    (normAng ([(1,0,0), (0,1,0), (0,0,1)].getD i (0,0,0)) : ℝ) = 1 := by
  fin_cases i <;> exact normAng_eq_one _ rfl

theorem repMat_s (R : E3 →ₗ[ℝ] E3) : repMat R (defaultCart 0) 0 0 = 1 := by
  rw [defaultCart_s]
  show rotCoef R (0,0,0) (0,0,0) * normAng (0,0,0) / normAng (0,0,0) = 1
  rw [rotCoef_order0, one_mul, div_self (normAng_pos _).ne']

theorem repMat_p (R : E3 →ₗ[ℝ] E3) (i j : Fin 3) :
    repMat R (defaultCart 1) i j = matOf R i j := by
  rw [defaultCart_p]
  unfold repMat
  rw [rotCoef_order1, normAng_order1, normAng_order1, mul_one, div_one]

/-! ### Rigid motions from a linear isometry and a translation vector -/

noncomputable def rigid (R : E3 ≃ₗᵢ[ℝ] E3) (t : E3) : E3 ≃ᵃⁱ[ℝ] E3 :=
  R.toAffineIsometryEquiv.trans (translation t)

@[simp] lemma rigid_apply (R : E3 ≃ₗᵢ[ℝ] E3) (t r : E3) : rigid R t r = t + R r := rfl

lemma rigid_linear (R : E3 ≃ₗᵢ[ℝ] E3) (t : E3) : (rigid R t).linearIsometryEquiv = R := by
  ext1 u
  have h := affineIso_sub (rigid R t) u 0
  rw [sub_zero, rigid_apply, rigid_apply, map_zero, add_zero, add_sub_cancel_left] at h
  exact h.symm

lemma affineIso_eq_rigid (g : E3 ≃ᵃⁱ[ℝ] E3) : g = rigid g.linearIsometryEquiv (g 0) := by
  ext1 r
  rw [rigid_apply, affineIso_apply g r, add_comm]

theorem shellFnE_rigid (R : E3 ≃ₗᵢ[ℝ] E3) (t : E3) (s : Shell ℝ) (hf : FullCart s.l s.cart)
    (m c : ℕ) (hc : c < s.ncart) (r : E3) :
    shellFnE (s.moved (rigid R t)) m c (t + R r)
      = ∑ c' ∈ range s.ncart,
          repMat R.toLinearEquiv.toLinearMap s.cart c c' * shellFnE s m c' r := by
  have h := shellFnE_moved (rigid R t) s hf m c hc r
  unfold linPart at h
  rw [rigid_linear] at h
  exact h

end Covariance

/-! ## 3. The blocks of the model under rigid motions -/
section Blocks

lemma FullCart.degree_le {s : Shell ℝ} (hf : FullCart s.l s.cart) {c : ℕ} (hc : c < s.ncart) :
    (s.comp! c).1 + (s.comp! c).2.1 + (s.comp! c).2.2 ≤ s.l :=
  (hf.degree hc).le

lemma FullCart.each_le {s : Shell ℝ} (hf : FullCart s.l s.cart) {c : ℕ} (hc : c < s.ncart) :
    (s.comp! c).1 ≤ s.l ∧ (s.comp! c).2.1 ≤ s.l ∧ (s.comp! c).2.2 ≤ s.l := by
  have h := hf.degree_le hc
  omega

/-- C12 for the point-charge block: the shells and the charge are moved by the same `g`. -/
theorem pointChargeBlock_moved (boysT : ℝ → ℕ → Tab ℝ)
    (hboys : ∀ T n m, m < n → (boysT T n).get m = boys T m) (g : E3 ≃ᵃⁱ[ℝ] E3)
    (s t : Shell ℝ) (Cpt : ℕ → ℝ) (q : ℝ) (ma ca mb cb : ℕ)
    (hs : ∀ k, k < s.nprim → 0 < s.exp! k) (ht : ∀ k, k < t.nprim → 0 < t.exp! k)
    (hfs : FullCart s.l s.cart) (hft : FullCart t.l t.cart)
    (hca : ca < s.ncart) (hcb : cb < t.ncart) :
    (pointChargeBlock boysT (s.moved g) (t.moved g) (movedPt g Cpt) q).get4 ma ca mb cb
      = ∑ ca' ∈ range s.ncart, ∑ cb' ∈ range t.ncart,
          repMat (linPart g) s.cart ca ca' * repMat (linPart g) t.cart cb cb'
            * (pointChargeBlock boysT s t Cpt q).get4 ma ca' mb cb' := by
  rw [pointChargeBlock_eq_integral boysT hboys (s.moved g) (t.moved g) (movedPt g Cpt) q ma ca mb cb
    hs ht (hfs.degree_le hca) (hft.degree_le hcb), toE3_movedPt,
    lift_pair g (range s.ncart) (range t.ncart) _
      (fun a b r => shellFnE s ma a r * shellFnE t mb b r / ‖r - toE3 Cpt‖)
      (fun a b => repMat (linPart g) s.cart ca a * repMat (linPart g) t.cart cb b)
      (fun r => by
        rw [shellFnE_moved g s hfs ma ca hca, shellFnE_moved g t hft mb cb hcb, affineIso_norm_sub,
          sum_mul_sum_pair_div])
      (fun a _ b _ => integrable_shellFnE_mul_div s t ma a mb b (toE3 Cpt) hs ht),
    mul_sum_sum]
  refine Finset.sum_congr rfl fun a ha => Finset.sum_congr rfl fun b hb => ?_
  rw [pointChargeBlock_eq_integral boysT hboys s t Cpt q ma a mb b hs ht
    (hfs.degree_le (Finset.mem_range.mp ha)) (hft.degree_le (Finset.mem_range.mp hb))]

/-- For translations the component lists need not be full (`FullCart`); total degree `≤ l` is
enough. -/
theorem pointChargeBlock_translate (boysT : ℝ → ℕ → Tab ℝ)
    (hboys : ∀ T n m, m < n → (boysT T n).get m = boys T m) (v : E3)
    (s t : Shell ℝ) (Cpt : ℕ → ℝ) (q : ℝ) (ma ca mb cb : ℕ)
    (hs : ∀ k, k < s.nprim → 0 < s.exp! k) (ht : ∀ k, k < t.nprim → 0 < t.exp! k)
    (ha : (s.comp! ca).1 + (s.comp! ca).2.1 + (s.comp! ca).2.2 ≤ s.l)
    (hb : (t.comp! cb).1 + (t.comp! cb).2.1 + (t.comp! cb).2.2 ≤ t.l) :
    (pointChargeBlock boysT (s.moved (translation v)) (t.moved (translation v))
        (movedPt (translation v) Cpt) q).get4 ma ca mb cb
      = (pointChargeBlock boysT s t Cpt q).get4 ma ca mb cb := by
  rw [pointChargeBlock_eq_integral boysT hboys (s.moved (translation v)) (t.moved (translation v))
      (movedPt (translation v) Cpt) q ma ca mb cb hs ht ha hb, toE3_movedPt,
    pointChargeBlock_eq_integral boysT hboys s t Cpt q ma ca mb cb hs ht ha hb,
    ← integral_comp_affineIso (translation v)]
  simp only [shellFnE_translate, affineIso_norm_sub]

lemma movedPt_translation (v : E3) (w : ℕ → ℝ) (i : ℕ) (hi : i < 3) :
    movedPt (translation v) w i = v ⟨i, hi⟩ + w i := by
  simp only [movedPt, hi, dif_pos, translation_apply, PiLp.add_apply, toE3_apply]

lemma eriExact_def' (sa sb sc sd : Shell ℝ) (ma ca mb cb mc cc md cd : ℕ) :
    eriExact sa sb sc sd ma ca mb cb mc cc md cd
      = ∫ z : E3 × E3, shellFnE sa ma ca z.1 * shellFnE sb mb cb z.1
          * (shellFnE sc mc cc z.2 * shellFnE sd md cd z.2) / ‖z.1 - z.2‖ := rfl

theorem eriExact_moved (g : E3 ≃ᵃⁱ[ℝ] E3) (sa sb sc sd : Shell ℝ) (ma ca mb cb mc cc md cd : ℕ)
    (hsa : ∀ k, k < sa.nprim → 0 < sa.exp! k) (hsb : ∀ k, k < sb.nprim → 0 < sb.exp! k)
    (hsc : ∀ k, k < sc.nprim → 0 < sc.exp! k) (hsd : ∀ k, k < sd.nprim → 0 < sd.exp! k)
    (hfa : FullCart sa.l sa.cart) (hfb : FullCart sb.l sb.cart)
    (hfc : FullCart sc.l sc.cart) (hfd : FullCart sd.l sd.cart)
    (hca : ca < sa.ncart) (hcb : cb < sb.ncart) (hcc : cc < sc.ncart) (hcd : cd < sd.ncart) :
    eriExact (sa.moved g) (sb.moved g) (sc.moved g) (sd.moved g) ma ca mb cb mc cc md cd
      = ∑ ca' ∈ range sa.ncart, ∑ cb' ∈ range sb.ncart, ∑ cc' ∈ range sc.ncart,
          ∑ cd' ∈ range sd.ncart,
            repMat (linPart g) sa.cart ca ca' * repMat (linPart g) sb.cart cb cb'
              * repMat (linPart g) sc.cart cc cc' * repMat (linPart g) sd.cart cd cd'
              * eriExact sa sb sc sd ma ca' mb cb' mc cc' md cd' := by
  simp only [eriExact_def']
  exact lift_coulomb' g (range sa.ncart) (range sb.ncart) (range sc.ncart) (range sd.ncart)
    (shellFnE (sa.moved g) ma ca) (shellFnE (sb.moved g) mb cb) (shellFnE (sc.moved g) mc cc)
    (shellFnE (sd.moved g) md cd) (fun j => shellFnE sa ma j) (fun j => shellFnE sb mb j)
    (fun j => shellFnE sc mc j) (fun j => shellFnE sd md j)
    (repMat (linPart g) sa.cart ca) (repMat (linPart g) sb.cart cb)
    (repMat (linPart g) sc.cart cc) (repMat (linPart g) sd.cart cd)
    (shellFnE_moved g sa hfa ma ca hca) (shellFnE_moved g sb hfb mb cb hcb)
    (shellFnE_moved g sc hfc mc cc hcc) (shellFnE_moved g sd hfd md cd hcd)
    (fun j _ l _ p _ q _ => integrable_coulomb_pair
      (F := pairDensity sa sb ma j mb l) (G := pairDensity sc sd mc p md q)
      (continuous_pairDensity sa sb ma j mb l).aestronglyMeasurable
      (continuous_pairDensity sc sd mc p md q).aestronglyMeasurable
      (gaussBdd_pairDensity sa sb ma j mb l hsa hsb) (gaussBdd_pairDensity sc sd mc p md q hsc hsd))

/-- C12 for the electron-repulsion block. -/
theorem eriBlock_moved (boysT : ℝ → ℕ → Tab ℝ)
    (hboys : ∀ T n m, m < n → (boysT T n).get m = boys T m) (g : E3 ≃ᵃⁱ[ℝ] E3)
    (sa sb sc sd : Shell ℝ) (ma ca mb cb mc cc md cd : ℕ)
    (hsa : ∀ k, k < sa.nprim → 0 < sa.exp! k) (hsb : ∀ k, k < sb.nprim → 0 < sb.exp! k)
    (hsc : ∀ k, k < sc.nprim → 0 < sc.exp! k) (hsd : ∀ k, k < sd.nprim → 0 < sd.exp! k)
    (hfa : FullCart sa.l sa.cart) (hfb : FullCart sb.l sb.cart)
    (hfc : FullCart sc.l sc.cart) (hfd : FullCart sd.l sd.cart)
    (hca : ca < sa.ncart) (hcb : cb < sb.ncart) (hcc : cc < sc.ncart) (hcd : cd < sd.ncart) :
    (eriBlock boysT (sa.moved g) (sb.moved g) (sc.moved g) (sd.moved g)).get8
        ma ca mb cb mc cc md cd
      = ∑ ca' ∈ range sa.ncart, ∑ cb' ∈ range sb.ncart, ∑ cc' ∈ range sc.ncart,
          ∑ cd' ∈ range sd.ncart,
            repMat (linPart g) sa.cart ca ca' * repMat (linPart g) sb.cart cb cb'
              * repMat (linPart g) sc.cart cc cc' * repMat (linPart g) sd.cart cd cd'
              * (eriBlock boysT sa sb sc sd).get8 ma ca' mb cb' mc cc' md cd' := by
  rw [eriBlock_eq_integral boysT hboys (sa.moved g) (sb.moved g) (sc.moved g) (sd.moved g)
    ma ca mb cb mc cc md cd hsa hsb hsc hsd (hfa.degree_le hca) (hfb.degree_le hcb)
    (hfc.degree_le hcc) (hfd.degree_le hcd),
    eriExact_moved g sa sb sc sd ma ca mb cb mc cc md cd hsa hsb hsc hsd hfa hfb hfc hfd
      hca hcb hcc hcd]
  refine Finset.sum_congr rfl fun j hj => Finset.sum_congr rfl fun l hl =>
    Finset.sum_congr rfl fun p hp => Finset.sum_congr rfl fun q hq => ?_
  rw [eriBlock_eq_integral boysT hboys sa sb sc sd ma j mb l mc p md q hsa hsb hsc hsd
    (hfa.degree_le (Finset.mem_range.mp hj)) (hfb.degree_le (Finset.mem_range.mp hl))
    (hfc.degree_le (Finset.mem_range.mp hp)) (hfd.degree_le (Finset.mem_range.mp hq))]

/-- As for `pointChargeBlock_translate`, total degree `≤ l` replaces `FullCart`. -/
theorem eriBlock_translate (boysT : ℝ → ℕ → Tab ℝ)
    (hboys : ∀ T n m, m < n → (boysT T n).get m = boys T m) (v : E3)
    (sa sb sc sd : Shell ℝ) (ma ca mb cb mc cc md cd : ℕ)
    (hsa : ∀ k, k < sa.nprim → 0 < sa.exp! k) (hsb : ∀ k, k < sb.nprim → 0 < sb.exp! k)
    (hsc : ∀ k, k < sc.nprim → 0 < sc.exp! k) (hsd : ∀ k, k < sd.nprim → 0 < sd.exp! k)
    (ha : (sa.comp! ca).1 + (sa.comp! ca).2.1 + (sa.comp! ca).2.2 ≤ sa.l)
    (hb : (sb.comp! cb).1 + (sb.comp! cb).2.1 + (sb.comp! cb).2.2 ≤ sb.l)
    (hc : (sc.comp! cc).1 + (sc.comp! cc).2.1 + (sc.comp! cc).2.2 ≤ sc.l)
    (hd : (sd.comp! cd).1 + (sd.comp! cd).2.1 + (sd.comp! cd).2.2 ≤ sd.l) :
    (eriBlock boysT (sa.moved (translation v)) (sb.moved (translation v))
        (sc.moved (translation v)) (sd.moved (translation v))).get8 ma ca mb cb mc cc md cd
      = (eriBlock boysT sa sb sc sd).get8 ma ca mb cb mc cc md cd := by
  rw [eriBlock_eq_integral boysT hboys (sa.moved (translation v)) (sb.moved (translation v))
      (sc.moved (translation v)) (sd.moved (translation v)) ma ca mb cb mc cc md cd
      hsa hsb hsc hsd ha hb hc hd,
    eriBlock_eq_integral boysT hboys sa sb sc sd ma ca mb cb mc cc md cd hsa hsb hsc hsd ha hb hc hd,
    eriExact_def', eriExact_def', ← integral_comp_affineIso_prod (translation v)]
  simp only [shellFnE_translate, affineIso_norm_sub]

/-! ### The overlap block: bridge `ℝ × ℝ × ℝ` ↔ `E3` -/

noncomputable def e3Equiv : E3 ≃ᵐ ℝ × ℝ × ℝ :=
  (MeasurableEquiv.toLp 2 (Fin 3 → ℝ)).symm.trans
    ((MeasurableEquiv.piFinSuccAbove (fun _ => ℝ) 0).trans
      (MeasurableEquiv.prodCongr (MeasurableEquiv.refl ℝ) (MeasurableEquiv.piFinTwo (fun _ => ℝ))))

lemma e3Equiv_apply (r : E3) : e3Equiv r = (r 0, r 1, r 2) := rfl

lemma e3Equiv_measurePreserving : MeasurePreserving e3Equiv volume volume :=
  (PiLp.volume_preserving_ofLp (Fin 3)).trans
    ((volume_preserving_piFinSuccAbove (fun _ : Fin 3 => ℝ) 0).trans
      ((MeasurePreserving.id volume).prod (volume_preserving_piFinTwo fun _ => ℝ)))

lemma shellFn_e3Equiv (s : Shell ℝ) (m c : ℕ) (r : E3) :
    shellFn s m c (e3Equiv r) = shellFnE s m c r := by
  unfold shellFn shellFnE
  refine Finset.sum_congr rfl fun k _ => ?_
  congr 1
  unfold primFn primFnE
  rw [e3Equiv_apply, EuclideanSpace.real_norm_sq_eq]
  simp only [Fin.sum_univ_three, PiLp.sub_apply, toE3_apply]
  rfl

lemma integral_e3 {F : ℝ × ℝ × ℝ → ℝ} {G : E3 → ℝ} (h : ∀ r, F (e3Equiv r) = G r) :
    ∫ p, F p = ∫ r, G r := by
  rw [← e3Equiv_measurePreserving.integral_comp' F]
  exact congrArg _ (funext h)

lemma integrable_e3 {F : ℝ × ℝ × ℝ → ℝ} {G : E3 → ℝ} (h : ∀ r, F (e3Equiv r) = G r)
    (hF : Integrable F) : Integrable G :=
  (funext h : F ∘ e3Equiv = G) ▸
    (e3Equiv_measurePreserving.integrable_comp_emb e3Equiv.measurableEmbedding).mpr hF

theorem overlapBlock_eq_integral_E3 (s t : Shell ℝ) (ma ca mb cb : ℕ)
    (hs : ∀ k < s.nprim, 0 < s.exp! k) (ht : ∀ k < t.nprim, 0 < t.exp! k) :
    (overlapBlock s t).get4 ma ca mb cb = ∫ r : E3, shellFnE s ma ca r * shellFnE t mb cb r := by
  rw [overlapBlock_eq_integral s t ma ca mb cb hs ht]
  exact integral_e3 fun r => by rw [shellFn_e3Equiv, shellFn_e3Equiv]

lemma integrable_shellFnE_mul (s t : Shell ℝ) (ma ca mb cb : ℕ)
    (hs : ∀ k, k < s.nprim → 0 < s.exp! k) (ht : ∀ k, k < t.nprim → 0 < t.exp! k) :
    Integrable fun r : E3 => shellFnE s ma ca r * shellFnE t mb cb r :=
  (gaussBdd_pairDensity s t ma ca mb cb hs ht).integrable
    (continuous_pairDensity s t ma ca mb cb).aestronglyMeasurable

/-- C12 for the overlap block. -/
theorem overlapBlock_moved (g : E3 ≃ᵃⁱ[ℝ] E3) (s t : Shell ℝ) (ma ca mb cb : ℕ)
    (hs : ∀ k, k < s.nprim → 0 < s.exp! k) (ht : ∀ k, k < t.nprim → 0 < t.exp! k)
    (hfs : FullCart s.l s.cart) (hft : FullCart t.l t.cart)
    (hca : ca < s.ncart) (hcb : cb < t.ncart) :
    (overlapBlock (s.moved g) (t.moved g)).get4 ma ca mb cb
      = ∑ ca' ∈ range s.ncart, ∑ cb' ∈ range t.ncart,
          repMat (linPart g) s.cart ca ca' * repMat (linPart g) t.cart cb cb'
            * (overlapBlock s t).get4 ma ca' mb cb' := by
  rw [overlapBlock_eq_integral_E3 (s.moved g) (t.moved g) ma ca mb cb hs ht,
    lift_pair g (range s.ncart) (range t.ncart) _
      (fun a b r => shellFnE s ma a r * shellFnE t mb b r)
      (fun a b => repMat (linPart g) s.cart ca a * repMat (linPart g) t.cart cb b)
      (fun r => by
        rw [shellFnE_moved g s hfs ma ca hca, shellFnE_moved g t hft mb cb hcb, sum_mul_sum_pair])
      (fun a _ b _ => integrable_shellFnE_mul s t ma a mb b hs ht)]
  refine Finset.sum_congr rfl fun j _ => Finset.sum_congr rfl fun l _ => ?_
  rw [overlapBlock_eq_integral_E3 s t ma j mb l hs ht]

end Blocks

end GB

