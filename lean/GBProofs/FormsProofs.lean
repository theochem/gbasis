import GBProofs.Basic
import Mathlib.RingTheory.Derivation.Basic
import Mathlib.Algebra.Module.LinearMap.End
import Mathlib.Algebra.BigOperators.Intervals
import Mathlib.Algebra.BigOperators.Fin
import Mathlib.Data.Nat.Choose.Sum
import Mathlib.Algebra.MvPolynomial.PDeriv
import Mathlib.Algebra.Polynomial.Derivative
import Mathlib.Tactic.Ring
import Mathlib.Tactic.Module
import Mathlib.Tactic.Abel
import Mathlib.Tactic.Linarith
import Mathlib.Tactic.FinCases

/-!
# `density.py` / `stress_tensor.py`: the forms of `GBModel.Forms` are the documented quantities

C06 and C15, algebraically: `A` is any commutative `K`-algebra with three commuting derivations `d i`
(the partial derivatives), `φ a : A` the basis functions, `γ` the density matrix.  A form is read as
the linear combination of the symbols `Dsym d φ γ p q` it lists; each form the library's loops produce
is shown equal to the derivative expression the library documents for it.
-/

open Finset

namespace GB

/-! ## Pure lemmas -/

/-- the symmetry shortcut of `evaluate_deriv_density`: sum over the lower half with factor 2,
    the middle term of an even order counted once -/
theorem half_sum {M : Type*} [AddCommMonoid M] (L : ℕ) (f : ℕ → M)
    (hsym : ∀ l, l ≤ L → f (L - l) = f l) :
    ∑ l ∈ range (L + 1), f l
      = ∑ l ∈ range (L / 2 + 1), (if L % 2 = 0 ∧ 2 * l = L then 1 else 2) • f l := by
  -- the upper `m` terms, read downwards, are the lower `m` terms
  have hupper : ∀ h m, h + m = L + 1 → ∑ l ∈ range m, f (h + l) = ∑ l ∈ range m, f l := by
    intro h m hm
    rw [← sum_range_reflect]
    refine sum_congr rfl fun l hl => ?_
    have hl := mem_range.1 hl
    rw [← hsym l (by omega)]
    congr 1; omega
  have htwo : ∀ l, 2 * l ≠ L → (if L % 2 = 0 ∧ 2 * l = L then 1 else 2) • f l = f l + f l :=
    fun l hl => by rw [if_neg fun h => hl h.2, two_nsmul]
  obtain ⟨k, rfl | rfl⟩ := Nat.even_or_odd' L
  · rw [Nat.mul_div_cancel_left k two_pos, show 2 * k + 1 = k + 1 + k by ring, sum_range_add,
      hupper (k + 1) k (by ring), sum_range_succ, sum_range_succ,
      if_pos ⟨Nat.mul_mod_right 2 k, rfl⟩, one_nsmul,
      sum_congr rfl fun l hl => htwo l (by have := mem_range.1 hl; omega), sum_add_distrib]
    exact add_right_comm _ _ _
  · rw [show (2 * k + 1) / 2 + 1 = k + 1 by omega, show 2 * k + 1 + 1 = k + 1 + (k + 1) by ring,
      sum_range_add, hupper (k + 1) (k + 1) (by ring),
      sum_congr rfl fun l _ => htwo l (by omega), sum_add_distrib]

theorem sum_comm3 {M : Type*} [AddCommMonoid M] (s t u : Finset ℕ) (f : ℕ → ℕ → ℕ → M) :
    ∑ z ∈ s, ∑ y ∈ t, ∑ x ∈ u, f x y z = ∑ x ∈ u, ∑ y ∈ t, ∑ z ∈ s, f x y z :=
  calc ∑ z ∈ s, ∑ y ∈ t, ∑ x ∈ u, f x y z
      = ∑ z ∈ s, ∑ x ∈ u, ∑ y ∈ t, f x y z := sum_congr rfl fun _ _ => sum_comm
    _ = ∑ x ∈ u, ∑ z ∈ s, ∑ y ∈ t, f x y z := sum_comm
    _ = _ := sum_congr rfl fun _ _ => sum_comm

theorem pow_leibniz {R M : Type*} [Semiring R] [AddCommMonoid M] [Module R M]
    (T : Module.End R M) (S : ℕ → ℕ → M)
    (hT : ∀ a b, T (S a b) = S (a + 1) b + S a (b + 1)) (n a b : ℕ) :
    (T ^ n) (S a b) = ∑ l ∈ range (n + 1), n.choose l • S (a + l) (b + (n - l)) := by
  rw [← Finset.Nat.sum_antidiagonal_eq_sum_range_succ (fun i j => n.choose i • S (a + i) (b + j))]
  induction n with
  | zero => simp
  | succ n ih =>
    rw [Finset.sum_antidiagonal_choose_succ_nsmul (M := M) (fun i j => S (a + i) (b + j)) n]
    rw [pow_succ', Module.End.mul_apply, ih]
    simp only [map_sum, map_nsmul, hT, smul_add, sum_add_distrib]
    rw [add_comm]
    congr 1
    refine sum_congr rfl fun ⟨i, j⟩ hij => ?_
    rw [n.choose_symm_of_eq_add (mem_antidiagonal.1 hij).symm]
    simp [add_assoc]

/-! ## `Comp` arithmetic -/

theorem Comp.add_eq (p q : Comp) : Comp.add p q = p + q := rfl
theorem Comp.zero_eq : Comp.zero = 0 := rfl
theorem Comp.smul_two (p : Comp) : Comp.smul 2 p = p + p := by
  obtain ⟨a, b, c⟩ := p
  simp [Comp.smul, two_mul]

/-! ## The clipping rule (C06) -/

theorem foldl_min_lt_iff (l : List ℚ) (a c : ℚ) :
    l.foldl min a < c ↔ a < c ∨ ∃ v ∈ l, v < c := by
  induction l generalizing a with
  | nil => simp
  | cons x xs ih => simp [ih, or_assoc]

/-- the minimum computed by `clipRule` -/
def clipMin (vals : List ℚ) : ℚ := vals.foldl min (vals.headD 0)

theorem clipMin_lt_iff (vals : List ℚ) {c : ℚ} (hc : c ≤ 0) :
    clipMin vals < c ↔ ∃ v ∈ vals, v < c := by
  rw [clipMin, foldl_min_lt_iff]
  cases vals with
  | nil => simp [not_lt.2 hc]
  | cons v vs => exact or_iff_right_of_imp fun h => ⟨v, List.mem_cons_self, h⟩

theorem clipRule_eq (t : ℚ) (vals : List ℚ) :
    clipRule t vals = if clipMin vals < 0 ∧ t < -clipMin vals then none
      else some (vals.map fun v => max v 0) := by
  simp only [clipRule, clipMin, Bool.and_eq_true, decide_eq_true_eq, gt_iff_lt]
  congr

/-- C06: `ValueError` exactly when some value is below `-threshold` -/
theorem clipRule_none_iff (t : ℚ) (ht : 0 ≤ t) (vals : List ℚ) :
    clipRule t vals = none ↔ ∃ v ∈ vals, v < -t := by
  rw [clipRule_eq, ← clipMin_lt_iff vals (neg_nonpos.2 ht), ite_eq_left_iff]
  simp only [reduceCtorEq, imp_false, not_not]
  exact ⟨fun h => lt_neg_of_lt_neg h.2, fun h => ⟨by linarith, lt_neg_of_lt_neg h⟩⟩

theorem clipRule_some (t : ℚ) (vals out : List ℚ) (h : clipRule t vals = some out) :
    out = vals.map fun v => max v 0 := by
  rw [clipRule_eq] at h
  split_ifs at h
  exact (Option.some.inj h).symm

theorem clipRule_of_ge (t : ℚ) (ht : 0 ≤ t) (vals : List ℚ) (h : ∀ v ∈ vals, -t ≤ v) :
    clipRule t vals = some (vals.map fun v => max v 0) ∧
      ∀ v ∈ vals, v < 0 → max v 0 = 0 := by
  refine ⟨?_, fun v _ hv => max_eq_right hv.le⟩
  cases hc : clipRule t vals with
  | none =>
    obtain ⟨v, hv, hlt⟩ := (clipRule_none_iff t ht vals).1 hc
    exact absurd (h v hv) (not_le.2 hlt)
  | some out => rw [clipRule_some t vals out hc]

/-! ## Set-up -/

section Setup

variable {K A ι : Type*} [Field K] [CommRing A] [Algebra K A] [Fintype ι]

def CommD (d : Fin 3 → Derivation K A A) : Prop := ∀ i j f, d i (d j f) = d j (d i f)

def SymmG (γ : ι → ι → K) : Prop := ∀ a b, γ a b = γ b a

/-- `∂^p f` -/
def dpow (d : Fin 3 → Derivation K A A) (p : Comp) (f : A) : A :=
  (d 0)^[p.1] ((d 1)^[p.2.1] ((d 2)^[p.2.2] f))

/-- the symbol `D(p; q)` of `GBModel.Forms`: what `evaluate_deriv_reduced_density_matrix(p, q, γ, …)`
returns -/
def Dsym (d : Fin 3 → Derivation K A A) (φ : ι → A) (γ : ι → ι → K) (p q : Comp) : A :=
  ∑ a, ∑ b, γ a b • (dpow d p (φ a) * dpow d q (φ b))

def rho (d : Fin 3 → Derivation K A A) (φ : ι → A) (γ : ι → ι → K) : A := Dsym d φ γ 0 0

def Form.evalA (d : Fin 3 → Derivation K A A) (φ : ι → A) (γ : ι → ι → K) (f : Form) : A :=
  (f.map fun t => (t.1 : K) • Dsym d φ γ t.2.1 t.2.2).sum

abbrev e (i : Fin 3) : Comp := Comp.e i.val

variable (d : Fin 3 → Derivation K A A) (φ : ι → A) (γ : ι → ι → K)

def dpowL (p : Comp) : Module.End K A :=
  (d 0).toLinearMap ^ p.1 * ((d 1).toLinearMap ^ p.2.1 * (d 2).toLinearMap ^ p.2.2)

theorem dpow_eq (p : Comp) (f : A) : dpow d p f = dpowL d p f := by
  simp only [dpow, dpowL, Module.End.mul_apply, Module.End.pow_apply, Derivation.coeFn_coe]

@[simp] theorem dpow_zero (f : A) : dpow d 0 f = f := rfl

theorem dpow_add_map (p : Comp) (f g : A) : dpow d p (f + g) = dpow d p f + dpow d p g := by
  simp only [dpow_eq, map_add]

theorem dpow_smul_map (p : Comp) (c : K) (f : A) : dpow d p (c • f) = c • dpow d p f := by
  simp only [dpow_eq, map_smul]

theorem dpow_sum_map {σ : Type*} (p : Comp) (s : Finset σ) (f : σ → A) :
    dpow d p (∑ x ∈ s, f x) = ∑ x ∈ s, dpow d p (f x) := by
  simp only [dpow_eq, map_sum]

variable {d}

theorem CommD.iter (hd : CommD d) (i j : Fin 3) (n : ℕ) (f : A) :
    d i ((d j)^[n] f) = (d j)^[n] (d i f) :=
  ((show Function.Commute (d i) (d j) from fun f => hd i j f).iterate_right n).eq f

theorem d_dpow (hd : CommD d) (i : Fin 3) (p : Comp) (f : A) :
    d i (dpow d p f) = dpow d (p + e i) f := by
  obtain ⟨a, b, c⟩ := p
  fin_cases i
  · simp [dpow, e, Comp.e, Function.iterate_succ_apply']
  · simp [dpow, e, Comp.e, Function.iterate_succ_apply', hd.iter]
  · simp [dpow, e, Comp.e, Function.iterate_succ_apply', hd.iter]

theorem dpow_d (hd : CommD d) (i : Fin 3) (p : Comp) (f : A) :
    dpow d (p + e i) f = dpow d p (d i f) := by
  rw [← d_dpow hd]
  simp [dpow, hd.iter]

variable {φ γ}

theorem d_Dsym (hd : CommD d) (i : Fin 3) (p q : Comp) :
    d i (Dsym d φ γ p q) = Dsym d φ γ (p + e i) q + Dsym d φ γ p (q + e i) := by
  simp only [Dsym, map_sum, ← sum_add_distrib]
  refine sum_congr rfl fun a _ => sum_congr rfl fun b _ => ?_
  rw [Derivation.map_smul, Derivation.leibniz, d_dpow hd, d_dpow hd, smul_eq_mul, smul_eq_mul,
    ← smul_add]
  congr 1; ring

theorem Dsym_symm (hγ : SymmG γ) (p q : Comp) : Dsym d φ γ p q = Dsym d φ γ q p := by
  unfold Dsym
  rw [sum_comm]
  refine sum_congr rfl fun a _ => sum_congr rfl fun b _ => ?_
  rw [hγ a b, mul_comm]

/-! ## Evaluation of forms -/

local notation "⟪" f "⟫" => Form.evalA d φ γ f
local notation "D" => Dsym d φ γ
local notation "ρ" => rho d φ γ

@[simp] theorem evalA_nil : ⟪[]⟫ = 0 := rfl

@[simp] theorem evalA_cons (t : Rat × Comp × Comp) (f : Form) :
    ⟪t :: f⟫ = (t.1 : K) • D t.2.1 t.2.2 + ⟪f⟫ := by
  simp [Form.evalA]

@[simp] theorem evalA_append (f g : Form) : ⟪f ++ g⟫ = ⟪f⟫ + ⟪g⟫ := by
  simp [Form.evalA]

theorem evalA_flatMap_range (n : ℕ) (g : ℕ → Form) :
    ⟪(List.range n).flatMap g⟫ = ∑ i ∈ range n, ⟪g i⟫ := by
  induction n with
  | zero => simp
  | succ n ih => simp [List.range_succ, List.flatMap_append, ih, Finset.sum_range_succ]

theorem evalA_map_range (n : ℕ) (g : ℕ → Rat × Comp × Comp) :
    ⟪(List.range n).map g⟫ = ∑ i ∈ range n, ((g i).1 : K) • D (g i).2.1 (g i).2.2 := by
  induction n with
  | zero => simp
  | succ n ih => simp [List.range_succ, ih, Finset.sum_range_succ]

/-- a block that the code skips when `x = y` may be un-skipped if its value is zero then -/
theorem evalA_skip (x y : ℚ) (l : Form) (h : x = y → ⟪l⟫ = 0) :
    ⟪if x != y then l else []⟫ = ⟪l⟫ := by
  by_cases hxy : x = y
  · rw [h hxy, hxy, bne_self_eq_false]; rfl
  · rw [bne_iff_ne.2 hxy, if_pos rfl]

theorem evalA_skip_single (x y c : ℚ) (p q : Comp) (h : x = y → c = 0) :
    ⟪if x != y then [(c, p, q)] else []⟫ = (c : K) • D p q := by
  rw [evalA_skip, evalA_cons, evalA_nil, add_zero]
  intro hxy
  rw [evalA_cons, h hxy, Rat.cast_zero, zero_smul, evalA_nil, add_zero]

theorem evalA_skip_pair (x y c : ℚ) (p q p' q' : Comp) (h : x = y → c = 0) :
    ⟪if x != y then [(c, p, q), (c, p', q')] else []⟫ = (c : K) • D p q + (c : K) • D p' q' := by
  rw [evalA_skip, evalA_cons, evalA_cons, evalA_nil, add_zero]
  intro hxy
  rw [evalA_cons, evalA_cons, h hxy, Rat.cast_zero, zero_smul, zero_smul, evalA_nil, add_zero,
    add_zero]

/-! ## The general Leibniz rule -/

theorem pow_d_Dsym (hd : CommD d) (i : Fin 3) (n : ℕ) (p q : Comp) :
    ((d i).toLinearMap ^ n) (D p q)
      = ∑ l ∈ range (n + 1), n.choose l • D (p + l • e i) (q + (n - l) • e i) := by
  have h := pow_leibniz (d i).toLinearMap (fun a b => D (p + a • e i) (q + b • e i))
    (fun a b => by
      show d i _ = _
      rw [d_Dsym hd, succ_nsmul, succ_nsmul, add_assoc, add_assoc]) n 0 0
  simpa only [zero_nsmul, add_zero, zero_add] using h

theorem dpow_Dsym (hd : CommD d) (L p q : Comp) :
    dpow d L (D p q) = ∑ lx ∈ range (L.1 + 1), ∑ ly ∈ range (L.2.1 + 1), ∑ lz ∈ range (L.2.2 + 1),
      (L.1.choose lx * L.2.1.choose ly * L.2.2.choose lz) •
        D (p + (lx, ly, lz)) (q + (L.1 - lx, L.2.1 - ly, L.2.2 - lz)) := by
  obtain ⟨Lx, Ly, Lz⟩ := L
  rw [dpow_eq, dpowL]
  simp only [Module.End.mul_apply, pow_d_Dsym hd, map_sum, map_nsmul, smul_sum]
  rw [sum_comm3 (range (Lz + 1)) (range (Ly + 1)) (range (Lx + 1))]
  refine sum_congr rfl fun lx _ => sum_congr rfl fun ly _ => sum_congr rfl fun lz _ => ?_
  have hc : ∀ (r : Comp) (a b c : ℕ), r + c • e 2 + b • e 1 + a • e 0 = r + ((a, b, c) : Comp) := by
    intro r a b c
    obtain ⟨r1, r2, r3⟩ := r
    simp [e, Comp.e]
  rw [hc, hc, smul_smul, smul_smul]
  congr 1; ring

theorem leibniz_eval (L : Comp) :
    ⟪leibnizForm L⟫ = ∑ lx ∈ range (L.1 + 1), ∑ ly ∈ range (L.2.1 + 1), ∑ lz ∈ range (L.2.2 + 1),
      (L.1.choose lx * L.2.1.choose ly * L.2.2.choose lz) •
        D (lx, ly, lz) (L.1 - lx, L.2.1 - ly, L.2.2 - lz) := by
  unfold leibnizForm
  rw [evalA_flatMap_range]
  refine sum_congr rfl fun lx _ => ?_
  rw [evalA_flatMap_range]
  refine sum_congr rfl fun ly _ => ?_
  rw [evalA_map_range]
  refine sum_congr rfl fun lz _ => ?_
  simp only [choose_eq_choose, Rat.cast_natCast, Nat.cast_smul_eq_nsmul, Comp.sub]

theorem leibniz_eq (hd : CommD d) (L : Comp) : ⟪leibnizForm L⟫ = dpow d L ρ := by
  rw [leibniz_eval, rho, dpow_Dsym hd]
  simp only [zero_add]

/-! ## The half-range shortcut of `evaluate_deriv_density` (C06) -/

theorem derivDensity_eval (L : Comp) :
    ⟪derivDensityForm L⟫ = ∑ lx ∈ range (L.1 / 2 + 1),
      (if L.1 % 2 = 0 ∧ 2 * lx = L.1 then 1 else 2) •
        ∑ ly ∈ range (L.2.1 + 1), ∑ lz ∈ range (L.2.2 + 1),
          (L.1.choose lx * L.2.1.choose ly * L.2.2.choose lz) •
            D (lx, ly, lz) (L.1 - lx, L.2.1 - ly, L.2.2 - lz) := by
  unfold derivDensityForm
  rw [evalA_flatMap_range]
  refine sum_congr rfl fun lx _ => ?_
  rw [evalA_flatMap_range, smul_sum]
  refine sum_congr rfl fun ly _ => ?_
  rw [evalA_map_range, smul_sum]
  refine sum_congr rfl fun lz _ => ?_
  have hf : (if (L.1 % 2 == 0 && 2 * lx == L.1) then (1 : ℚ) else 2)
      = ((if L.1 % 2 = 0 ∧ 2 * lx = L.1 then 1 else 2 : ℕ) : ℚ) := by
    by_cases h : L.1 % 2 = 0 ∧ 2 * lx = L.1
    · simp [h]
    · rw [if_neg h]
      simp only [Bool.and_eq_true, beq_iff_eq]
      rw [if_neg h]; norm_num
  simp only [hf, choose_eq_choose, ← Nat.cast_mul, Rat.cast_natCast, Nat.cast_smul_eq_nsmul, Comp.sub,
    mul_smul]

theorem derivDensity_eq_leibniz (hγ : SymmG γ) (L : Comp) :
    ⟪derivDensityForm L⟫ = ⟪leibnizForm L⟫ := by
  rw [derivDensity_eval, leibniz_eval]
  symm
  apply half_sum
  intro lx hlx
  rw [← sum_flip]
  refine sum_congr rfl fun ly hly => ?_
  rw [← sum_flip]
  refine sum_congr rfl fun lz hlz => ?_
  have hly' : ly ≤ L.2.1 := by simpa [Nat.lt_succ_iff] using hly
  have hlz' : lz ≤ L.2.2 := by simpa [Nat.lt_succ_iff] using hlz
  rw [Nat.choose_symm hlx, Nat.choose_symm hly', Nat.choose_symm hlz',
    Nat.sub_sub_self hlx, Nat.sub_sub_self hly', Nat.sub_sub_self hlz', Dsym_symm hγ]

theorem derivDensity_eq (hd : CommD d) (hγ : SymmG γ) (L : Comp) :
    ⟪derivDensityForm L⟫ = dpow d L ρ := by
  rw [derivDensity_eq_leibniz hγ, leibniz_eq hd]

/-! ## Gradient, Laplacian, Hessian of the density (C06) -/

def lap (d : Fin 3 → Derivation K A A) (φ : ι → A) (γ : ι → ι → K) : A :=
  ∑ i : Fin 3, d i (d i (rho d φ γ))

local notation "Δρ" => lap d φ γ

theorem evalA_flatMap_range3 (g : ℕ → Form) :
    ⟪(List.range 3).flatMap g⟫ = ∑ k : Fin 3, ⟪g k⟫ := by
  rw [evalA_flatMap_range, Finset.sum_range]

theorem evalA_map_range3 (g : ℕ → Rat × Comp × Comp) :
    ⟪(List.range 3).map g⟫ = ∑ k : Fin 3, ((g k).1 : K) • D (g k).2.1 (g k).2.2 := by
  rw [evalA_map_range, Finset.sum_range]

theorem dd_rho (hd : CommD d) (r c : Fin 3) :
    d r (d c ρ) = D (e c + e r) 0 + D (e c) (e r) + (D (e r) (e c) + D 0 (e c + e r)) := by
  rw [rho, d_Dsym hd, map_add, d_Dsym hd, d_Dsym hd]
  simp

theorem dd_rho_symm (hd : CommD d) (hγ : SymmG γ) (r c : Fin 3) :
    d r (d c ρ) = (2 : K) • D (e r + e c) 0 + (2 : K) • D (e r) (e c) := by
  rw [dd_rho hd, Dsym_symm hγ 0, Dsym_symm hγ (e c) (e r), add_comm (e c) (e r), two_smul, two_smul]
  abel

theorem gradient_eq (hd : CommD d) (hγ : SymmG γ) (i : Fin 3) :
    ⟪gradientForm i⟫ = d i ρ := by
  rw [rho, d_Dsym hd, Dsym_symm hγ 0 (0 + e i)]
  simp [gradientForm, Comp.zero_eq, two_smul]

theorem laplacian_eval :
    ⟪laplacianForm⟫ = ∑ i : Fin 3, ((2 : K) • D (e i + e i) 0 + (2 : K) • D (e i) (e i)) := by
  unfold laplacianForm
  rw [evalA_append, evalA_map_range3, evalA_map_range3, ← sum_add_distrib]
  simp [Comp.smul_two, Comp.zero_eq]

theorem laplacian_eq (hd : CommD d) (hγ : SymmG γ) : ⟪laplacianForm⟫ = Δρ := by
  rw [laplacian_eval, lap]
  refine sum_congr rfl fun i _ => ?_
  rw [dd_rho_symm hd hγ]

theorem hessianForm_symm (r c : ℕ) : hessianForm r c = hessianForm c r := by
  simp only [hessianForm]
  rw [min_comm, max_comm]

theorem hessian_symm (r c : Fin 3) : ⟪hessianForm r c⟫ = ⟪hessianForm c r⟫ := by
  rw [hessianForm_symm]

theorem hessian_eq (hd : CommD d) (hγ : SymmG γ) (r c : Fin 3) :
    ⟪hessianForm r c⟫ = d r (d c ρ) := by
  wlog h : (r : ℕ) ≤ c generalizing r c
  · have h' : (c : ℕ) ≤ r := by omega
    rw [hessian_symm, this c r h', hd r c]
  rw [dd_rho_symm hd hγ, Dsym_symm hγ (e r + e c) 0]
  simp [hessianForm, min_eq_left h, max_eq_right h, Comp.zero_eq, Comp.add_eq]

theorem hessian_trace (hγ : SymmG γ) :
    ∑ r : Fin 3, ⟪hessianForm r r⟫ = ⟪laplacianForm⟫ := by
  rw [laplacian_eval]
  refine sum_congr rfl fun r _ => ?_
  rw [Dsym_symm hγ (e r + e r) 0]
  simp [hessianForm, Comp.zero_eq, Comp.add_eq]

/-! ## Kinetic energy densities (C06) -/

variable [CharZero K]

theorem evalA_scale (c : ℚ) (f : Form) : ⟪f.scale c⟫ = (c : K) • ⟪f⟫ := by
  induction f with
  | nil => simp [Form.scale]
  | cons t f ih =>
    simp only [Form.scale, List.map_cons, evalA_cons] at ih ⊢
    rw [ih, Rat.cast_mul, mul_smul, smul_add]

theorem evalA_skip_scale (x y c : ℚ) (f : Form) (h : x = y → c = 0) :
    ⟪if x != y then f.scale c else []⟫ = (c : K) • ⟪f⟫ := by
  rw [evalA_skip, evalA_scale]
  intro hxy
  rw [evalA_scale, h hxy, Rat.cast_zero, zero_smul]

theorem generalKE_eq (α : ℚ) :
    ⟪generalKEForm α⟫ = ⟪posdefForm⟫ + (α : K) • ⟪laplacianForm⟫ := by
  rw [generalKEForm, evalA_append, evalA_skip_scale _ _ _ _ id]

theorem posdef_eval : ⟪posdefForm⟫ = (1 / 2 : K) • ∑ i : Fin 3, D (e i) (e i) := by
  unfold posdefForm
  rw [evalA_map_range3, smul_sum]
  simp

/-! ## Stress tensor, Ehrenfest force, Ehrenfest Hessian (C15) -/

theorem stressForm_symm (α β : ℚ) (i j : ℕ) : stressForm α β i j = stressForm α β j i := by
  simp only [stressForm]
  rw [min_comm, max_comm]

omit [CharZero K] in
theorem stress_symm (α β : ℚ) (i j : Fin 3) :
    ⟪stressForm α β i j⟫ = ⟪stressForm α β j i⟫ := by
  rw [stressForm_symm]

/-- the form for `i ≤ j`, with the coefficients as the code forms them -/
theorem stress_eval_le (α β : ℚ) (i j : Fin 3) (h : (i : ℕ) ≤ j) :
    ⟪stressForm α β i j⟫ = ((-α : ℚ) : K) • D (e j) (e i) + ((1 - α : ℚ) : K) • D (e j + e i) 0
      + (if i = j then ((-(1 / 2) * β : ℚ) : K) else 0) • ⟪laplacianForm⟫ := by
  simp only [stressForm, min_eq_left h, max_eq_right h, evalA_append, Comp.add_eq, Comp.zero_eq]
  rw [evalA_skip_single _ _ _ _ _ neg_eq_zero.2,
    evalA_skip_single _ _ _ _ _ fun h => sub_eq_zero.2 h.symm]
  by_cases hij : i = j
  · subst hij
    rw [beq_self_eq_true, Bool.true_and, evalA_skip_scale _ _ _ _ (mul_eq_zero_of_right _),
      if_pos rfl]
  · rw [beq_eq_false_iff_ne.2 (Fin.val_ne_of_ne hij), Bool.false_and, if_neg hij, zero_smul]
    rfl

theorem stress_simple (hd : CommD d) (hγ : SymmG γ) (α β : ℚ) (i j : Fin 3) :
    ⟪stressForm α β i j⟫ = ((-α : ℚ) : K) • D (e i) (e j) + ((1 - α : ℚ) : K) • D (e i + e j) 0
      + (if i = j then ((-(1 / 2) * β : ℚ) : K) else 0) • Δρ := by
  rw [← laplacian_eq hd hγ]
  rcases le_total (i : ℕ) j with h | h
  · rw [stress_eval_le α β i j h, Dsym_symm hγ (e j) (e i), add_comm (e j) (e i)]
  · rw [stress_symm, stress_eval_le α β j i h]
    simp only [eq_comm]

/-- C15: the expression in the docstring of `evaluate_stress_tensor`, uniformly in `α`, `β` -/
theorem stress_doc (hd : CommD d) (hγ : SymmG γ) (α β : ℚ) (i j : Fin 3) :
    ⟪stressForm α β i j⟫ =
      -(1 / 2 : K) • ((α : K) • (D (e i) (e j) + D (e j) (e i))
          - (1 - (α : K)) • (D (e i + e j) 0 + D 0 (e i + e j)))
        - (1 / 2 : K) • ((if i = j then (1 : K) else 0) * (β : K)) • Δρ := by
  rw [stress_simple hd hγ, Dsym_symm hγ (e j) (e i), Dsym_symm hγ 0 (e i + e j), ← boole_mul]
  push_cast
  module

omit [CharZero K] in
theorem dpow_e (hd : CommD d) (k : Fin 3) (f : A) : dpow d (e k) f = d k f := by
  rw [← zero_add (e k), ← d_dpow hd, dpow_zero]

omit [CharZero K] in
theorem dpow_eee (hd : CommD d) (k k' i : Fin 3) (f : A) :
    dpow d (e k + e k' + e i) f = d i (d k' (d k f)) := by
  rw [← d_dpow hd i, ← d_dpow hd k', dpow_e hd]

omit [CharZero K] in
theorem dpow_eeee (hd : CommD d) (k k' i j : Fin 3) (f : A) :
    dpow d (e k + e k' + e i + e j) f = d j (d i (d k' (d k f))) := by
  rw [← d_dpow hd j, dpow_eee hd]

theorem one_skip {α : ℚ} (h : α = 1) : -(1 - α) = 0 := by rw [h, sub_self, neg_zero]

theorem half_skip {α : ℚ} (h : α = 1 / 2) : -(1 - 2 * α) = 0 := by rw [h]; norm_num

/-- the force, term by term as the code forms it -/
theorem force_eval (hd : CommD d) (hγ : SymmG γ) (α β : ℚ) (i : Fin 3) :
    ⟪forceForm α β i⟫ = ∑ k : Fin 3,
      ((α : K) • D (e k + e k) (e i) + ((-(1 - α) : ℚ) : K) • D (e k + e k + e i) 0
        + ((-(1 - 2 * α) : ℚ) : K) • D (e k + e i) (e k)
        + ((1 / 2 * β : ℚ) : K) • d i (d k (d k ρ))) := by
  unfold forceForm
  rw [evalA_flatMap_range3]
  refine sum_congr rfl fun k _ => ?_
  simp only [evalA_append]
  rw [evalA_skip_single _ _ _ _ _ id, evalA_skip_single _ _ _ _ _ one_skip,
    evalA_skip_single _ _ _ _ _ half_skip, evalA_skip_scale _ _ _ _ (mul_eq_zero_of_right _),
    derivDensity_eq hd hγ]
  simp only [Comp.smul_two, Comp.add_eq, Comp.zero_eq, dpow_eee hd]

/-- C15: `evaluate_ehrenfest_force` is minus the divergence of `evaluate_stress_tensor` -/
theorem force_eq_neg_div_stress (hd : CommD d) (hγ : SymmG γ) (α β : ℚ) (i : Fin 3) :
    ⟪forceForm α β i⟫ = -∑ j : Fin 3, d j ⟪stressForm α β i j⟫ := by
  have hs : ∀ j : Fin 3, d j ⟪stressForm α β i j⟫
      = ((-α : ℚ) : K) • (D (e i + e j) (e j) + D (e i) (e j + e j))
          + ((1 - α : ℚ) : K) • (D (e i + e j + e j) 0 + D (e i + e j) (e j))
        + (if i = j then ((-(1 / 2) * β : ℚ) : K) • d j Δρ else 0) := by
    intro j
    rw [stress_simple hd hγ, map_add, map_add, Derivation.map_smul, Derivation.map_smul,
      Derivation.map_smul, d_Dsym hd, d_Dsym hd, zero_add, ite_zero_smul]
  simp only [hs]
  rw [sum_add_distrib, Finset.sum_ite_eq, if_pos (mem_univ i), lap, map_sum, smul_sum,
    ← sum_add_distrib, ← sum_neg_distrib, force_eval hd hγ]
  refine sum_congr rfl fun k _ => ?_
  rw [Dsym_symm hγ (e k + e k) (e i), show e k + e k + e i = e i + e k + e k by abel,
    add_comm (e k) (e i)]
  push_cast
  module

/-- the Hessian before symmetrisation, term by term as the code forms it -/
theorem hessianRaw_eval (hd : CommD d) (hγ : SymmG γ) (α β : ℚ) (i j : Fin 3) :
    ⟪ehrenfestHessianRaw α β i j⟫ = ∑ k : Fin 3,
      ((α : K) • D (e k + e k + e j) (e i) + (α : K) • D (e k + e k) (e i + e j)
        + (((-(1 - α) : ℚ) : K) • D (e k + e k + e i + e j) 0
          + ((-(1 - α) : ℚ) : K) • D (e k + e k + e i) (e j))
        + (((-(1 - 2 * α) : ℚ) : K) • D (e k + e i + e j) (e k)
          + ((-(1 - 2 * α) : ℚ) : K) • D (e k + e i) (e k + e j))
        + ((1 / 2 * β : ℚ) : K) • d j (d i (d k (d k ρ)))) := by
  unfold ehrenfestHessianRaw
  rw [evalA_flatMap_range3]
  refine sum_congr rfl fun k _ => ?_
  simp only [evalA_append]
  rw [evalA_skip_pair _ _ _ _ _ _ _ id, evalA_skip_pair _ _ _ _ _ _ _ one_skip,
    evalA_skip_pair _ _ _ _ _ _ _ half_skip, evalA_skip_scale _ _ _ _ (mul_eq_zero_of_right _),
    derivDensity_eq hd hγ]
  simp only [Comp.smul_two, Comp.add_eq, Comp.zero_eq, dpow_eeee hd]

/-- C15: `evaluate_ehrenfest_hessian` (before symmetrisation) is `+∂_j F_i`.  The first line of the
library's docstring writes `-∂F_j/∂r_k`; its expanded formula, which the code follows, has this sign. -/
theorem ehrenfest_hessian_eq_jacobian (hd : CommD d) (hγ : SymmG γ) (α β : ℚ) (i j : Fin 3) :
    ⟪ehrenfestHessianRaw α β i j⟫ = d j ⟪forceForm α β i⟫ := by
  rw [hessianRaw_eval hd hγ, force_eval hd hγ, map_sum]
  refine sum_congr rfl fun k _ => ?_
  simp only [map_add, Derivation.map_smul, d_Dsym hd, zero_add, smul_add]

omit [CharZero K] in
theorem ehrenfest_hessian_unsymmetrised (α β : ℚ) (i j : Fin 3) :
    ⟪ehrenfestHessianForm α β false i j⟫ = ⟪ehrenfestHessianRaw α β i j⟫ := by
  simp [ehrenfestHessianForm]

/-- C15: `symmetric=True` returns `(H + Hᵀ)/2` -/
theorem ehrenfest_hessian_symmetrised (α β : ℚ) (i j : Fin 3) :
    ⟪ehrenfestHessianForm α β true i j⟫
      = (1 / 2 : K) • (⟪ehrenfestHessianRaw α β i j⟫ + ⟪ehrenfestHessianRaw α β j i⟫) := by
  simp [ehrenfestHessianForm, evalA_scale]

end Setup

/-! ## The model's own `Form.eval` -/

section ModelEval

/-- `Form.eval` never divides, hence the dummy `Div` -/
@[reducible] def ringNum (A : Type) [CommRing A] : Num A :=
  { toAdd := inferInstance, toSub := inferInstance, toMul := inferInstance,
    toDiv := ⟨fun _ _ => 0⟩, toNeg := inferInstance, nat := fun n => (n : A) }

theorem eval_eq_evalA {K A ι : Type} [Field K] [CommRing A] [Algebra K A] [Fintype ι]
    (d : Fin 3 → Derivation K A A) (φ : ι → A) (γ : ι → ι → K) (f : Form) :
    @Form.eval A (ringNum A) (fun r => algebraMap K A (r : K)) (Dsym d φ γ) f
      = Form.evalA d φ γ f := by
  unfold Form.eval
  induction f with
  | nil => simp only [List.map_nil, sumL, evalA_nil]; exact Nat.cast_zero
  | cons t f ih =>
    rw [evalA_cons, ← ih]
    simp [sumL, Algebra.smul_def]

end ModelEval

/-! ## Non-vacuity: a concrete instance of the set-up -/

section Instance

open MvPolynomial

theorem pderiv_comm (i j : Fin 3) (f : MvPolynomial (Fin 3) ℚ) :
    pderiv i (pderiv j f) = pderiv j (pderiv i f) := by
  induction f using MvPolynomial.induction_on with
  | C a => rw [pderiv_C, pderiv_C, map_zero, map_zero]
  | add p q hp hq => rw [map_add, map_add, map_add, map_add, hp, hq]
  | mul_X p k hp =>
    -- `∂_b x_k` is a constant
    have hX : ∀ a b : Fin 3, pderiv a (pderiv b (X k : MvPolynomial (Fin 3) ℚ)) = 0 := fun a b => by
      rw [pderiv_X, Pi.single_apply]
      split_ifs
      exacts [pderiv_one, map_zero _]
    simp only [Derivation.leibniz, map_add, smul_eq_mul, hX, hp, mul_zero]
    ring

noncomputable def exD : Fin 3 → Derivation ℚ (MvPolynomial (Fin 3) ℚ) (MvPolynomial (Fin 3) ℚ) :=
  fun i => pderiv i

theorem exD_comm : CommD exD := fun i j f => pderiv_comm i j f

noncomputable def exφ : Fin 1 → MvPolynomial (Fin 3) ℚ := fun _ => X 0
def exγ : Fin 1 → Fin 1 → ℚ := fun _ _ => 1

theorem exγ_symm : SymmG exγ := fun _ _ => rfl

example : ∃ (d : Fin 3 → Derivation ℚ (MvPolynomial (Fin 3) ℚ) (MvPolynomial (Fin 3) ℚ))
    (φ : Fin 1 → MvPolynomial (Fin 3) ℚ) (γ : Fin 1 → Fin 1 → ℚ),
    CommD d ∧ SymmG γ ∧ rho d φ γ ≠ 0 :=
  ⟨exD, exφ, exγ, exD_comm, exγ_symm, by
    simp [rho, Dsym, exφ, exγ]⟩

/-- the theorems apply: the gradient form of the instance evaluates to `∂ₓ(x²) = 2x` -/
example : Form.evalA exD exφ exγ (gradientForm 0) = 2 * X 0 := by
  have := gradient_eq exD_comm exγ_symm (φ := exφ) 0
  simp only [Fin.val_zero] at this
  rw [this]
  simp [rho, Dsym, exD, exφ, exγ, Derivation.leibniz, two_mul]

/-! ### the symmetry hypothesis of `derivDensity_eq_leibniz` cannot be dropped -/

noncomputable def cexφ : Fin 2 → MvPolynomial (Fin 3) ℚ := ![1, X 0]
def cexγ : Fin 2 → Fin 2 → ℚ := fun a b => if a = 0 ∧ b = 1 then 1 else 0

/-- for `ρ = x` (built from a non-symmetric `γ`) the code's shortcut gives `2`, the Leibniz
sum gives `∂ₓρ = 1` -/
theorem derivDensity_ne_leibniz_nonsymm :
    Form.evalA exD cexφ cexγ (derivDensityForm (1, 0, 0)) = 2 ∧
    Form.evalA exD cexφ cexγ (leibnizForm (1, 0, 0)) = 1 ∧
    Form.evalA exD cexφ cexγ (derivDensityForm (1, 0, 0))
      ≠ Form.evalA exD cexφ cexγ (leibnizForm (1, 0, 0)) := by
  have h1 : Form.evalA exD cexφ cexγ (derivDensityForm (1, 0, 0)) = 2 := by
    simp [derivDensityForm, Form.evalA, Dsym, dpow, Comp.sub, GB.choose, Fin.sum_univ_two,
      exD, cexφ, cexγ, List.range_succ, MvPolynomial.smul_eq_C_mul]
    exact map_ofNat C 2
  have h2 : Form.evalA exD cexφ cexγ (leibnizForm (1, 0, 0)) = 1 := by
    simp [leibnizForm, Form.evalA, Dsym, dpow, Comp.sub, GB.choose, Fin.sum_univ_two,
      exD, cexφ, cexγ, List.range_succ]
  refine ⟨h1, h2, ?_⟩
  rw [h1, h2]
  intro h
  have := congrArg (MvPolynomial.eval (fun _ => (0 : ℚ))) h
  rw [map_ofNat, map_one] at this
  norm_num at this

end Instance

end GB

