import GBProofs.GaussFunctional
import Mathlib.Analysis.SpecialFunctions.Gaussian.GaussianIntegral
import Mathlib.MeasureTheory.Integral.IntegralEqImproper
import Mathlib.Analysis.Calculus.Deriv.Polynomial

/-!
# The algebraic Gaussian functional is the Lebesgue integral (over ℝ)

`∫ q(x) e^{-b x²} dx = √(π/b) · G b q` for every real polynomial `q`: the moments on both sides obey
the same integration-by-parts recursion (`integral_derivative_mul_gauss`, `G_derivative`).  The
Gaussian product rule then turns a product of two shifted Gaussians with polynomial prefactors into
that form.
-/
open MeasureTheory Real Polynomial

namespace GB

lemma integrable_pow_mul_gauss {b : ℝ} (hb : 0 < b) (n : ℕ) :
    Integrable fun x : ℝ => x ^ n * exp (-b * x ^ 2) := by
  have h := integrable_rpow_mul_exp_neg_mul_sq hb (s := (n : ℝ))
    (by have : (0:ℝ) ≤ n := Nat.cast_nonneg n; linarith)
  simpa [Real.rpow_natCast] using h

lemma integrable_poly_mul_gauss {b : ℝ} (hb : 0 < b) (q : ℝ[X]) :
    Integrable fun x : ℝ => q.eval x * exp (-b * x ^ 2) := by
  induction q using Polynomial.induction_on' with
  | add p q hp hq =>
    simp only [eval_add, add_mul]
    exact hp.add hq
  | monomial n a => simpa only [eval_monomial, mul_assoc] using (integrable_pow_mul_gauss hb n).const_mul a

theorem gauss_ibp {b : ℝ} (hb : 0 < b) (q : ℝ[X]) :
    ∫ x : ℝ, (q.derivative.eval x - 2 * b * x * q.eval x) * exp (-b * x ^ 2) = 0 := by
  apply integral_eq_zero_of_hasDerivAt_of_integrable (f := fun x => q.eval x * exp (-b * x^2))
  · intro x
    have h2 : HasDerivAt (fun x : ℝ => exp (-b * x ^ 2)) (exp (-b * x^2) * (-b * (2 * x))) x := by
      simpa using ((hasDerivAt_pow 2 x).const_mul (-b)).exp
    exact ((q.hasDerivAt x).mul h2).congr_deriv (by ring)
  · have := integrable_poly_mul_gauss hb (q.derivative - C (2*b) * X * q)
    simpa using this
  · exact integrable_poly_mul_gauss hb q

/-- the integral form of `G_derivative` -/
lemma integral_derivative_mul_gauss {b : ℝ} (hb : 0 < b) (q : ℝ[X]) :
    ∫ x : ℝ, q.derivative.eval x * exp (-b * x ^ 2)
      = 2 * b * ∫ x : ℝ, (X * q).eval x * exp (-b * x ^ 2) := by
  rw [← integral_const_mul, ← sub_eq_zero,
    ← integral_sub (integrable_poly_mul_gauss hb _) ((integrable_poly_mul_gauss hb _).const_mul _),
    ← gauss_ibp hb q]
  congr 1; ext x
  rw [eval_mul, eval_X]; ring

theorem integral_pow_mul_gauss {b : ℝ} (hb : 0 < b) (n : ℕ) :
    ∫ x : ℝ, x ^ n * exp (-b * x ^ 2) = √(π / b) * gmom b n := by
  induction n using Nat.twoStepInduction with
  | zero => simpa [gmom] using integral_gaussian b
  | one =>
    have h := integral_derivative_mul_gauss hb 1
    simp only [derivative_one, eval_zero, zero_mul, integral_zero, mul_one, eval_X] at h
    rw [gmom, mul_zero]
    simpa [hb.ne'] using h.symm
  | more k ih _ =>
    have h := integral_derivative_mul_gauss hb (X ^ (k + 1))
    simp only [derivative_X_pow, Nat.add_sub_cancel, ← pow_succ', eval_mul, eval_C, eval_pow, eval_X,
      mul_assoc, integral_const_mul, ih] at h
    generalize (∫ x : ℝ, x ^ (k + 2) * exp (-b * x ^ 2)) = I at h ⊢
    rw [gmom]
    push_cast at h
    field_simp
    linear_combination -h
theorem integral_poly_mul_gauss {b : ℝ} (hb : 0 < b) (q : ℝ[X]) :
    ∫ x : ℝ, q.eval x * exp (-b * x ^ 2) = √(π / b) * G b q := by
  induction q using Polynomial.induction_on' with
  | add p q hp hq =>
    simp only [eval_add, add_mul, map_add, mul_add]
    rw [integral_add (integrable_poly_mul_gauss hb p) (integrable_poly_mul_gauss hb q), hp, hq]
  | monomial n a =>
    simp only [eval_monomial, G_monomial, mul_assoc]
    rw [integral_const_mul, integral_pow_mul_gauss hb]; ring

/-! ## Gaussian product rule -/

/-- The polynomial is in the variable `x - P` while the Gaussian sits at `B`: with `P` the centre of the
product Gaussian, `gaussPoly_mul` needs no re-expansion of the prefactors. -/
noncomputable def gaussPoly (b B P : ℝ) (q : ℝ[X]) (x : ℝ) : ℝ :=
  q.eval (x - P) * exp (-b * (x - B)^2)

lemma gaussPoly_X_add_C_pow (b B P : ℝ) (j : ℕ) (x : ℝ) :
    gaussPoly b B P ((X + C (P - B))^j) x = (x - B)^j * exp (-b * (x - B)^2) := by
  rw [gaussPoly, eval_pow, eval_add, eval_X, eval_C, sub_add_sub_cancel]

lemma gaussPoly_mul (a b A B : ℝ) (hp : a + b ≠ 0) (u v : ℝ[X]) (x : ℝ) :
    gaussPoly a A ((a * A + b * B) / (a + b)) u x * gaussPoly b B ((a * A + b * B) / (a + b)) v x
      = exp (-(a * b / (a + b) * ((A - B) * (A - B))))
        * ((u * v).eval (x - (a * A + b * B) / (a + b))
            * exp (-(a + b) * (x - (a * A + b * B) / (a + b))^2)) := by
  have e : exp (-a * (x - A)^2) * exp (-b * (x - B)^2)
      = exp (-(a * b / (a + b) * ((A - B) * (A - B))))
        * exp (-(a + b) * (x - (a * A + b * B) / (a + b))^2) := by
    rw [← Real.exp_add, ← Real.exp_add]
    congr 1
    field_simp
    ring
  rw [gaussPoly, gaussPoly, eval_mul, mul_mul_mul_comm, e]
  ring

lemma integrable_gaussPoly_mul (a b A B : ℝ) (ha : 0 < a) (hb : 0 < b) (u v : ℝ[X]) :
    Integrable fun x : ℝ => gaussPoly a A ((a * A + b * B) / (a + b)) u x
        * gaussPoly b B ((a * A + b * B) / (a + b)) v x := by
  have hp : 0 < a + b := add_pos ha hb
  simp_rw [gaussPoly_mul a b A B hp.ne']
  exact ((integrable_poly_mul_gauss hp (u * v)).comp_sub_right _).const_mul _

theorem gauss_product_integral_poly (a b A B : ℝ) (ha : 0 < a) (hb : 0 < b) (u v : ℝ[X]) :
    ∫ x : ℝ, gaussPoly a A ((a * A + b * B) / (a + b)) u x
        * gaussPoly b B ((a * A + b * B) / (a + b)) v x
      = √(π / (a + b)) * exp (-(a * b / (a + b) * ((A - B) * (A - B)))) * G (a + b) (u * v) := by
  have hp : 0 < a + b := add_pos ha hb
  simp_rw [gaussPoly_mul a b A B hp.ne']
  rw [integral_const_mul,
    integral_sub_right_eq_self (fun t => (u * v).eval t * exp (-(a + b) * t^2)),
    integral_poly_mul_gauss hp]
  ring

/-- The one-dimensional factor of every separable integral of the library (overlap, moments, and the
kinetic and momentum integrals built from them).  The right side is `base · S3` with `base`, `PA`, `PB`,
`P` of the model's `pair1D`; `Cc` is a third point (the origin of a moment) and `k` its power. -/
theorem gauss_product_integral (a b A B Cc : ℝ) (ha : 0 < a) (hb : 0 < b) (i j k : ℕ) :
    ∫ x : ℝ, (x - A)^i * (x - B)^j * (x - Cc)^k * (exp (-a * (x - A)^2) * exp (-b * (x - B)^2))
      = √(π / (a + b)) * exp (-(a * b / (a + b) * ((A - B) * (A - B))))
          * S3 (a + b) ((a * A + b * B) / (a + b) - A) ((a * A + b * B) / (a + b) - B)
              ((a * A + b * B) / (a + b) - Cc) i j k := by
  rw [S3, mul_right_comm (_ ^ i), ← gauss_product_integral_poly a b A B ha hb]
  congr 1
  funext x
  rw [gaussPoly_X_add_C_pow, gaussPoly, eval_mul, eval_pow, eval_pow, eval_add, eval_add, eval_X, eval_C, eval_C,
    sub_add_sub_cancel, sub_add_sub_cancel]
  ring

end GB
