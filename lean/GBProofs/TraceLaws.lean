import GBProofs.Definiteness
import GBProofs.EspLaws
import GBProofs.RigidMotion
import GBProofs.SmoothInstance
import Mathlib.Analysis.InnerProductSpace.Dual
import Mathlib.Analysis.InnerProductSpace.Calculus

/-!
# Trace laws `Σ_ab γ_ab M_ab = ∫ (operator density)` for an arbitrary matrix `γ` (C16, C14); the kinetic
block under rigid motions (C12)

`ι` is a finite index type (all (shell, contraction, component) triples of a basis), `γ : ι → ι → ℝ`
an arbitrary real matrix (no symmetry, no definiteness), `ρ(r) = Σ_ab γ_ab φ_a(r) φ_b(r)`.
§1–4: overlap, kinetic energy, point charge (with the electrostatic potential `espValue` of the
model), multipole moments.  §5: the kinetic block is `½ ∫_{E3} ∇φ_a·∇φ_b` with Fréchet differentials,
and transforms under every rigid motion with the representation matrices of the two shells.
-/
open MeasureTheory Real

namespace GB

/-! ## 1. The density integrates to `tr(γ S)` -/
section Overlap
variable {ι : Type*} [Fintype ι]

noncomputable def density (γ : ι → ι → ℝ) (s : ι → Shell ℝ) (m c : ι → ℕ) (r : ℝ × ℝ × ℝ) : ℝ :=
  ∑ a, ∑ b, γ a b * shellFn (s a) (m a) (c a) r * shellFn (s b) (m b) (c b) r

theorem integrable_density (γ : ι → ι → ℝ) (s : ι → Shell ℝ) (m c : ι → ℕ)
    (hs : ∀ i, ∀ k < (s i).nprim, 0 < (s i).exp! k) :
    Integrable (density γ s m c) := by
  have h := integrable_sum_sum_mul (μ := volume) Finset.univ Finset.univ γ
    (fun a b r => shellFn (s a) (m a) (c a) r * shellFn (s b) (m b) (c b) r)
    (fun a _ b _ => integrable_shellFn_mul _ _ _ _ _ _ (hs a) (hs b))
  refine h.congr (Filter.Eventually.of_forall fun r => ?_)
  simp only [density, mul_assoc]

theorem density_integral_eq_trace (γ : ι → ι → ℝ) (s : ι → Shell ℝ) (m c : ι → ℕ)
    (hs : ∀ i, ∀ k < (s i).nprim, 0 < (s i).exp! k) :
    ∫ r : ℝ × ℝ × ℝ, (∑ a, ∑ b, γ a b * shellFn (s a) (m a) (c a) r * shellFn (s b) (m b) (c b) r)
      = ∑ a, ∑ b, γ a b * overlapMat s m c a b := by
  unfold overlapMat
  simp_rw [fun a b => overlapBlock_eq_integral (s a) (s b) (m a) (c a) (m b) (c b) (hs a) (hs b)]
  rw [← integral_sum_sum_mul Finset.univ Finset.univ γ
    (fun a b r => shellFn (s a) (m a) (c a) r * shellFn (s b) (m b) (c b) r)
    (fun a _ b _ => integrable_shellFn_mul _ _ _ _ _ _ (hs a) (hs b))]
  simp only [mul_assoc]

theorem integral_density (γ : ι → ι → ℝ) (s : ι → Shell ℝ) (m c : ι → ℕ)
    (hs : ∀ i, ∀ k < (s i).nprim, 0 < (s i).exp! k) :
    ∫ r, density γ s m c r = ∑ a, ∑ b, γ a b * overlapMat s m c a b :=
  density_integral_eq_trace γ s m c hs

end Overlap

/-! ## 2. The positive-definite kinetic-energy density integrates to `tr(γ T)` -/

section Kinetic
variable {ι : Type*} [Fintype ι]

noncomputable def gradDot (s t : Shell ℝ) (ma ca mb cb : ℕ) (r : ℝ × ℝ × ℝ) : ℝ :=
  ∑ k : Fin 3, shellDerivFn s ma ca (Comp.e k) r * shellDerivFn t mb cb (Comp.e k) r

lemma gradDot_eq (s t : Shell ℝ) (ma ca mb cb : ℕ) (r : ℝ × ℝ × ℝ) :
    gradDot s t ma ca mb cb r
      = shellDerivFn s ma ca (1,0,0) r * shellDerivFn t mb cb (1,0,0) r
        + shellDerivFn s ma ca (0,1,0) r * shellDerivFn t mb cb (0,1,0) r
        + shellDerivFn s ma ca (0,0,1) r * shellDerivFn t mb cb (0,0,1) r :=
  Fin.sum_univ_three _

lemma integrable_gradDot (s t : Shell ℝ) (ma ca mb cb : ℕ)
    (hs : ∀ k < s.nprim, 0 < s.exp! k) (ht : ∀ k < t.nprim, 0 < t.exp! k) :
    Integrable (gradDot s t ma ca mb cb) :=
  integrable_finsetSum _ fun _ _ => integrable_shellDeriv_mul s t _ _ ma ca mb cb hs ht

theorem kineticBlock_eq_gradDot (s t : Shell ℝ) (ma ca mb cb : ℕ)
    (hs : ∀ k < s.nprim, 0 < s.exp! k) (ht : ∀ k < t.nprim, 0 < t.exp! k)
    (hc : (s.comp! ca).1 ≤ s.l ∧ (s.comp! ca).2.1 ≤ s.l ∧ (s.comp! ca).2.2 ≤ s.l) :
    (kineticBlock s t).get4 ma ca mb cb = 1 / 2 * ∫ r, gradDot s t ma ca mb cb r := by
  unfold gradDot
  rw [kineticBlock_eq_gradient s t ma ca mb cb hs ht hc,
    integral_finsetSum _ fun _ _ => integrable_shellDeriv_mul s t _ _ ma ca mb cb hs ht,
    Fin.sum_univ_three]
  rfl

theorem posdef_kinetic_density_integral_eq_trace (γ : ι → ι → ℝ) (s : ι → Shell ℝ) (m c : ι → ℕ)
    (hs : ∀ i, ∀ k < (s i).nprim, 0 < (s i).exp! k)
    (hc : ∀ i, ((s i).comp! (c i)).1 ≤ (s i).l ∧ ((s i).comp! (c i)).2.1 ≤ (s i).l
      ∧ ((s i).comp! (c i)).2.2 ≤ (s i).l) :
    ∫ r : ℝ × ℝ × ℝ, 1 / 2 * ∑ a, ∑ b, γ a b *
        (shellDerivFn (s a) (m a) (c a) (1,0,0) r * shellDerivFn (s b) (m b) (c b) (1,0,0) r
          + shellDerivFn (s a) (m a) (c a) (0,1,0) r * shellDerivFn (s b) (m b) (c b) (0,1,0) r
          + shellDerivFn (s a) (m a) (c a) (0,0,1) r * shellDerivFn (s b) (m b) (c b) (0,0,1) r)
      = ∑ a, ∑ b, γ a b * kineticMat s m c a b := by
  unfold kineticMat
  simp_rw [fun a b => kineticBlock_eq_gradDot (s a) (s b) (m a) (c a) (m b) (c b) (hs a) (hs b)
    (hc a), ← gradDot_eq]
  rw [integral_const_mul, integral_sum_sum_mul Finset.univ Finset.univ γ
    (fun a b => gradDot (s a) (s b) (m a) (c a) (m b) (c b))
    (fun a _ b _ => integrable_gradDot _ _ _ _ _ _ (hs a) (hs b)), mul_sum_sum]

theorem posdef_kinetic_trace_axes (γ : ι → ι → ℝ) (s : ι → Shell ℝ) (m c : ι → ℕ)
    (hs : ∀ i, ∀ k < (s i).nprim, 0 < (s i).exp! k)
    (hc : ∀ i, ((s i).comp! (c i)).1 ≤ (s i).l ∧ ((s i).comp! (c i)).2.1 ≤ (s i).l
      ∧ ((s i).comp! (c i)).2.2 ≤ (s i).l) :
    ∑ a, ∑ b, γ a b * kineticMat s m c a b
      = 1 / 2 * ((∫ r : ℝ × ℝ × ℝ, ∑ a, ∑ b, γ a b *
            (shellDerivFn (s a) (m a) (c a) (1,0,0) r * shellDerivFn (s b) (m b) (c b) (1,0,0) r))
          + (∫ r : ℝ × ℝ × ℝ, ∑ a, ∑ b, γ a b *
            (shellDerivFn (s a) (m a) (c a) (0,1,0) r * shellDerivFn (s b) (m b) (c b) (0,1,0) r))
          + (∫ r : ℝ × ℝ × ℝ, ∑ a, ∑ b, γ a b *
            (shellDerivFn (s a) (m a) (c a) (0,0,1) r * shellDerivFn (s b) (m b) (c b) (0,0,1) r))) := by
  have key := fun o : Comp => integral_sum_sum_mul (μ := volume) Finset.univ Finset.univ γ
    (fun a b r => shellDerivFn (s a) (m a) (c a) o r * shellDerivFn (s b) (m b) (c b) o r)
    (fun a _ b _ => integrable_shellDeriv_mul _ _ _ _ _ _ _ _ (hs a) (hs b))
  rw [key, key, key, ← Finset.sum_add_distrib, ← Finset.sum_add_distrib, Finset.mul_sum]
  refine Finset.sum_congr rfl fun a _ => ?_
  rw [← Finset.sum_add_distrib, ← Finset.sum_add_distrib, Finset.mul_sum]
  refine Finset.sum_congr rfl fun b _ => ?_
  unfold kineticMat
  rw [kineticBlock_eq_gradient (s a) (s b) (m a) (c a) (m b) (c b) (hs a) (hs b) (hc a)]
  ring

end Kinetic

/-! ## 3. The electronic potential of the density -/
section PointCharge
variable {ι : Type*} [Fintype ι]

noncomputable def densityE (γ : ι → ι → ℝ) (s : ι → Shell ℝ) (m c : ι → ℕ) (r : E3) : ℝ :=
  ∑ a, ∑ b, γ a b * shellFnE (s a) (m a) (c a) r * shellFnE (s b) (m b) (c b) r

lemma densityE_div (γ : ι → ι → ℝ) (s : ι → Shell ℝ) (m c : ι → ℕ) (Cc : E3) (r : E3) :
    (∑ a, ∑ b, γ a b * shellFnE (s a) (m a) (c a) r * shellFnE (s b) (m b) (c b) r) / ‖r - Cc‖
      = ∑ a, ∑ b, γ a b
          * (shellFnE (s a) (m a) (c a) r * shellFnE (s b) (m b) (c b) r / ‖r - Cc‖) := by
  rw [Finset.sum_div]
  refine Finset.sum_congr rfl fun a _ => ?_
  rw [Finset.sum_div]
  refine Finset.sum_congr rfl fun b _ => ?_
  ring

theorem integrable_densityE_div (γ : ι → ι → ℝ) (s : ι → Shell ℝ) (m c : ι → ℕ) (Cc : E3)
    (hs : ∀ i, ∀ k, k < (s i).nprim → 0 < (s i).exp! k) :
    Integrable fun r : E3 => densityE γ s m c r / ‖r - Cc‖ := by
  unfold densityE
  simp_rw [densityE_div]
  exact integrable_sum_sum_mul Finset.univ Finset.univ γ (fun a b r => shellFnE (s a) (m a) (c a) r
      * shellFnE (s b) (m b) (c b) r / ‖r - Cc‖)
    (fun a _ b _ => integrable_shellFnE_mul_div _ _ _ _ _ _ _ (hs a) (hs b))

theorem electronic_potential_eq_integral (boysT : ℝ → ℕ → Tab ℝ)
    (hboys : ∀ T n m, m < n → (boysT T n).get m = boys T m) (Cpt : ℕ → ℝ) (q : ℝ)
    (γ : ι → ι → ℝ) (s : ι → Shell ℝ) (m c : ι → ℕ)
    (hs : ∀ i, ∀ k, k < (s i).nprim → 0 < (s i).exp! k)
    (hc : ∀ i, ((s i).comp! (c i)).1 + ((s i).comp! (c i)).2.1 + ((s i).comp! (c i)).2.2 ≤ (s i).l) :
    ∑ a, ∑ b, γ a b * pointChargeMat boysT Cpt q s m c a b
      = -q * ∫ r : E3,
          (∑ a, ∑ b, γ a b * shellFnE (s a) (m a) (c a) r * shellFnE (s b) (m b) (c b) r)
            / ‖r - toE3 Cpt‖ := by
  unfold pointChargeMat
  simp_rw [fun a b => pointChargeBlock_eq_integral boysT hboys (s a) (s b) Cpt q (m a) (c a)
    (m b) (c b) (hs a) (hs b) (hc a) (hc b), densityE_div]
  rw [integral_sum_sum_mul Finset.univ Finset.univ γ (fun a b r => shellFnE (s a) (m a) (c a) r
      * shellFnE (s b) (m b) (c b) r / ‖r - toE3 Cpt‖)
    (fun a _ b _ => integrable_shellFnE_mul_div _ _ _ _ _ _ _ (hs a) (hs b)), mul_sum_sum]

/-! ### The electrostatic potential of the model -/

/-- The Hartree term at the point `R`, with the sign that makes it `+∫ ρ/|r-R|`: `-Σ γ_ab V_ab` for
`q = 1`.  The code reads it with `q = -1` (`espHartree_eq_neg_one`). -/
noncomputable def espHartree (boysT : ℝ → ℕ → Tab ℝ) (R : ℕ → ℝ) (γ : ι → ι → ℝ)
    (s : ι → Shell ℝ) (m c : ι → ℕ) : ℝ :=
  -∑ a, ∑ b, γ a b * pointChargeMat boysT R 1 s m c a b

noncomputable def espValue (boysT : ℝ → ℕ → Tab ℝ) (R : ℕ → ℝ) (Zs ds : List ℚ) (t : ℚ)
    (γ : ι → ι → ℝ) (s : ι → Shell ℝ) (m c : ι → ℕ) : ℝ :=
  ((espNuclear Zs ds t : ℚ) : ℝ) - espHartree boysT R γ s m c

theorem espHartree_eq_integral (boysT : ℝ → ℕ → Tab ℝ)
    (hboys : ∀ T n m, m < n → (boysT T n).get m = boys T m) (R : ℕ → ℝ)
    (γ : ι → ι → ℝ) (s : ι → Shell ℝ) (m c : ι → ℕ)
    (hs : ∀ i, ∀ k, k < (s i).nprim → 0 < (s i).exp! k)
    (hc : ∀ i, ((s i).comp! (c i)).1 + ((s i).comp! (c i)).2.1 + ((s i).comp! (c i)).2.2 ≤ (s i).l) :
    espHartree boysT R γ s m c = ∫ r : E3, densityE γ s m c r / ‖r - toE3 R‖ := by
  unfold espHartree densityE
  rw [electronic_potential_eq_integral boysT hboys R 1 γ s m c hs hc]
  ring

/-- The reading of the code: point-charge integrals with the charges `-1`, contracted with `γ`. -/
theorem espHartree_eq_neg_one (boysT : ℝ → ℕ → Tab ℝ)
    (hboys : ∀ T n m, m < n → (boysT T n).get m = boys T m) (R : ℕ → ℝ)
    (γ : ι → ι → ℝ) (s : ι → Shell ℝ) (m c : ι → ℕ)
    (hs : ∀ i, ∀ k, k < (s i).nprim → 0 < (s i).exp! k)
    (hc : ∀ i, ((s i).comp! (c i)).1 + ((s i).comp! (c i)).2.1 + ((s i).comp! (c i)).2.2 ≤ (s i).l) :
    espHartree boysT R γ s m c = ∑ a, ∑ b, γ a b * pointChargeMat boysT R (-1) s m c a b := by
  unfold espHartree
  rw [electronic_potential_eq_integral boysT hboys R 1 γ s m c hs hc,
    electronic_potential_eq_integral boysT hboys R (-1) γ s m c hs hc]
  ring

omit [Fintype ι] in
theorem espNuclear_cast (Zs ds : List ℚ) (t : ℚ) (ht : 0 ≤ t) (hds : ∀ d ∈ ds, 0 ≤ d) :
    ((espNuclear Zs ds t : ℚ) : ℝ)
      = ((Zs.zip ds).map fun p : ℚ × ℚ =>
          if (p.2 : ℝ) < (t : ℝ) then (0 : ℝ) else (p.1 : ℝ) / (p.2 : ℝ)).sum := by
  unfold espNuclear
  rw [Rat.cast_list_sum, List.map_map]
  refine congrArg List.sum (List.map_congr_left fun ⟨Z, d⟩ hp => ?_)
  have h := espMasked_iff d t (hds d (List.of_mem_zip hp).2) ht
  rw [Function.comp_apply, apply_ite ((↑) : ℚ → ℝ), Rat.cast_zero, Rat.cast_div]
  exact if_congr (h.trans Rat.cast_lt.symm) rfl rfl

/-- C14: what `electrostatic_potential` computes at the point `R`, for an arbitrary density
matrix `γ`. -/
theorem espValue_eq (boysT : ℝ → ℕ → Tab ℝ)
    (hboys : ∀ T n m, m < n → (boysT T n).get m = boys T m) (R : ℕ → ℝ)
    (Zs ds : List ℚ) (t : ℚ) (ht : 0 ≤ t) (hds : ∀ d ∈ ds, 0 ≤ d)
    (γ : ι → ι → ℝ) (s : ι → Shell ℝ) (m c : ι → ℕ)
    (hs : ∀ i, ∀ k, k < (s i).nprim → 0 < (s i).exp! k)
    (hc : ∀ i, ((s i).comp! (c i)).1 + ((s i).comp! (c i)).2.1 + ((s i).comp! (c i)).2.2 ≤ (s i).l) :
    espValue boysT R Zs ds t γ s m c
      = ((Zs.zip ds).map fun p : ℚ × ℚ =>
            if (p.2 : ℝ) < (t : ℝ) then (0 : ℝ) else (p.1 : ℝ) / (p.2 : ℝ)).sum
        - ∫ r : E3,
            (∑ a, ∑ b, γ a b * shellFnE (s a) (m a) (c a) r * shellFnE (s b) (m b) (c b) r)
              / ‖r - toE3 R‖ := by
  unfold espValue
  rw [espNuclear_cast Zs ds t ht hds, espHartree_eq_integral boysT hboys R γ s m c hs hc]
  rfl

theorem espValue_eq_filter (boysT : ℝ → ℕ → Tab ℝ)
    (hboys : ∀ T n m, m < n → (boysT T n).get m = boys T m) (R : ℕ → ℝ)
    (Zs ds : List ℚ) (t : ℚ) (ht : 0 ≤ t) (hds : ∀ d ∈ ds, 0 ≤ d)
    (γ : ι → ι → ℝ) (s : ι → Shell ℝ) (m c : ι → ℕ)
    (hs : ∀ i, ∀ k, k < (s i).nprim → 0 < (s i).exp! k)
    (hc : ∀ i, ((s i).comp! (c i)).1 + ((s i).comp! (c i)).2.1 + ((s i).comp! (c i)).2.2 ≤ (s i).l) :
    espValue boysT R Zs ds t γ s m c
      = (((((Zs.zip ds).filter fun p => decide (¬ p.2 < t)).map fun p => p.1 / p.2).sum : ℚ) : ℝ)
        - ∫ r : E3, densityE γ s m c r / ‖r - toE3 R‖ := by
  unfold espValue
  rw [espNuclear_spec Zs ds t ht hds, espHartree_eq_integral boysT hboys R γ s m c hs hc]

theorem espValue_no_nuclei (boysT : ℝ → ℕ → Tab ℝ)
    (hboys : ∀ T n m, m < n → (boysT T n).get m = boys T m) (R : ℕ → ℝ) (t : ℚ)
    (γ : ι → ι → ℝ) (s : ι → Shell ℝ) (m c : ι → ℕ)
    (hs : ∀ i, ∀ k, k < (s i).nprim → 0 < (s i).exp! k)
    (hc : ∀ i, ((s i).comp! (c i)).1 + ((s i).comp! (c i)).2.1 + ((s i).comp! (c i)).2.2 ≤ (s i).l) :
    espValue boysT R [] [] t γ s m c = -∫ r : E3, densityE γ s m c r / ‖r - toE3 R‖ := by
  unfold espValue
  rw [espHartree_eq_integral boysT hboys R γ s m c hs hc]
  simp [espNuclear]

end PointCharge

/-! ## 4. Multipole moments of the density -/
section Moment
variable {ι : Type*} [Fintype ι]

noncomputable def momentMat (O : ℕ → ℝ) (orders : List Comp) (d : ℕ)
    (s : ι → Shell ℝ) (m c : ι → ℕ) (i j : ι) : ℝ :=
  ((momentBlock (s i) (s j) O orders).get d).get4 (m i) (c i) (m j) (c j)

theorem moment_integral_eq_trace (O : ℕ → ℝ) (orders : List Comp) (d : ℕ)
    (γ : ι → ι → ℝ) (s : ι → Shell ℝ) (m c : ι → ℕ)
    (hs : ∀ i, ∀ k < (s i).nprim, 0 < (s i).exp! k) :
    ∑ a, ∑ b, γ a b * momentMat O orders d s m c a b
      = ∫ r : ℝ × ℝ × ℝ,
          (∑ a, ∑ b, γ a b * shellFn (s a) (m a) (c a) r * shellFn (s b) (m b) (c b) r)
            * ((r.1 - O 0)^(orders.getD d (0,0,0)).1 * (r.2.1 - O 1)^(orders.getD d (0,0,0)).2.1
                * (r.2.2 - O 2)^(orders.getD d (0,0,0)).2.2) := by
  unfold momentMat
  simp_rw [fun a b => momentBlock_eq_integral_mono (s a) (s b) O orders d (m a) (c a) (m b) (c b)
    (hs a) (hs b)]
  rw [← integral_sum_sum_mul Finset.univ Finset.univ γ
    (fun a b r => shellFn (s a) (m a) (c a) r * shellFn (s b) (m b) (c b) r
      * monoFn O (orders.getD d (0,0,0)) r)
    (fun a _ b _ => integrable_shell_mul _ _ _ _ _ _ _ _ (hs a) (hs b))]
  refine integral_congr_ae (Filter.Eventually.of_forall fun r => ?_)
  simp only [monoFn]
  rw [Finset.sum_mul]
  refine Finset.sum_congr rfl fun a _ => ?_
  rw [Finset.sum_mul]
  refine Finset.sum_congr rfl fun b _ => ?_
  ring

theorem dipole_integral_eq_trace (O : ℕ → ℝ) (γ : ι → ι → ℝ) (s : ι → Shell ℝ) (m c : ι → ℕ)
    (hs : ∀ i, ∀ k < (s i).nprim, 0 < (s i).exp! k) :
    (∑ a, ∑ b, γ a b * momentMat O [(1,0,0), (0,1,0), (0,0,1)] 0 s m c a b
        = ∫ r : ℝ × ℝ × ℝ, density γ s m c r * (r.1 - O 0))
    ∧ (∑ a, ∑ b, γ a b * momentMat O [(1,0,0), (0,1,0), (0,0,1)] 1 s m c a b
        = ∫ r : ℝ × ℝ × ℝ, density γ s m c r * (r.2.1 - O 1))
    ∧ (∑ a, ∑ b, γ a b * momentMat O [(1,0,0), (0,1,0), (0,0,1)] 2 s m c a b
        = ∫ r : ℝ × ℝ × ℝ, density γ s m c r * (r.2.2 - O 2)) := by
  refine ⟨?_, ?_, ?_⟩
  · rw [moment_integral_eq_trace O _ 0 γ s m c hs]
    simp only [density, List.getD_cons_zero, pow_zero, pow_one, mul_one]
  · rw [moment_integral_eq_trace O _ 1 γ s m c hs]
    simp only [density, List.getD_cons_succ, List.getD_cons_zero, pow_zero, pow_one, mul_one,
      one_mul]
  · rw [moment_integral_eq_trace O _ 2 γ s m c hs]
    simp only [density, List.getD_cons_succ, List.getD_cons_zero, pow_zero, pow_one, mul_one,
      one_mul]

end Moment

/-! ## 5. The kinetic-energy block under rigid motions -/
section KineticRigid
open Finset InnerProductSpace

lemma differentiable_shellFnE (s : Shell ℝ) (m c : ℕ) : Differentiable ℝ (shellFnE s m c) :=
  smooth_diff (contDiff_shellFnE s m c)

lemma fderiv_shellFnE_ax (s : Shell ℝ) (m c : ℕ) (k : Fin 3) (r : E3) :
    fderiv ℝ (shellFnE s m c) r (ei k) = shellDerivFn s m c (Comp.e k) (e3Equiv r) :=
  pd_shellSmooth_apply s m c k r

noncomputable def covDot (L₁ L₂ : E3 →L[ℝ] ℝ) : ℝ := ∑ k : Fin 3, L₁ (ei k) * L₂ (ei k)

/-- Parseval. -/
lemma sum_mul_orthonormalBasis {V κ : Type*} [NormedAddCommGroup V] [InnerProductSpace ℝ V]
    [CompleteSpace V] [Fintype κ] (b b' : OrthonormalBasis κ ℝ V) (L₁ L₂ : V →L[ℝ] ℝ) :
    ∑ k, L₁ (b k) * L₂ (b k) = ∑ k, L₁ (b' k) * L₂ (b' k) := by
  obtain ⟨x, rfl⟩ := (toDual ℝ V).surjective L₁
  obtain ⟨y, rfl⟩ := (toDual ℝ V).surjective L₂
  simp only [toDual_apply_apply, real_inner_comm _ y]
  rw [b.sum_inner_mul_inner, b'.sum_inner_mul_inner]

/-- By `sum_mul_orthonormalBasis`: `R` maps the standard basis to an orthonormal basis. -/
lemma covDot_comp (R : E3 ≃ₗᵢ[ℝ] E3) (L₁ L₂ : E3 →L[ℝ] ℝ) :
    covDot (L₁.comp (R : E3 →L[ℝ] E3)) (L₂.comp (R : E3 →L[ℝ] E3)) = covDot L₁ L₂ := by
  have h := sum_mul_orthonormalBasis ((EuclideanSpace.basisFun (Fin 3) ℝ).map R)
    (EuclideanSpace.basisFun (Fin 3) ℝ) L₁ L₂
  simp only [OrthonormalBasis.map_apply, EuclideanSpace.basisFun_apply] at h
  exact h

lemma covDot_sum_sum {ι₁ ι₂ : Type*} (S₁ : Finset ι₁) (S₂ : Finset ι₂) (D₁ : ι₁ → ℝ) (D₂ : ι₂ → ℝ)
    (L₁ : ι₁ → E3 →L[ℝ] ℝ) (L₂ : ι₂ → E3 →L[ℝ] ℝ) :
    covDot (∑ j ∈ S₁, D₁ j • L₁ j) (∑ l ∈ S₂, D₂ l • L₂ l)
      = ∑ j ∈ S₁, ∑ l ∈ S₂, D₁ j * D₂ l * covDot (L₁ j) (L₂ l) := by
  unfold covDot
  simp only [_root_.sum_apply, _root_.smul_apply, smul_eq_mul,
    Fin.sum_univ_three]
  simp only [Finset.sum_mul_sum, ← Finset.sum_add_distrib]
  refine Finset.sum_congr rfl fun j _ => Finset.sum_congr rfl fun l _ => ?_
  ring

lemma affineIso_hasFDerivAt (g : E3 ≃ᵃⁱ[ℝ] E3) (r : E3) :
    HasFDerivAt (g : E3 → E3) ((g.linearIsometryEquiv : E3 ≃ₗᵢ[ℝ] E3) : E3 →L[ℝ] E3) r := by
  rw [funext (affineIso_apply g)]
  exact ((g.linearIsometryEquiv : E3 →L[ℝ] E3).hasFDerivAt).add_const (g 0)

lemma fderiv_comp_moved {κ : Type*} (g : E3 ≃ᵃⁱ[ℝ] E3) (S : Finset κ) (ψ : E3 → ℝ)
    (φ : κ → E3 → ℝ) (D : κ → ℝ) (h : ∀ r, ψ (g r) = ∑ j ∈ S, D j * φ j r)
    (hψ : Differentiable ℝ ψ) (hφ : ∀ j, Differentiable ℝ (φ j)) (r : E3) :
    (fderiv ℝ ψ (g r)).comp ((g.linearIsometryEquiv : E3 ≃ₗᵢ[ℝ] E3) : E3 →L[ℝ] E3)
      = ∑ j ∈ S, D j • fderiv ℝ (φ j) r := by
  have hc : HasFDerivAt (fun r => ψ (g r)) _ r :=
    (hψ (g r)).hasFDerivAt.comp r (affineIso_hasFDerivAt g r)
  rw [funext h] at hc
  exact hc.unique (HasFDerivAt.fun_sum fun j _ => ((hφ j r).hasFDerivAt).const_mul (D j))

theorem covDot_fderiv_moved {ι₁ ι₂ : Type*} (g : E3 ≃ᵃⁱ[ℝ] E3) (S₁ : Finset ι₁) (S₂ : Finset ι₂)
    (ψ₁ ψ₂ : E3 → ℝ) (φ₁ : ι₁ → E3 → ℝ) (φ₂ : ι₂ → E3 → ℝ) (D₁ : ι₁ → ℝ) (D₂ : ι₂ → ℝ)
    (h₁ : ∀ r, ψ₁ (g r) = ∑ j ∈ S₁, D₁ j * φ₁ j r) (h₂ : ∀ r, ψ₂ (g r) = ∑ l ∈ S₂, D₂ l * φ₂ l r)
    (hψ₁ : Differentiable ℝ ψ₁) (hψ₂ : Differentiable ℝ ψ₂)
    (hφ₁ : ∀ j, Differentiable ℝ (φ₁ j)) (hφ₂ : ∀ l, Differentiable ℝ (φ₂ l)) (r : E3) :
    covDot (fderiv ℝ ψ₁ (g r)) (fderiv ℝ ψ₂ (g r))
      = ∑ j ∈ S₁, ∑ l ∈ S₂, D₁ j * D₂ l * covDot (fderiv ℝ (φ₁ j) r) (fderiv ℝ (φ₂ l) r) := by
  rw [← covDot_comp g.linearIsometryEquiv, fderiv_comp_moved g S₁ ψ₁ φ₁ D₁ h₁ hψ₁ hφ₁ r, fderiv_comp_moved g S₂ ψ₂ φ₂ D₂ h₂ hψ₂ hφ₂ r,
    covDot_sum_sum]

lemma covDot_shellFnE (s t : Shell ℝ) (ma ca mb cb : ℕ) (r : E3) :
    covDot (fderiv ℝ (shellFnE s ma ca) r) (fderiv ℝ (shellFnE t mb cb) r)
      = gradDot s t ma ca mb cb (e3Equiv r) :=
  Finset.sum_congr rfl fun k _ => by rw [fderiv_shellFnE_ax, fderiv_shellFnE_ax]

lemma integrable_covDot_shellFnE (s t : Shell ℝ) (ma ca mb cb : ℕ)
    (hs : ∀ k < s.nprim, 0 < s.exp! k) (ht : ∀ k < t.nprim, 0 < t.exp! k) :
    Integrable fun r : E3 =>
      covDot (fderiv ℝ (shellFnE s ma ca) r) (fderiv ℝ (shellFnE t mb cb) r) :=
  integrable_e3 (fun r => (covDot_shellFnE s t ma ca mb cb r).symm)
    (integrable_gradDot s t ma ca mb cb hs ht)

theorem kineticBlock_eq_integral_E3 (s t : Shell ℝ) (ma ca mb cb : ℕ)
    (hs : ∀ k < s.nprim, 0 < s.exp! k) (ht : ∀ k < t.nprim, 0 < t.exp! k)
    (hc : (s.comp! ca).1 ≤ s.l ∧ (s.comp! ca).2.1 ≤ s.l ∧ (s.comp! ca).2.2 ≤ s.l) :
    (kineticBlock s t).get4 ma ca mb cb
      = 1 / 2 * ∫ r : E3,
          covDot (fderiv ℝ (shellFnE s ma ca) r) (fderiv ℝ (shellFnE t mb cb) r) := by
  rw [kineticBlock_eq_gradDot s t ma ca mb cb hs ht hc]
  exact congrArg _ (integral_e3 fun r => (covDot_shellFnE s t ma ca mb cb r).symm)

/-- C12 for the kinetic block: moving both shells by the same affine isometry `g` (translation, proper
or improper rotation) transforms the block by the representation matrices of the two shells. -/
theorem kineticBlock_moved (g : E3 ≃ᵃⁱ[ℝ] E3) (s t : Shell ℝ) (ma ca mb cb : ℕ)
    (hs : ∀ k, k < s.nprim → 0 < s.exp! k) (ht : ∀ k, k < t.nprim → 0 < t.exp! k)
    (hfs : FullCart s.l s.cart) (hft : FullCart t.l t.cart)
    (hca : ca < s.ncart) (hcb : cb < t.ncart) :
    (kineticBlock (s.moved g) (t.moved g)).get4 ma ca mb cb
      = ∑ ca' ∈ range s.ncart, ∑ cb' ∈ range t.ncart,
          repMat (linPart g) s.cart ca ca' * repMat (linPart g) t.cart cb cb'
            * (kineticBlock s t).get4 ma ca' mb cb' := by
  rw [kineticBlock_eq_integral_E3 (s.moved g) (t.moved g) ma ca mb cb hs ht (hfs.each_le hca),
    lift_pair g (range s.ncart) (range t.ncart) _
      (fun a b r => covDot (fderiv ℝ (shellFnE s ma a) r) (fderiv ℝ (shellFnE t mb b) r))
      (fun a b => repMat (linPart g) s.cart ca a * repMat (linPart g) t.cart cb b)
      (covDot_fderiv_moved g _ _ _ _ (fun a => shellFnE s ma a) (fun b => shellFnE t mb b) _ _
        (shellFnE_moved g s hfs ma ca hca) (shellFnE_moved g t hft mb cb hcb)
        (differentiable_shellFnE _ _ _) (differentiable_shellFnE _ _ _)
        (fun _ => differentiable_shellFnE _ _ _) (fun _ => differentiable_shellFnE _ _ _))
      (fun a _ b _ => integrable_covDot_shellFnE s t ma a mb b hs ht),
    mul_sum_sum]
  refine Finset.sum_congr rfl fun a ha => Finset.sum_congr rfl fun b _ => ?_
  rw [kineticBlock_eq_integral_E3 s t ma a mb b hs ht (hfs.each_le (Finset.mem_range.mp ha))]

theorem kineticBlock_translate_E3 (v : E3) (s t : Shell ℝ) (ma ca mb cb : ℕ)
    (hs : ∀ k, k < s.nprim → 0 < s.exp! k) (ht : ∀ k, k < t.nprim → 0 < t.exp! k)
    (hc : (s.comp! ca).1 ≤ s.l ∧ (s.comp! ca).2.1 ≤ s.l ∧ (s.comp! ca).2.2 ≤ s.l) :
    (kineticBlock (s.moved (translation v)) (t.moved (translation v))).get4 ma ca mb cb
      = (kineticBlock s t).get4 ma ca mb cb := by
  rw [moved_translation_eq_translate, moved_translation_eq_translate]
  exact kineticBlock_translate_real s t (vecOf v) ma ca mb cb hs ht

end KineticRigid

end GB

