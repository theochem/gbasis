import GBProofs.Harmonics.Defs
import Mathlib.Algebra.MvPolynomial.PDeriv
import Mathlib.Algebra.MvPolynomial.CommRing
import Mathlib.RingTheory.MvPolynomial.Homogeneous
import Mathlib.Tactic.Ring
import Mathlib.Tactic.LinearCombination
/-!
# The list polynomials as genuine polynomials

`toMv : Poly3 → MvPolynomial (Fin 3) ℚ`, compatibility of the list operations
(`addTerm`, `Poly3.sum`, `mulRaw`, `sort`, `canon`) with it, soundness of the list Laplacian,
`toMv (laplacian p) = Σ_i ∂_i ∂_i (toMv p)`, and the coefficient function of a `Poly3.sum`: its monomials are distinct
(`sum_keys_nodup`), the canonical form depends on the coefficients only (`canon_congr`), so polynomial identities can be
tested by cancellation (`canon_eq_of_cancels`, `toMv_eq_of_cancels`).
-/
namespace GB
open MvPolynomial

noncomputable def monoMv (c : Comp) (k : ℚ) : MvPolynomial (Fin 3) ℚ :=
  C k * X 0 ^ c.1 * X 1 ^ c.2.1 * X 2 ^ c.2.2

noncomputable def toMv (p : Poly3) : MvPolynomial (Fin 3) ℚ := (p.map fun t => monoMv t.1 t.2).sum

@[simp] theorem toMv_nil : toMv [] = 0 := rfl
@[simp] theorem toMv_cons (t : Comp × ℚ) (p : Poly3) : toMv (t :: p) = monoMv t.1 t.2 + toMv p := by
  simp [toMv]
@[simp] theorem toMv_append (p q : Poly3) : toMv (p ++ q) = toMv p + toMv q := by
  simp [toMv]
theorem monoMv_add (m : Comp) (a b : ℚ) : monoMv m (a + b) = monoMv m a + monoMv m b := by
  simp only [monoMv, C_add]; ring
@[simp] theorem monoMv_zero (m : Comp) : monoMv m 0 = 0 := by simp [monoMv]

theorem toMv_addTerm (p : Poly3) (m : Comp) (c : ℚ) : toMv (p.addTerm m c) = toMv p + monoMv m c := by
  induction p with
  | nil =>
    rw [Poly3.addTerm]
    split_ifs with h
    · rw [beq_iff_eq.1 h, monoMv_zero, add_zero]
    · rw [toMv_cons]; exact add_comm _ _
  | cons t p ih =>
    obtain ⟨m', c'⟩ := t
    rw [Poly3.addTerm]
    split_ifs with hm hc
    · rw [toMv_cons, add_right_comm, ← beq_iff_eq.1 hm, ← monoMv_add, beq_iff_eq.1 hc, monoMv_zero,
        zero_add]
    · rw [toMv_cons, toMv_cons, ← beq_iff_eq.1 hm, monoMv_add, add_right_comm]
    · rw [toMv_cons, toMv_cons, ih, add_assoc]

theorem toMv_foldl_addTerm (l : List (Comp × ℚ)) (acc : Poly3) :
    toMv (l.foldl (fun acc (t : Comp × ℚ) => acc.addTerm t.1 t.2) acc) = toMv acc + toMv l := by
  induction l generalizing acc with
  | nil => simp
  | cons t l ih => rw [List.foldl_cons, ih, toMv_addTerm, toMv_cons]; ring

@[simp] theorem toMv_sum (l : List (Comp × ℚ)) : toMv (Poly3.sum l) = toMv l := by
  have := toMv_foldl_addTerm l []
  simpa [Poly3.sum] using this

theorem toMv_insertSorted (t : Comp × ℚ) (p : Poly3) :
    toMv (Poly3.insertSorted t p) = monoMv t.1 t.2 + toMv p := by
  induction p with
  | nil => simp [Poly3.insertSorted]
  | cons h r ih =>
    by_cases hlt : Comp.lt t.1 h.1 = true
    · simp [Poly3.insertSorted, hlt]
    · simp only [Poly3.insertSorted, hlt, Bool.false_eq_true, if_false, toMv_cons]
      rw [ih]; ring

@[simp] theorem toMv_sort (p : Poly3) : toMv p.sort = toMv p := by
  induction p with
  | nil => simp [Poly3.sort]
  | cons t p ih =>
    have : Poly3.sort (t :: p) = Poly3.insertSorted t (Poly3.sort p) := rfl
    rw [this, toMv_insertSorted, ih, toMv_cons]

@[simp] theorem toMv_canon (p : Poly3) : toMv p.canon = toMv p := by simp [Poly3.canon]

theorem toMv_eq_of_canon {p q : Poly3} (h : p.canon = q.canon) : toMv p = toMv q := by
  rw [← toMv_canon p, h, toMv_canon]

theorem toMv_eq_of_cancels {p q : Poly3} (h : p.cancels q = true) : toMv p = toMv q := by
  have hf : ∀ acc : Poly3, toMv (q.foldl (fun acc t => acc.addTerm t.1 (-t.2)) acc) = toMv acc - toMv q := by
    clear h
    induction q with
    | nil => simp
    | cons t q ih =>
      intro acc
      have hn : monoMv t.1 (-t.2) = -monoMv t.1 t.2 := by simp [monoMv]
      rw [List.foldl_cons, ih, toMv_addTerm, toMv_cons, hn]
      ring
  have := hf p
  rw [List.isEmpty_iff.1 h, toMv_nil] at this
  exact (sub_eq_zero.1 this.symm)

theorem monoMv_mul (a b : Comp) (x y : ℚ) :
    monoMv (a.1 + b.1, a.2.1 + b.2.1, a.2.2 + b.2.2) (x * y) = monoMv a x * monoMv b y := by
  simp only [monoMv, C_mul, pow_add]; ring

theorem toMv_map_mul (s : Comp × ℚ) (q : Poly3) :
    toMv (q.map fun t => ((s.1.1 + t.1.1, s.1.2.1 + t.1.2.1, s.1.2.2 + t.1.2.2), s.2 * t.2))
        = monoMv s.1 s.2 * toMv q := by
  induction q with
  | nil => simp
  | cons t q ihq => simp only [List.map_cons, toMv_cons, monoMv_mul]; rw [ihq]; ring

theorem toMv_mulRaw (p q : Poly3) : toMv (Poly3.mulRaw p q) = toMv p * toMv q := by
  induction p with
  | nil => simp [Poly3.mulRaw]
  | cons s p ih =>
    have h1 : Poly3.mulRaw (s :: p) q =
        (q.map fun t => ((s.1.1 + t.1.1, s.1.2.1 + t.1.2.1, s.1.2.2 + t.1.2.2), s.2 * t.2))
          ++ Poly3.mulRaw p q := by simp [Poly3.mulRaw]
    rw [h1, toMv_append, toMv_map_mul, ih, toMv_cons]; ring

/-! ## `Poly3.sort` sorts, when the monomials are distinct -/

theorem Comp.lt_iff (a b : Comp) : Comp.lt a b = true ↔
    a.1 < b.1 ∨ a.1 = b.1 ∧ (a.2.1 < b.2.1 ∨ a.2.1 = b.2.1 ∧ a.2.2 < b.2.2) := by
  simp [Comp.lt]

theorem Comp.lt_trans {a b c : Comp} (h1 : Comp.lt a b = true) (h2 : Comp.lt b c = true) :
    Comp.lt a c = true := by
  rw [Comp.lt_iff] at *; omega

theorem Comp.lt_of_not_lt {a b : Comp} (h : ¬ Comp.lt a b = true) (hne : a ≠ b) : Comp.lt b a = true := by
  rw [Comp.lt_iff] at *
  have : ¬ (a.1 = b.1 ∧ a.2.1 = b.2.1 ∧ a.2.2 = b.2.2) := fun ⟨h1, h2, h3⟩ =>
    hne (Prod.ext h1 (Prod.ext h2 h3))
  omega

theorem Comp.lt_asymm {a b : Comp} (h1 : Comp.lt a b = true) (h2 : Comp.lt b a = true) : False := by
  rw [Comp.lt_iff] at *; omega

theorem perm_insertSorted (t : Comp × ℚ) (p : Poly3) : (Poly3.insertSorted t p).Perm (t :: p) := by
  induction p with
  | nil => exact List.Perm.refl _
  | cons h r ih =>
    rw [Poly3.insertSorted]
    split_ifs
    · exact List.Perm.refl _
    · exact (ih.cons h).trans (List.Perm.swap t h r)

theorem perm_sort (p : Poly3) : p.sort.Perm p := by
  induction p with
  | nil => exact List.Perm.refl _
  | cons t p ih => exact (perm_insertSorted t _).trans (ih.cons t)

theorem pairwise_insertSorted (t : Comp × ℚ) (p : Poly3)
    (hp : p.Pairwise fun a b => Comp.lt a.1 b.1 = true) (ht : t.1 ∉ p.map (·.1)) :
    (Poly3.insertSorted t p).Pairwise fun a b => Comp.lt a.1 b.1 = true := by
  induction p with
  | nil => exact List.pairwise_singleton _ _
  | cons h r ih =>
    obtain ⟨hh, hr⟩ := List.pairwise_cons.1 hp
    rw [Poly3.insertSorted]
    split_ifs with hlt
    · refine List.pairwise_cons.2 ⟨fun b hb => ?_, hp⟩
      rcases List.mem_cons.1 hb with rfl | hb
      · exact hlt
      · exact Comp.lt_trans hlt (hh b hb)
    · refine List.pairwise_cons.2 ⟨fun b hb => ?_, ih hr fun hm => ht (List.mem_cons_of_mem _ hm)⟩
      rcases List.mem_cons.1 ((perm_insertSorted t r).subset hb) with rfl | hb
      · exact Comp.lt_of_not_lt hlt fun he => ht (he ▸ List.mem_cons_self)
      · exact hh b hb

theorem pairwise_sort (p : Poly3) (hp : (p.map (·.1)).Nodup) :
    p.sort.Pairwise fun a b => Comp.lt a.1 b.1 = true := by
  induction p with
  | nil => exact List.Pairwise.nil
  | cons t p ih =>
    obtain ⟨ht, hp⟩ := List.nodup_cons.1 hp
    exact pairwise_insertSorted t _ (ih hp) fun hm => ht (((perm_sort p).map _).subset hm)

theorem sort_eq_of_perm {p q : Poly3} (hp : (p.map (·.1)).Nodup) (h : p.Perm q) : p.sort = q.sort :=
  List.Perm.eq_of_pairwise (fun _ _ _ _ h1 h2 => (Comp.lt_asymm h1 h2).elim) (pairwise_sort p hp)
    (pairwise_sort q ((h.map _).nodup_iff.1 hp)) ((perm_sort p).trans (h.trans (perm_sort q).symm))

/-! ## Coefficients, and the canonical form as a function of them -/

theorem coeff_cons (a : Comp) (x : ℚ) (t : Poly3) (c : Comp) :
    Poly3.coeff ((a, x) :: t) c = if a = c then x else Poly3.coeff t c := by
  unfold Poly3.coeff
  by_cases h : a = c
  · simp [h]
  · have : (a == c) = false := by simpa using h
    simp [this, h]

theorem coeff_eq_zero_of_not_mem (t : Poly3) (c : Comp) (h : c ∉ t.map (·.1)) :
    Poly3.coeff t c = 0 := by
  unfold Poly3.coeff
  have : t.find? (fun s => s.1 == c) = none := by
    rw [List.find?_eq_none]
    intro s hs
    simp only [beq_iff_eq]
    intro he
    exact h (List.mem_map.2 ⟨s, hs, he⟩)
  rw [this]

theorem addTerm_keys_subset (p : Poly3) (m : Comp) (c : ℚ) :
    ∀ k ∈ (p.addTerm m c).map (·.1), k ∈ p.map (·.1) ∨ k = m := by
  induction p with
  | nil =>
    rw [Poly3.addTerm]
    split_ifs
    · exact fun k hk => Or.inl hk
    · exact fun k hk => Or.inr (List.mem_singleton.1 hk)
  | cons t p ih =>
    rw [Poly3.addTerm]
    split_ifs
    · exact fun k hk => Or.inl (List.mem_cons_of_mem _ hk)
    · exact fun k hk => Or.inl hk
    · intro k hk
      rcases List.mem_cons.1 hk with rfl | hk
      · exact Or.inl List.mem_cons_self
      · exact (ih k hk).imp_left (List.mem_cons_of_mem _)

theorem sum_keys_subset (r : Poly3) : ∀ k ∈ (Poly3.sum r).map (·.1), k ∈ r.map (·.1) := by
  have h : ∀ acc : Poly3, ∀ k ∈ (r.foldl (fun acc (t : Comp × ℚ) => acc.addTerm t.1 t.2) acc).map (·.1),
      k ∈ acc.map (·.1) ∨ k ∈ r.map (·.1) := by
    induction r with
    | nil => exact fun _ _ hk => Or.inl hk
    | cons t r ih =>
      intro acc k hk
      rcases ih _ k hk with hk | hk
      · rcases addTerm_keys_subset acc t.1 t.2 k hk with hk | rfl
        · exact Or.inl hk
        · exact Or.inr List.mem_cons_self
      · exact Or.inr (List.mem_cons_of_mem _ hk)
  exact fun k hk => (h [] k hk).resolve_left List.not_mem_nil

theorem addTerm_keys_nodup (p : Poly3) (m : Comp) (c : ℚ) (h : (p.map (·.1)).Nodup) :
    ((p.addTerm m c).map (·.1)).Nodup := by
  induction p with
  | nil =>
    rw [Poly3.addTerm]
    split_ifs
    · exact List.nodup_nil
    · exact List.nodup_singleton _
  | cons t p ih =>
    obtain ⟨hnot, hp⟩ := List.nodup_cons.1 h
    rw [Poly3.addTerm]
    split_ifs with hm
    · exact hp
    · exact h
    · refine List.nodup_cons.2 ⟨fun hk => ?_, ih hp⟩
      rcases addTerm_keys_subset p m c _ hk with hk | hk
      · exact hnot hk
      · exact hm (beq_iff_eq.2 hk)

theorem sum_keys_nodup (l : List (Comp × ℚ)) : ((Poly3.sum l).map (·.1)).Nodup := by
  have h : ∀ acc : Poly3, (acc.map (·.1)).Nodup →
      ((l.foldl (fun acc (t : Comp × ℚ) => acc.addTerm t.1 t.2) acc).map (·.1)).Nodup := by
    induction l with
    | nil => exact fun _ h => h
    | cons t l ih => exact fun acc h => ih _ (addTerm_keys_nodup acc t.1 t.2 h)
  exact h [] List.nodup_nil

theorem harmonic_keys_nodup (l m : ℕ) (neg : Bool) : ((harmonic l m neg).map (·.1)).Nodup :=
  sum_keys_nodup _

theorem coeff_nil (c : Comp) : Poly3.coeff [] c = 0 := rfl

theorem coeff_addTerm (p : Poly3) (hp : (p.map (·.1)).Nodup) (m : Comp) (x : ℚ) (c : Comp) :
    (p.addTerm m x).coeff c = p.coeff c + if m = c then x else 0 := by
  induction p with
  | nil =>
    rw [Poly3.addTerm]
    split_ifs with hx hm hm
    · rw [beq_iff_eq.1 hx, add_zero]
    · rw [add_zero]
    · rw [coeff_cons, if_pos hm, coeff_nil, zero_add]
    · rw [coeff_cons, if_neg hm, add_zero]
  | cons t p ih =>
    obtain ⟨m', x'⟩ := t
    obtain ⟨hnot, hp⟩ := List.nodup_cons.1 hp
    rw [Poly3.addTerm, coeff_cons]
    by_cases hm : m' = m
    · subst hm
      rw [if_pos (beq_self_eq_true _)]
      by_cases hc : m' = c
      · rw [if_pos hc, if_pos hc]
        split_ifs with hx
        · rw [coeff_eq_zero_of_not_mem p c (hc ▸ hnot), beq_iff_eq.1 hx]
        · rw [coeff_cons, if_pos hc]
      · rw [if_neg hc, if_neg hc, add_zero]
        split_ifs
        · rfl
        · rw [coeff_cons, if_neg hc]
    · rw [if_neg (by simpa using hm), coeff_cons, ih hp]
      split_ifs with h1 h2
      · exact absurd (h1.trans h2.symm) hm
      · rw [add_zero]
      · rfl
      · rfl

theorem addTerm_ne_zero (p : Poly3) (hp : ∀ t ∈ p, t.2 ≠ 0) (m : Comp) (x : ℚ) :
    ∀ t ∈ p.addTerm m x, t.2 ≠ 0 := by
  induction p with
  | nil =>
    rw [Poly3.addTerm]
    split_ifs with hx
    · exact hp
    · intro t ht
      rw [List.mem_singleton.1 ht]
      exact fun h => hx (beq_iff_eq.2 h)
  | cons t p ih =>
    rw [Poly3.addTerm]
    split_ifs with hm hx
    · exact fun s hs => hp s (List.mem_cons_of_mem _ hs)
    · intro s hs
      rcases List.mem_cons.1 hs with rfl | hs
      · exact fun h => hx (beq_iff_eq.2 h)
      · exact hp s (List.mem_cons_of_mem _ hs)
    · intro s hs
      rcases List.mem_cons.1 hs with rfl | hs
      · exact hp _ List.mem_cons_self
      · exact ih (fun s hs => hp s (List.mem_cons_of_mem _ hs)) s hs

/-- folding `addTerm` over `q` adds to each coefficient the sum of the matching terms of `q` -/
theorem coeff_foldl_addTerm (g : Comp × ℚ → ℚ) (q : Poly3) (c : Comp) :
    ∀ acc : Poly3, (acc.map (·.1)).Nodup →
      (q.foldl (fun (acc : Poly3) t => acc.addTerm t.1 (g t)) acc).coeff c
        = acc.coeff c + (q.map fun t => if t.1 = c then g t else 0).sum := by
  induction q with
  | nil => exact fun acc _ => (add_zero _).symm
  | cons t q ih =>
    intro acc hacc
    rw [List.foldl_cons, ih _ (addTerm_keys_nodup acc _ _ hacc), coeff_addTerm acc hacc,
      List.map_cons, List.sum_cons, add_assoc]

theorem sum_ne_zero (l : List (Comp × ℚ)) : ∀ t ∈ Poly3.sum l, t.2 ≠ 0 := by
  have h : ∀ acc : Poly3, (∀ t ∈ acc, t.2 ≠ 0) →
      ∀ t ∈ l.foldl (fun acc (t : Comp × ℚ) => acc.addTerm t.1 t.2) acc, t.2 ≠ 0 := by
    induction l with
    | nil => exact fun _ h => h
    | cons t l ih => exact fun acc h => ih _ (addTerm_ne_zero acc h t.1 t.2)
  exact h [] fun _ h => absurd h List.not_mem_nil

theorem sum_eq_foldl (q : Poly3) : Poly3.sum q = q.foldl (fun (acc : Poly3) t => acc.addTerm t.1 t.2) [] := rfl

theorem Poly3.coeff_sum (q : Poly3) (c : Comp) :
    (Poly3.sum q).coeff c = (q.map fun t => if t.1 = c then t.2 else 0).sum := by
  rw [sum_eq_foldl, coeff_foldl_addTerm (·.2) q c [] List.nodup_nil, coeff_nil, zero_add]

theorem mem_iff_coeff (p : Poly3) (hp : (p.map (·.1)).Nodup) (h0 : ∀ t ∈ p, t.2 ≠ 0) (t : Comp × ℚ) :
    t ∈ p ↔ p.coeff t.1 = t.2 ∧ t.2 ≠ 0 := by
  induction p with
  | nil => simp [coeff_nil, eq_comm]
  | cons s p ih =>
    obtain ⟨a, x⟩ := s
    obtain ⟨hnot, hp⟩ := List.nodup_cons.1 hp
    have ih := ih hp fun s hs => h0 s (List.mem_cons_of_mem _ hs)
    rw [List.mem_cons, coeff_cons]
    constructor
    · rintro (rfl | ht)
      · exact ⟨if_pos rfl, h0 _ List.mem_cons_self⟩
      · have hne : a ≠ t.1 := fun he => hnot (he ▸ List.mem_map.2 ⟨t, ht, rfl⟩)
        rw [if_neg hne]
        exact ih.1 ht
    · rintro ⟨h1, h2⟩
      split_ifs at h1 with ha
      · exact Or.inl (Prod.ext ha.symm h1.symm)
      · exact Or.inr (ih.2 ⟨h1, h2⟩)

/-- the canonical form depends on the coefficients only -/
theorem canon_congr {p q : Poly3} (h : ∀ c, (Poly3.sum p).coeff c = (Poly3.sum q).coeff c) :
    p.canon = q.canon := by
  have hp := sum_keys_nodup p
  have hq := sum_keys_nodup q
  refine sort_eq_of_perm hp ((List.perm_ext_iff_of_nodup hp.of_map hq.of_map).2 fun t => ?_)
  rw [mem_iff_coeff _ hp (sum_ne_zero p), mem_iff_coeff _ hq (sum_ne_zero q), h]

theorem Poly3.coeff_sum_self {p : Poly3} (hp : (p.map (·.1)).Nodup) (c : Comp) :
    (Poly3.sum p).coeff c = p.coeff c := by
  rw [Poly3.coeff_sum]
  induction p with
  | nil => rfl
  | cons t p ih =>
    obtain ⟨hnot, hp⟩ := List.nodup_cons.1 hp
    rw [List.map_cons, List.sum_cons, ih hp, coeff_cons]
    split_ifs with h
    · rw [coeff_eq_zero_of_not_mem p c (h ▸ hnot), add_zero]
    · rw [zero_add]

theorem coeff_eq_of_cancels {p q : Poly3} (hp : (p.map (·.1)).Nodup) (h : p.cancels q = true)
    (c : Comp) : p.coeff c = (Poly3.sum q).coeff c := by
  have hneg : ∀ q : Poly3, (q.map fun t => if t.1 = c then -t.2 else 0).sum
      = -(q.map fun t => if t.1 = c then t.2 else 0).sum := by
    intro q
    induction q with
    | nil => simp
    | cons t q ih =>
      simp only [List.map_cons, List.sum_cons, ih]
      split_ifs <;> ring
  have := coeff_foldl_addTerm (fun t => -t.2) q c p hp
  rw [List.isEmpty_iff.1 h, coeff_nil, hneg] at this
  rw [Poly3.coeff_sum]
  linear_combination -this

theorem canon_eq_of_cancels {p q : Poly3} (hp : (p.map (·.1)).Nodup) (h : p.cancels q = true) :
    p.canon = q.canon :=
  canon_congr fun c => by rw [Poly3.coeff_sum_self hp, coeff_eq_of_cancels hp h]

/-! ## The Laplacian -/

theorem pderiv_X_pow (i j : Fin 3) (n : ℕ) :
    pderiv i (X j ^ n : MvPolynomial (Fin 3) ℚ) = if i = j then C (n : ℚ) * X j ^ (n - 1) else 0 := by
  rw [pderiv_pow, map_natCast]
  split_ifs with h
  · rw [h, pderiv_X_self, mul_one]
  · rw [pderiv_X_of_ne (Ne.symm h), mul_zero]

/-- truncated subtraction gives the right answer at exponent `0`, because the factor `a` then vanishes -/
theorem pderiv_monoMv0 (a b d : ℕ) (k : ℚ) :
    pderiv 0 (monoMv (a, b, d) k) = monoMv (a - 1, b, d) (k * a) := by
  simp only [monoMv, pderiv_mul, pderiv_C, pderiv_X_pow, zero_mul, zero_add, mul_zero, add_zero,
    C_mul, show ((0 : Fin 3) = 1) = False from by decide,
    show ((0 : Fin 3) = 2) = False from by decide, if_false, if_true]
  ring

theorem pderiv_monoMv1 (a b d : ℕ) (k : ℚ) :
    pderiv 1 (monoMv (a, b, d) k) = monoMv (a, b - 1, d) (k * b) := by
  simp only [monoMv, pderiv_mul, pderiv_C, pderiv_X_pow, zero_mul, zero_add, mul_zero, add_zero,
    C_mul, show ((1 : Fin 3) = 0) = False from by decide,
    show ((1 : Fin 3) = 2) = False from by decide, if_false, if_true]
  ring

theorem pderiv_monoMv2 (a b d : ℕ) (k : ℚ) :
    pderiv 2 (monoMv (a, b, d) k) = monoMv (a, b, d - 1) (k * d) := by
  simp only [monoMv, pderiv_mul, pderiv_C, pderiv_X_pow, zero_mul, zero_add, mul_zero, add_zero,
    C_mul, show ((2 : Fin 3) = 0) = False from by decide,
    show ((2 : Fin 3) = 1) = False from by decide, if_false, if_true]
  ring

/-- below exponent `2`, where `laplacianRaw` emits no term, the factor `n (n-1)` vanishes anyway -/
theorem toMv_guard (m : Comp) (k : ℚ) (n : ℕ) :
    toMv (if n ≥ 2 then [(m, k * ((n * (n - 1) : ℕ) : ℚ))] else [])
      = monoMv m (k * n * ((n - 1 : ℕ) : ℚ)) := by
  split_ifs with h
  · rw [toMv_cons, toMv_nil, add_zero, Nat.cast_mul, mul_assoc]
  · have h0 : (n : ℚ) * ((n - 1 : ℕ) : ℚ) = 0 := by
      obtain rfl | rfl : n = 0 ∨ n = 1 := by omega
      · rw [Nat.cast_zero, zero_mul]
      · rw [Nat.sub_self, Nat.cast_zero, mul_zero]
    rw [mul_assoc, h0, mul_zero, monoMv_zero, toMv_nil]

theorem laplacian_monoMv (c : Comp) (k : ℚ) :
    toMv (laplacianRaw [(c, k)]) = ∑ i : Fin 3, pderiv i (pderiv i (monoMv c k)) := by
  obtain ⟨a, b, d⟩ := c
  rw [Fin.sum_univ_three, pderiv_monoMv0, pderiv_monoMv0, pderiv_monoMv1, pderiv_monoMv1,
    pderiv_monoMv2, pderiv_monoMv2]
  simp only [laplacianRaw, List.flatMap_cons, List.flatMap_nil, List.append_nil, toMv_append,
    toMv_guard, Nat.sub_sub]

theorem laplacianRaw_cons (t : Comp × ℚ) (p : Poly3) :
    laplacianRaw (t :: p) = laplacianRaw [t] ++ laplacianRaw p :=
  List.flatMap_append (xs := [t])

theorem laplacian_sound (p : Poly3) :
    toMv (laplacian p) = ∑ i : Fin 3, pderiv i (pderiv i (toMv p)) := by
  rw [laplacian, toMv_sum]
  induction p with
  | nil => simp only [laplacianRaw, List.flatMap_nil, toMv_nil, map_zero, Finset.sum_const_zero]
  | cons t p ih =>
    rw [laplacianRaw_cons, toMv_append, ih, laplacian_monoMv, toMv_cons, ← Finset.sum_add_distrib]
    simp only [map_add]

theorem laplacian_eq_zero_of_isEmpty {p : Poly3} (h : (laplacian p).isEmpty = true) :
    ∑ i : Fin 3, pderiv i (pderiv i (toMv p)) = 0 := by
  rw [← laplacian_sound, List.isEmpty_iff.1 h, toMv_nil]

theorem toMv_isHomogeneous {p : Poly3} {n : ℕ} (h : p.all (fun t => t.1.deg == n) = true) :
    (toMv p).IsHomogeneous n := by
  induction p with
  | nil => simpa using MvPolynomial.isHomogeneous_zero (σ := Fin 3) ℚ n
  | cons t p ih =>
    simp only [List.all_cons, Bool.and_eq_true, beq_iff_eq] at h
    rw [toMv_cons]
    refine IsHomogeneous.add ?_ (ih h.2)
    have : t.1.1 + t.1.2.1 + t.1.2.2 = n := h.1
    rw [← this, monoMv]
    exact (((isHomogeneous_C_mul_X_pow _ _ _).mul (isHomogeneous_X_pow _ _)).mul
      (isHomogeneous_X_pow _ _))

end GB
