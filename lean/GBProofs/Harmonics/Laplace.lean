import GBProofs.Harmonics.Check.Tables
import GBProofs.Harmonics.Sound
import GBProofs.Basic
/-!
# C10: the model's polynomials are harmonic (`l ≤ 10`, every `m`) and homogeneous of degree `l`
-/
namespace GB
open MvPolynomial

/-- harmonicity as an empty list Laplacian; `harmonic_le_10_mv` has it as `Σ_i ∂_i² = 0` in `ℚ[x, y, z]` -/
theorem harmonic_le_10 (l : ℕ) (hl : l ≤ 10) (m : ℕ) (neg : Bool) (hm : m ≤ l)
    (hneg : neg = true → 1 ≤ m) : laplacian (harmonic l m neg) = [] := by
  have h : allHarmonic 10 = true := tables_10.1
  simp only [allHarmonic, List.all_eq_true, List.mem_range] at h
  have := h l (by omega) (m, neg) ((mem_harmonics l m neg).2 ⟨hm, hneg⟩)
  simpa using this

theorem harmonic_le_10_mv (l : ℕ) (hl : l ≤ 10) (m : ℕ) (neg : Bool) (hm : m ≤ l)
    (hneg : neg = true → 1 ≤ m) :
    ∑ i : Fin 3, pderiv i (pderiv i (toMv (harmonic l m neg))) = 0 := by
  rw [← laplacian_sound, harmonic_le_10 l hl m neg hm hneg, toMv_nil]

/-- a raw term of `harmonic` has exponents `(2i + m - k, k, l - 2i - m)` with `2i + m ≤ l`, and `k ≤ 2i + m` unless
its coefficient has the factor `choose m (2z + 1) = 0` and the term is dropped -/
theorem harmonic_homogeneous (l m : ℕ) (neg : Bool) (hm : m ≤ l) :
    ∀ t ∈ harmonic l m neg, t.1.deg = l := by
  intro t ht
  have hk := sum_keys_subset _ t.1 (List.mem_map.2 ⟨t, ht, rfl⟩)
  simp only [List.mem_map, List.mem_flatMap, List.mem_filterMap, List.mem_range] at hk
  obtain ⟨s, ⟨i, hi, j, hj, z, hz, hs⟩, hst⟩ := hk
  rw [← hst]
  cases neg
  · simp only [Bool.false_eq_true, if_false] at hs
    split_ifs at hs
    obtain rfl := Option.some.inj hs
    have h1 : 2 * i + m ≤ l := by omega
    have h2 : 2 * (j + z) ≤ 2 * i + m := by omega
    rw [Comp.deg, Nat.sub_add_cancel h2, Nat.sub_sub, Nat.add_sub_cancel' h1]
  · simp only [if_true] at hs
    split_ifs at hs with h0
    obtain rfl := Option.some.inj hs
    have hz' : 2 * z + 1 ≤ m := by
      by_contra hlt
      apply h0
      simp [expCoeff, choose_eq_choose, Nat.choose_eq_zero_of_lt (not_le.1 hlt)]
    have h1 : 2 * i + m ≤ l := by omega
    have h2 : 2 * (j + z) + 1 ≤ 2 * i + m := by omega
    rw [Comp.deg, Nat.sub_add_cancel h2, Nat.sub_sub, Nat.add_sub_cancel' h1]

theorem homogeneous_le_10 (l : ℕ) (hl : l ≤ 10) (m : ℕ) (neg : Bool) (hm : m ≤ l)
    (hneg : neg = true → 1 ≤ m) : ∀ t ∈ harmonic l m neg, t.1.deg = l :=
  harmonic_homogeneous l m neg hm

theorem homogeneous_le_10_mv (l : ℕ) (hl : l ≤ 10) (m : ℕ) (neg : Bool) (hm : m ≤ l)
    (hneg : neg = true → 1 ≤ m) : (toMv (harmonic l m neg)).IsHomogeneous l := by
  apply toMv_isHomogeneous
  simp only [List.all_eq_true, beq_iff_eq]
  exact homogeneous_le_10 l hl m neg hm hneg

end GB
