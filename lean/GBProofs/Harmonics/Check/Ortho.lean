import GBProofs.Harmonics.Defs
/-! Kernel evaluation: the orthonormality table of the solid harmonics, `l ≤ 10`, in the form
`orthoFast`. -/
namespace GB
theorem orthoFast_le_8 : (List.range 9).all orthoFast = true := by decide +kernel
theorem orthoFast_9 : orthoFast 9 = true := by decide +kernel
theorem orthoFast_10 : orthoFast 10 = true := by decide +kernel
end GB
