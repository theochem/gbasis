import GBProofs.Harmonics.Defs
/-! Kernel evaluation of the tables about the polynomials `harmonic l m neg`, `l ≤ 10`, other than
orthonormality (`Check/Ortho.lean`): zero list Laplacian, azimuthal factorisation, and the
recursive `Re/Im (x+iy)^m` against their binomial expansions for `m ≤ 10`.  The tables about label
strings are evaluated in `Labels.lean`. -/
namespace GB

theorem tables_10 :
    allHarmonic 10 = true ∧ phaseAll 10 = true ∧ binomAll 10 = true := by
  decide +kernel

end GB
