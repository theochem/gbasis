import GBProofs.Harmonics.Ortho
import GBProofs.Harmonics.Labels
import GBProofs.Harmonics.Laplace
import GBProofs.RealInst
import Mathlib.Algebra.BigOperators.Group.List.Basic
import Mathlib.Algebra.BigOperators.Ring.List
import Mathlib.Data.Rat.Cast.Lemmas
import Mathlib.Tactic.FieldSimp
import Mathlib.Tactic.Positivity
/-!
# Why the rational table is orthonormality of the rows of the transformation matrix

Row `r` of the Cartesian → spherical matrix of a shell is `T[r][c] = rat_r(c) · √(normSq_r · dfact c / dfact_l)`
(`transEntry`, real instance).  The overlap of two *unit-normalised* Cartesian functions of one
shell (same centre, same exponents and contraction coefficients) is

  `S[c][c'] = metric c c' / (√(dfact c) · √(dfact c'))`,

because `∫ x^{a+a'} y^{b+b'} z^{c+c'} e^{-(α+β) r²}` is `metric c c'` times a factor that depends
only on `α + β` and on `l = a+b+c = a'+b'+c'`, so the primitive double sum is the same for all
component pairs of the shell and is fixed by `S[c][c] = 1` (`metric c c = dfact c`).  We take this
`S` as the definition of the metric in which the rows are to be orthonormal.

`ortho_reduction`: `(T S Tᵀ)[r][r'] = ± √(normSq_r normSq_r') / dfact_l · Qc cs h_r h_r'`, where `Qc cs` is `Q`
summed over the component list `cs` (`Qc_eq_Q`).
-/
namespace GB
open Real

/-! ## Sums over a component list versus sums over the terms of a list polynomial -/

theorem sum_coeff_mul (cs : List Comp) (hcs : cs.Nodup) (g : Comp → ℚ) :
    ∀ (p : Poly3), (p.map (·.1)).Nodup → (∀ t ∈ p, t.1 ∈ cs) →
      (cs.map fun c => p.coeff c * g c).sum = (p.map fun t => t.2 * g t.1).sum
  | [], _, _ => by simp [Poly3.coeff]
  | (a, x) :: t, hnd, hsub => by
    have hnd' : a ∉ t.map (·.1) ∧ (t.map (·.1)).Nodup := by simpa using hnd
    have ih := sum_coeff_mul cs hcs g t hnd'.2 (fun s hs => hsub s (List.mem_cons_of_mem _ hs))
    have ha : a ∈ cs := hsub (a, x) (by simp)
    have h0 := coeff_eq_zero_of_not_mem t a hnd'.1
    have hsingle : (cs.map fun c => if a = c then x * g a else 0).sum = x * g a := by
      rw [← List.sum_toFinset _ hcs, Finset.sum_ite_eq, if_pos (List.mem_toFinset.2 ha)]
    have hsplit : ∀ c, Poly3.coeff ((a, x) :: t) c * g c
        = (if a = c then x * g a else 0) + Poly3.coeff t c * g c := by
      intro c
      rw [coeff_cons]
      split_ifs with h
      · rw [← h, h0, zero_mul, add_zero]
      · rw [zero_add]
    simp only [hsplit, List.sum_map_add, hsingle, ih, List.map_cons, List.sum_cons]

/-- `Q` with the sums running over a component list instead of the terms of `p`, `q` -/
def Qc (cs : List Comp) (p q : Poly3) : ℚ :=
  (cs.map fun c => (cs.map fun c' => p.coeff c * q.coeff c' * metric c c').sum).sum

theorem Qc_eq_Q (cs : List Comp) (hcs : cs.Nodup) (p q : Poly3)
    (hp : (p.map (·.1)).Nodup) (hq : (q.map (·.1)).Nodup)
    (hpc : ∀ t ∈ p, t.1 ∈ cs) (hqc : ∀ t ∈ q, t.1 ∈ cs) : Qc cs p q = Q p q := by
  unfold Qc Q
  have h1 : ∀ c, (cs.map fun c' => p.coeff c * q.coeff c' * metric c c').sum
      = p.coeff c * (q.map fun t => t.2 * metric c t.1).sum := by
    intro c
    rw [← sum_coeff_mul cs hcs (fun c' => metric c c') q hq hqc, ← List.sum_map_mul_left]
    congr 1
    apply List.map_congr_left
    intro c' _
    ring
  simp only [h1]
  rw [sum_coeff_mul cs hcs (fun c => (q.map fun t => t.2 * metric c t.1).sum) p hp hpc]
  congr 1
  apply List.map_congr_left
  intro s _
  rw [← List.sum_map_mul_left]
  congr 1
  apply List.map_congr_left
  intro t _
  ring

/-! ## The matrix product over `ℝ` -/

theorem ofInt_real (i : ℤ) : (ofInt i : ℝ) = (i : ℝ) := by
  unfold ofInt
  by_cases h : i < 0
  · simp only [h, if_true, num_nat]
    rw [Nat.cast_natAbs, abs_of_neg h]; simp
  · simp only [h, if_false, num_nat]
    rw [Nat.cast_natAbs, abs_of_nonneg (not_lt.1 h)]

theorem ofRat_real (r : ℚ) : (ofRat r : ℝ) = (r : ℝ) := by
  unfold ofRat
  rw [ofInt_real, num_nat, Rat.cast_def]

/-- overlap of the unit-normalised Cartesian functions `c`, `c'` of one shell -/
noncomputable def Sov (c c' : Comp) : ℝ := (metric c c' : ℝ) / (√(c.dfact : ℝ) * √(c'.dfact : ℝ))

/-- `(T S Tᵀ)[r][r']` with the Cartesian sums over the component list `cs` -/
noncomputable def gram (l : ℕ) (cs : List Comp) (r r' : SphLabel) : ℝ :=
  (cs.map fun c => (cs.map fun c' =>
    transEntry (K := ℝ) l r c * Sov c c' * transEntry (K := ℝ) l r' c').sum).sum

def SphLabel.sgn (r : SphLabel) : ℚ := if r.negSign then -1 else 1

theorem dfact_pos (c : Comp) : 0 < c.dfact := by
  unfold Comp.dfact
  have := dfactOdd_pos c.1; have := dfactOdd_pos c.2.1; have := dfactOdd_pos c.2.2
  positivity

theorem normSq_nonneg (l m : ℕ) : 0 ≤ normSq l m := by
  unfold normSq
  positivity

theorem metric_eq (a b : Comp) : metric a b =
    if (a.1 + b.1) % 2 = 0 ∧ (a.2.1 + b.2.1) % 2 = 0 ∧ (a.2.2 + b.2.2) % 2 = 0 then
      ((dfactOdd ((a.1 + b.1) / 2) * dfactOdd ((a.2.1 + b.2.1) / 2)
        * dfactOdd ((a.2.2 + b.2.2) / 2) : ℕ) : ℚ)
    else 0 := by
  simp only [metric, Bool.and_eq_true, beq_iff_eq, and_assoc]

theorem metric_self (a : Comp) : metric a a = (a.dfact : ℚ) := by
  rw [metric_eq, if_pos ⟨by omega, by omega, by omega⟩, Comp.dfact]
  simp only [← two_mul, Nat.mul_div_cancel_left _ two_pos]

theorem normAng_real (c : Comp) : normAng (K := ℝ) c = 1 / √(c.dfact : ℝ) := by
  simp only [normAng, Comp.dfact, Transc.sqrt, num_nat, Nat.cast_one]

theorem normAng_mul_metric (c c' : Comp) :
    normAng (K := ℝ) c * normAng c' * (metric c c' : ℝ) = Sov c c' := by
  rw [normAng_real, normAng_real, Sov, one_div_mul_one_div, one_div_mul_eq_div]

theorem Sov_self (c : Comp) : Sov c c = 1 := by
  rw [Sov, metric_self, Rat.cast_natCast, Real.mul_self_sqrt (Nat.cast_nonneg _),
    div_self (Nat.cast_ne_zero.2 (dfact_pos c).ne')]

theorem transEntryQ_fst (l : ℕ) (lab : SphLabel) (c : Comp) :
    (transEntryQ l lab c).1 = lab.sgn * (harmonic l lab.m lab.sine).coeff c := by
  unfold transEntryQ SphLabel.sgn
  split_ifs
  · exact (neg_one_mul _).symm
  · exact (one_mul _).symm

theorem transEntry_real (l : ℕ) (lab : SphLabel) (c : Comp) :
    transEntry (K := ℝ) l lab c =
      ((lab.sgn * (harmonic l lab.m lab.sine).coeff c : ℚ) : ℝ) *
        √((normSq l lab.m : ℝ) * (c.dfact : ℝ) / (dfactOdd l : ℝ)) := by
  rw [← transEntryQ_fst]
  show ofRat _ * Real.sqrt (ofRat (normSq l lab.m * (c.dfact : ℚ) / (dfactOdd l : ℚ))) = _
  rw [ofRat_real, ofRat_real, Rat.cast_div, Rat.cast_mul, Rat.cast_natCast, Rat.cast_natCast]

/-- against the angular norm of the column the `dfact c` under the root cancels -/
theorem transEntry_mul_normAng (l : ℕ) (lab : SphLabel) (c : Comp) :
    transEntry (K := ℝ) l lab c * normAng c
      = ((lab.sgn : ℚ) : ℝ) * √((normSq l lab.m : ℝ) / (dfactOdd l : ℝ))
        * (((harmonic l lab.m lab.sine).coeff c : ℚ) : ℝ) := by
  have hsq : √((normSq l lab.m : ℝ) * (c.dfact : ℝ) / (dfactOdd l : ℝ))
      = √((normSq l lab.m : ℝ) / (dfactOdd l : ℝ)) * √(c.dfact : ℝ) := by
    rw [mul_div_right_comm, Real.sqrt_mul' _ (Nat.cast_nonneg _)]
  rw [transEntry_real, normAng_real, hsq, Rat.cast_mul, mul_one_div, mul_div_assoc, mul_div_assoc,
    div_self (Real.sqrt_pos.2 (Nat.cast_pos.2 (dfact_pos c))).ne']
  ring

theorem entry_product (l : ℕ) (r r' : SphLabel) (c c' : Comp) :
    transEntry (K := ℝ) l r c * Sov c c' * transEntry (K := ℝ) l r' c' =
      ((r.sgn * r'.sgn : ℚ) : ℝ) * √((normSq l r.m : ℝ) * (normSq l r'.m : ℝ)) / (dfactOdd l : ℝ) *
        (((harmonic l r.m r.sine).coeff c * (harmonic l r'.m r'.sine).coeff c' * metric c c' : ℚ) : ℝ) := by
  have hn : (0 : ℝ) ≤ (normSq l r.m : ℝ) := by exact_mod_cast normSq_nonneg l r.m
  have hD : (0 : ℝ) ≤ (dfactOdd l : ℝ) := Nat.cast_nonneg _
  have hsq : √((normSq l r.m : ℝ) / (dfactOdd l : ℝ)) * √((normSq l r'.m : ℝ) / (dfactOdd l : ℝ))
      = √((normSq l r.m : ℝ) * (normSq l r'.m : ℝ)) / (dfactOdd l : ℝ) := by
    rw [← Real.sqrt_mul (div_nonneg hn hD), div_mul_div_comm, Real.sqrt_div' _ (mul_self_nonneg _),
      Real.sqrt_mul_self hD]
  calc transEntry (K := ℝ) l r c * Sov c c' * transEntry (K := ℝ) l r' c'
      = (transEntry (K := ℝ) l r c * normAng c) * (transEntry (K := ℝ) l r' c' * normAng c')
          * (metric c c' : ℝ) := by rw [← normAng_mul_metric]; ring
    _ = _ := by
      rw [transEntry_mul_normAng, transEntry_mul_normAng]
      push_cast
      linear_combination ((r.sgn : ℝ) * (r'.sgn : ℝ) * ((harmonic l r.m r.sine).coeff c : ℝ)
        * ((harmonic l r'.m r'.sine).coeff c' : ℝ) * (metric c c' : ℝ)) * hsq

/-- the square roots pull out of the double sum -/
theorem ortho_reduction (l : ℕ) (cs : List Comp) (r r' : SphLabel) :
    gram l cs r r' =
      ((r.sgn * r'.sgn : ℚ) : ℝ) * √((normSq l r.m : ℝ) * (normSq l r'.m : ℝ)) / (dfactOdd l : ℝ) *
        ((Qc cs (harmonic l r.m r.sine) (harmonic l r'.m r'.sine) : ℚ) : ℝ) := by
  unfold gram Qc
  simp only [entry_product, List.sum_map_mul_left]
  congr 1
  rw [Rat.cast_list_sum, List.map_map]
  congr 1
  apply List.map_congr_left
  intro c _
  rw [Function.comp_apply, Rat.cast_list_sum, List.map_map]
  rfl

/-! ## Conclusion for `l ≤ 10` -/

theorem harmonic_mem_defaultCart (l : ℕ) (hl : l ≤ 10) (m : ℕ) (neg : Bool) (hm : m ≤ l)
    (hneg : neg = true → 1 ≤ m) : ∀ t ∈ harmonic l m neg, t.1 ∈ defaultCart l :=
  fun t ht => (mem_defaultCart l t.1).2 (homogeneous_le_10 l hl m neg hm hneg t ht)

theorem gram_eq_Q_le_10 (l : ℕ) (hl : l ≤ 10) (r r' : SphLabel) (hm : r.m ≤ l) (hm' : r'.m ≤ l)
    (hs : r.sine = true → 1 ≤ r.m) (hs' : r'.sine = true → 1 ≤ r'.m) :
    gram l (defaultCart l) r r' =
      ((r.sgn * r'.sgn : ℚ) : ℝ) * √((normSq l r.m : ℝ) * (normSq l r'.m : ℝ)) / (dfactOdd l : ℝ) *
        ((Q (harmonic l r.m r.sine) (harmonic l r'.m r'.sine) : ℚ) : ℝ) := by
  rw [ortho_reduction, Qc_eq_Q _ (defaultCart_nodup l) _ _ (harmonic_keys_nodup ..)
    (harmonic_keys_nodup ..) (harmonic_mem_defaultCart l hl _ _ hm hs)
    (harmonic_mem_defaultCart l hl _ _ hm' hs')]

/-- C10: the rows of the transformation matrix are orthonormal in the overlap metric `Sov` of the
unit-normalised Cartesian functions; `sgn_r · sgn_r'` is `1` for `r = r'` -/
theorem rows_orthonormal_le_10 (l : ℕ) (hl : l ≤ 10) (r r' : SphLabel) (hm : r.m ≤ l)
    (hm' : r'.m ≤ l) (hs : r.sine = true → 1 ≤ r.m) (hs' : r'.sine = true → 1 ≤ r'.m) :
    gram l (defaultCart l) r r' =
      if (r.sine, r.m) = (r'.sine, r'.m) then ((r.sgn * r'.sgn : ℚ) : ℝ) else 0 := by
  rw [gram_eq_Q_le_10 l hl r r' hm hm' hs hs']
  obtain ⟨hoff, hdiag⟩ := orthonormal_le_10 l hl r.m r'.m r.sine r'.sine hm hm' hs hs'
  by_cases hk : (r.sine, r.m) = (r'.sine, r'.m)
  · obtain ⟨h1, h2⟩ := Prod.mk.inj hk
    have hD : (dfactOdd l : ℝ) ≠ 0 := Nat.cast_ne_zero.2 (dfactOdd_pos l).ne'
    have hn : (0 : ℝ) ≤ (normSq l r.m : ℝ) := by exact_mod_cast normSq_nonneg l r.m
    have hq : (normSq l r.m : ℝ) * ((Q (harmonic l r.m r.sine) (harmonic l r.m r.sine) : ℚ) : ℝ)
        = (dfactOdd l : ℝ) := by exact_mod_cast hdiag
    rw [if_pos hk, ← h1, ← h2, Real.sqrt_mul_self hn, mul_div_assoc, mul_assoc, div_mul_eq_mul_div,
      hq, div_self hD, mul_one]
  · have hne : (r.m, r.sine) ≠ (r'.m, r'.sine) := fun h =>
      hk (Prod.ext (Prod.mk.inj h).2 (Prod.mk.inj h).1)
    rw [if_neg hk, hoff hne, Rat.cast_zero, mul_zero]

theorem mem_sphKeys (l : ℕ) (k : Bool × ℕ) (h : k ∈ sphKeys l) : k.2 ≤ l ∧ (k.1 = true → 1 ≤ k.2) := by
  simp only [sphKeys, List.mem_append, List.mem_map, List.mem_range] at h
  rcases h with ⟨a, ha, rfl⟩ | ⟨a, ha, rfl⟩
  · simp; omega
  · simp; omega

theorem sgn_mul_self (r : SphLabel) : r.sgn * r.sgn = 1 := by
  unfold SphLabel.sgn; cases r.negSign <;> simp

theorem inRange_of_perm {l : ℕ} {ls : List SphLabel}
    (hperm : (ls.map fun x => (x.sine, x.m)).Perm (sphKeys l)) {i : ℕ} (hi : i < ls.length) :
    ls[i].m ≤ l ∧ (ls[i].sine = true → 1 ≤ ls[i].m) :=
  mem_sphKeys l _ (hperm.subset (List.mem_map.2 ⟨ls[i], List.getElem_mem hi, rfl⟩))

theorem rows_orthonormal_of_perm (l : ℕ) (hl : l ≤ 10) {ls : List SphLabel}
    (hperm : (ls.map fun x => (x.sine, x.m)).Perm (sphKeys l)) {i j : ℕ} (hi : i < ls.length)
    (hj : j < ls.length) : gram l (defaultCart l) ls[i] ls[j] = if i = j then 1 else 0 := by
  have hnd : (ls.map fun x => (x.sine, x.m)).Nodup := hperm.nodup_iff.2 (sphKeys_nodup l)
  rw [rows_orthonormal_le_10 l hl _ _ (inRange_of_perm hperm hi).1 (inRange_of_perm hperm hj).1
    (inRange_of_perm hperm hi).2 (inRange_of_perm hperm hj).2]
  by_cases hij : i = j
  · subst hij
    rw [if_pos rfl, if_pos rfl, sgn_mul_self, Rat.cast_one]
  · rw [if_neg hij, if_neg]
    intro hk
    have hi' : i < (ls.map fun x => (x.sine, x.m)).length := by rwa [List.length_map]
    have hj' : j < (ls.map fun x => (x.sine, x.m)).length := by rwa [List.length_map]
    exact hij ((hnd.getElem_inj_iff (hi := hi') (hj := hj')).1
      (by rwa [List.getElem_map, List.getElem_map]))

/-- C10: every order accepted by `validSphOrder` gives orthonormal rows, whatever the order and the signs -/
theorem rows_orthonormal_valid (l : ℕ) (hl : l ≤ 10) (labels : List String) (ls : List SphLabel)
    (h : validSphOrder l labels = some ls) (i j : ℕ) (hi : i < ls.length) (hj : j < ls.length) :
    gram l (defaultCart l) ls[i] ls[j] = if i = j then 1 else 0 :=
  rows_orthonormal_of_perm l hl ((valid_iff_perm l labels ls).1 h).2 hi hj

theorem gram_eq_sum_range (l : ℕ) (cs : List Comp) (r r' : SphLabel) :
    gram l cs r r' = ∑ a ∈ Finset.range cs.length, ∑ b ∈ Finset.range cs.length,
      transEntry (K := ℝ) l r (cs.getD a (0, 0, 0))
        * Sov (cs.getD a (0, 0, 0)) (cs.getD b (0, 0, 0))
        * transEntry (K := ℝ) l r' (cs.getD b (0, 0, 0)) := by
  unfold gram
  rw [sum_map_eq_sum_range _ (0, 0, 0)]
  exact Finset.sum_congr rfl fun a _ => sum_map_eq_sum_range _ (0, 0, 0) _

end GB
