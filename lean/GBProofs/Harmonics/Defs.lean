import GBModel.Spherical
/-!
# Definitions for C10, the solid harmonics (core Lean only)

List-polynomial operations used to state — and let the kernel check — that the polynomials
`GB.harmonic l m neg` of the model are the real regular solid harmonics.  No Mathlib here, so the
`decide +kernel` files depending on this one stay light.
-/
namespace GB

def Comp.deg (c : Comp) : Nat := c.1 + c.2.1 + c.2.2

def laplacianRaw (p : Poly3) : Poly3 :=
  p.flatMap fun t =>
    (if t.1.1 ≥ 2 then [((t.1.1 - 2, t.1.2.1, t.1.2.2), t.2 * ((t.1.1 * (t.1.1 - 1) : Nat) : Rat))] else []) ++
    (if t.1.2.1 ≥ 2 then [((t.1.1, t.1.2.1 - 2, t.1.2.2), t.2 * ((t.1.2.1 * (t.1.2.1 - 1) : Nat) : Rat))] else []) ++
    (if t.1.2.2 ≥ 2 then [((t.1.1, t.1.2.1, t.1.2.2 - 2), t.2 * ((t.1.2.2 * (t.1.2.2 - 1) : Nat) : Rat))] else [])

def laplacian (p : Poly3) : Poly3 := Poly3.sum (laplacianRaw p)

/-- the `2l+1` functions of angular momentum `l`: `(m, false)` is the cosine function `c_m`
(`0 ≤ m ≤ l`), `(m, true)` the sine function `s_m` (`1 ≤ m ≤ l`) -/
def harmonics (l : Nat) : List (Nat × Bool) :=
  (List.range (l + 1)).map (·, false) ++ ((List.range l).map (· + 1, true))

theorem mem_harmonics (l m : Nat) (neg : Bool) :
    (m, neg) ∈ harmonics l ↔ m ≤ l ∧ (neg = true → 1 ≤ m) := by
  cases neg
  · simp [harmonics]; omega
  · simp only [harmonics, List.mem_append, List.mem_map, List.mem_range, Prod.mk.injEq,
      Bool.false_eq_true, and_false, exists_false, false_or, and_true, forall_const]
    constructor
    · rintro ⟨a, ha, rfl⟩; omega
    · rintro ⟨h1, h2⟩; exact ⟨m - 1, by omega, by omega⟩

def allHarmonic (lmax : Nat) : Bool :=
  (List.range (lmax + 1)).all fun l => (harmonics l).all fun k =>
    (laplacian (harmonic l k.1 k.2)).isEmpty

/-! ## The overlap metric of Cartesian monomials of one shell -/

/-- `Π_i (a_i + b_i - 1)!!` if all `a_i + b_i` are even, else `0`:  up to a factor that depends
only on the exponents and on `l`, this is `∫ x^{a+b} e^{-(α+β) r²}` -/
def metric (a b : Comp) : Rat :=
  if (a.1 + b.1) % 2 == 0 && (a.2.1 + b.2.1) % 2 == 0 && (a.2.2 + b.2.2) % 2 == 0 then
    ((dfactOdd ((a.1 + b.1) / 2) * dfactOdd ((a.2.1 + b.2.1) / 2) * dfactOdd ((a.2.2 + b.2.2) / 2) : Nat) : Rat)
  else 0

def Q (p q : Poly3) : Rat :=
  (p.map fun s => (q.map fun t => s.2 * t.2 * metric s.1 t.1).sum).sum

def orthoRow (l : Nat) (k : Nat × Bool) : Bool :=
  (harmonics l).all fun k' =>
    let q := Q (harmonic l k.1 k.2) (harmonic l k'.1 k'.2)
    if k == k' then normSq l k.1 * q == ((dfactOdd l : Nat) : Rat) else q == 0

def orthonormal (l : Nat) : Bool := (harmonics l).all (orthoRow l)

def orthoPart (l : Nat) (P : Nat × Bool → Bool) : Bool :=
  (harmonics l).all fun k => !P k || orthoRow l k

theorem orthoPart_split (l : Nat) (P R : Nat × Bool → Bool)
    (h1 : orthoPart l (fun k => R k && P k) = true)
    (h2 : orthoPart l (fun k => R k && !P k) = true) : orthoPart l R = true := by
  simp only [orthoPart, List.all_eq_true] at *
  intro k hk
  have a := h1 k hk
  have b := h2 k hk
  -- once `R k` and `P k` are decided, each of the three Boolean terms reduces to `true` or to
  -- `orthoRow l k`
  revert a b
  cases R k <;> cases P k
  · exact fun _ _ => rfl
  · exact fun _ _ => rfl
  · exact fun _ b => b
  · exact fun a _ => a

theorem orthonormal_of_part (l : Nat) (h : orthoPart l (fun _ => true) = true) :
    orthonormal l = true := by
  simpa [orthoPart, orthonormal] using h

/-! ## `orthoFast`: the orthonormality table in the shape the kernel evaluates

`Q` is symmetric, so pairs need be looked at once (`allPairs`); `metric a b = 0` unless `a` and `b`
have the same parities in all three exponents, so `Q p q = 0` needs no evaluation when the monomials
of `p` share one parity class and those of `q` another (all monomials of `c_m` / `s_m` have
`y`-exponent even / odd, and `x`- and `z`-exponents of the parity of `m` resp. `l - m`); and the double
sum is taken in `Int` over a common denominator: the kernel computes on `Int` with its built-in `Nat`
arithmetic, whereas every `Rat` operation also normalises a fraction.  Soundness is `orthonormal_of_fast`
in `Ortho.lean`; the evaluation itself is `Check/Ortho.lean`. -/

/-- the entry of `orthoRow l k` at `k'` -/
def orthoEntry (l : Nat) (k k' : Nat × Bool) : Bool :=
  let q := Q (harmonic l k.1 k.2) (harmonic l k'.1 k'.2)
  if k == k' then normSq l k.1 * q == ((dfactOdd l : Nat) : Rat) else q == 0

def Comp.parity (c : Comp) : Bool × Bool × Bool := (c.1 % 2 == 1, c.2.1 % 2 == 1, c.2.2 % 2 == 1)

def Poly3.parity? : Poly3 → Option (Bool × Bool × Bool)
  | [] => none
  | t :: r => if r.all (fun s => s.1.parity == t.1.parity) then some t.1.parity else none

def allPairs {α : Type} (R : α → α → Bool) : List α → Bool
  | [] => true
  | a :: r => R a a && r.all (R a) && allPairs R r

/-- `metric` before the cast to `Rat` -/
def metricN (a b : Comp) : Nat :=
  if (a.1 + b.1) % 2 == 0 && (a.2.1 + b.2.1) % 2 == 0 && (a.2.2 + b.2.2) % 2 == 0 then
    dfactOdd ((a.1 + b.1) / 2) * dfactOdd ((a.2.1 + b.2.1) / 2) * dfactOdd ((a.2.2 + b.2.2) / 2)
  else 0

def Poly3.scaled (d : Nat) (p : Poly3) : List (Comp × Int) :=
  p.map fun t => (t.1, (t.2 * (d : Rat)).num)

def Poly3.clears (d : Nat) (p : Poly3) : Bool := p.all fun t => (t.2 * (d : Rat)).den == 1

def QZ (p q : List (Comp × Int)) : Int :=
  (p.map fun s => s.2 * (q.map fun t => t.2 * (metricN s.1 t.1 : Int)).sum).sum

/-- `orthoEntry l k k'`, skipped where the parity classes differ and otherwise evaluated in
integers over the common denominator `4 ^ (l / 2)` of the coefficients (`expCoeff` has `4 ^ i`,
`2 i ≤ l`, in the denominator) -/
def fastEntry (l : Nat) (k k' : Nat × Bool) : Bool :=
  let d := 4 ^ (l / 2)
  let p := harmonic l k.1 k.2
  let q := harmonic l k'.1 k'.2
  (k != k' && p.parity?.isSome && q.parity?.isSome && p.parity? != q.parity?) ||
  (p.clears d && q.clears d &&
    let z : Rat := (QZ (p.scaled d) (q.scaled d) : Int) / ((d * d : Nat) : Rat)
    if k == k' then normSq l k.1 * z == ((dfactOdd l : Nat) : Rat) else z == 0)

def orthoFast (l : Nat) : Bool := allPairs (fastEntry l) (harmonics l)

/-! ## Products, canonical form -/

def Poly3.mulRaw (p q : Poly3) : Poly3 :=
  p.flatMap fun s => q.map fun t => ((s.1.1 + t.1.1, s.1.2.1 + t.1.2.1, s.1.2.2 + t.1.2.2), s.2 * t.2)

def Comp.lt (a b : Comp) : Bool :=
  a.1 < b.1 || (a.1 == b.1 && (a.2.1 < b.2.1 || (a.2.1 == b.2.1 && a.2.2 < b.2.2)))

def Poly3.insertSorted (t : Comp × Rat) : Poly3 → Poly3
  | [] => [t]
  | h :: r => if Comp.lt t.1 h.1 then t :: h :: r else h :: Poly3.insertSorted t r

def Poly3.sort (p : Poly3) : Poly3 := p.foldr Poly3.insertSorted []

def Poly3.canon (p : Poly3) : Poly3 := (Poly3.sum p).sort

/-! ## Azimuthal form -/

/-- real and imaginary part of `(x + i y)^m`, by `(x+iy)^{m+1} = (x+iy)(x+iy)^m` -/
def reimXY : Nat → Poly3 × Poly3
  | 0 => ([((0, 0, 0), 1)], [])
  | m + 1 =>
    let r := reimXY m
    (Poly3.sum (Poly3.mulRaw [((1, 0, 0), 1)] r.1 ++ Poly3.mulRaw [((0, 1, 0), -1)] r.2),
     Poly3.sum (Poly3.mulRaw [((1, 0, 0), 1)] r.2 ++ Poly3.mulRaw [((0, 1, 0), 1)] r.1))

def reXY (m : Nat) : Poly3 := (reimXY m).1
def imXY (m : Nat) : Poly3 := (reimXY m).2

/-- the binomial expansions of `Re (x+iy)^m` and `Im (x+iy)^m` -/
def reXYbinom (m : Nat) : Poly3 :=
  (List.range (m / 2 + 1)).map fun k =>
    ((m - 2 * k, 2 * k, 0), (if k % 2 == 0 then 1 else -1 : Rat) * (choose m (2 * k) : Nat))
def imXYbinom (m : Nat) : Poly3 :=
  (List.range ((m + 1) / 2)).map fun k =>
    ((m - 2 * k - 1, 2 * k + 1, 0), (if k % 2 == 0 then 1 else -1 : Rat) * (choose m (2 * k + 1) : Nat))

/-- coefficient of `(x²+y²)^i z^{l-m-2i}` in the common factor of `c_m` and `s_m` -/
def fCoef (l m i : Nat) : Rat :=
  (if i % 2 == 0 then 1 else -1 : Rat) * (1 / ((4 ^ i : Nat) : Rat)) * (choose l i : Nat) * (choose (l - i) (m + i) : Nat)

/-- `a (x² + y²)^i z^e`, expanded -/
def rhoTerm (a : Rat) (i e : Nat) : Poly3 :=
  (List.range (i + 1)).map fun j => ((2 * (i - j), 2 * j, e), a * (choose i j : Nat))

/-- the common factor `f_{l,m}(z, x²+y²)` of `c_m` and `s_m` -/
def fPoly (l m : Nat) : Poly3 :=
  (List.range ((l - m) / 2 + 1)).flatMap fun i => rhoTerm (fCoef l m i) i (l - m - 2 * i)

/-- `p - q`, summed term by term onto `p`, is the empty list.  The kernel compares two list polynomials
this way, without sorting either: it gives `toMv p = toMv q`, and `p.canon = q.canon` when the monomials of
`p` are distinct (`toMv_eq_of_cancels`, `canon_eq_of_cancels` in `Sound.lean`) -/
def Poly3.cancels (p q : Poly3) : Bool := (q.foldl (fun acc t => acc.addTerm t.1 (-t.2)) p).isEmpty

/-- the azimuthal claim of C10 for `1 ≤ m ≤ l`: `c_m = f · Re (x+iy)^m`, `s_m = f · Im (x+iy)^m` with the
same `f` -/
def phaseOK (l m : Nat) : Bool :=
  (harmonic l m false).cancels (Poly3.mulRaw (fPoly l m) (reXY m)) &&
  (harmonic l m true).cancels (Poly3.mulRaw (fPoly l m) (imXY m))

def phaseAll (lmax : Nat) : Bool :=
  (List.range (lmax + 1)).all fun l =>
    (harmonic l 0 false).cancels (fPoly l 0) &&
    (List.range l).all fun m => phaseOK l (m + 1)

def binomAll (mmax : Nat) : Bool :=
  (List.range (mmax + 1)).all fun m =>
    (reXY m).cancels (reXYbinom m) && (imXY m).cancels (imXYbinom m)

/-! ## Label lists -/

/-- the canonical key list `c0 … cl, s1 … sl` used by `validSphOrder` -/
def sphKeys (l : Nat) : List (Bool × Nat) :=
  ((List.range (l+1)).map fun m => (false, m)) ++ ((List.range l).map fun m => (true, m+1))

end GB
