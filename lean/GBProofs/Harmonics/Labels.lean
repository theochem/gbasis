import GBProofs.Harmonics.Defs
import Mathlib.Data.List.Perm.Subperm
import Mathlib.Data.List.Nodup
import Mathlib.Data.List.Range
/-!
# Label conventions and validation of a caller-supplied spherical order

The part of C10 about a caller-specified order or sign convention: decision logic of `parseLabel` /
`validSphOrder` and the sign convention of `transEntryQ`.  String computations are evaluated by the kernel
(`decide +kernel`); the two tables over `l ≤ 10`, `parseNameAll_10` and `defaultSphAll_10`, are evaluated
in this file.
-/
namespace GB

/-! ## `parseLabel` -/

def parseNameAll (lmax : Nat) : Bool :=
  (List.range (lmax + 1)).all fun l => (harmonics l).all fun k =>
    decide (parseLabel l (SphLabel.name k.2 k.1) = some ⟨false, k.2, k.1⟩) &&
    decide (parseLabel l ("-" ++ SphLabel.name k.2 k.1) = some ⟨true, k.2, k.1⟩)

theorem parseNameAll_10 : parseNameAll 10 = true := by decide +kernel

theorem parseLabel_name (l : Nat) (hl : l ≤ 10) (m : Nat) (sine : Bool) (hm : m ≤ l)
    (hs : sine = true → 1 ≤ m) :
    parseLabel l (SphLabel.name sine m) = some ⟨false, sine, m⟩ ∧
    parseLabel l ("-" ++ SphLabel.name sine m) = some ⟨true, sine, m⟩ := by
  have h := parseNameAll_10
  simp only [parseNameAll, List.all_eq_true, List.mem_range, Bool.and_eq_true,
    decide_eq_true_eq] at h
  exact h l (by omega) (m, sine) ((mem_harmonics l m sine).2 ⟨hm, hs⟩)

theorem parseLabel_range (l : Nat) (s : String) (lab : SphLabel) (h : parseLabel l s = some lab) :
    lab.m ≤ l ∧ (lab.sine = true → 1 ≤ lab.m) := by
  unfold parseLabel at h
  simp only at h
  split at h
  · rename_i p hp
    have hmem := List.mem_of_find?_eq_some hp
    simp only [Option.some.injEq] at h
    subst h
    simp only [List.mem_append, List.mem_map, List.mem_range] at hmem
    rcases hmem with ⟨a, ha, rfl⟩ | ⟨a, ha, rfl⟩
    · simp; omega
    · simp; omega
  · simp at h

/-! ## `validSphOrder`: examples for `l = 1` -/

theorem reject_minus_inside : validSphOrder 1 ["c-1", "s1", "c0"] = none := by decide +kernel
theorem reject_double_minus : validSphOrder 1 ["--c1", "s1", "c0"] = none := by decide +kernel
theorem reject_trailing_minus : validSphOrder 1 ["c1-", "s1", "c0"] = none := by decide +kernel
theorem reject_leading_zero : validSphOrder 1 ["c01", "s1", "c0"] = none := by decide +kernel
theorem reject_too_short : validSphOrder 1 ["c1", "s1"] = none := by decide +kernel
theorem reject_duplicate : validSphOrder 1 ["c1", "c1", "c0"] = none := by decide +kernel
theorem reject_out_of_range : validSphOrder 1 ["c1", "s1", "c2"] = none := by decide +kernel
theorem reject_s0 : validSphOrder 1 ["c1", "s1", "s0"] = none := by decide +kernel
theorem reject_empty_label : validSphOrder 1 ["c1", "s1", ""] = none := by decide +kernel
theorem reject_upper_case : validSphOrder 1 ["C1", "s1", "c0"] = none := by decide +kernel
theorem reject_space : validSphOrder 1 ["c1 ", "s1", "c0"] = none := by decide +kernel
theorem reject_plus : validSphOrder 1 ["+c1", "s1", "c0"] = none := by decide +kernel
theorem reject_too_long : validSphOrder 1 ["c1", "s1", "c0", "c0"] = none := by decide +kernel
theorem accept_neg_c1 : validSphOrder 1 ["-c1", "s1", "c0"]
    = some [⟨true, false, 1⟩, ⟨false, true, 1⟩, ⟨false, false, 0⟩] := by decide +kernel
theorem accept_reordered : validSphOrder 1 ["c0", "-s1", "c1"]
    = some [⟨false, false, 0⟩, ⟨true, true, 1⟩, ⟨false, false, 1⟩] := by decide +kernel

/-! ## `validSphOrder`: general characterisation -/

theorem sphKeys_length (l : Nat) : (sphKeys l).length = 2 * l + 1 := by
  simp [sphKeys]; omega

theorem sphKeys_nodup (l : Nat) : (sphKeys l).Nodup := by
  unfold sphKeys
  refine List.Nodup.append ?_ ?_ ?_
  · exact (List.nodup_range).map (fun a b h => by simpa using h)
  · exact (List.nodup_range).map (fun a b h => by simpa using h)
  · intro a ha hb
    simp only [List.mem_map, List.mem_range] at ha hb
    obtain ⟨x, _, rfl⟩ := ha
    obtain ⟨y, _, hy⟩ := hb
    simp at hy

/-- C10: `validSphOrder` accepts exactly the signed permutations of `c0 … cl, s1 … sl`, for every `l` -/
theorem valid_iff_perm (l : Nat) (labels : List String) (ls : List SphLabel) :
    validSphOrder l labels = some ls ↔
      labels.mapM (parseLabel l) = some ls ∧
      (ls.map fun x => (x.sine, x.m)).Perm (sphKeys l) := by
  -- the Boolean test of `validSphOrder` decides `Perm`: a duplicate-free list of the right length
  -- that is contained in the keys is a permutation of them
  have key : ∀ ls' : List SphLabel,
      ((ls'.length == 2 * l + 1 && (sphKeys l).all fun k => (ls'.map fun x => (x.sine, x.m)).contains k) = true)
        ↔ (ls'.map fun x => (x.sine, x.m)).Perm (sphKeys l) := by
    intro ls'
    simp only [Bool.and_eq_true, beq_iff_eq, List.all_eq_true, List.contains_iff_mem]
    constructor
    · rintro ⟨hlen, hall⟩
      have hsp := (sphKeys_nodup l).subperm fun k hk => hall k hk
      exact (hsp.perm_of_length_le (by simp [sphKeys_length, hlen])).symm
    · intro hp
      exact ⟨by simpa [sphKeys_length] using hp.length_eq, fun k hk => hp.symm.subset hk⟩
  unfold validSphOrder
  cases labels.mapM (parseLabel l) with
  | none => simp
  | some ls' =>
    simp only [Option.some.injEq]
    constructor
    · intro h
      split_ifs at h with hb
      obtain rfl := Option.some.inj h
      exact ⟨rfl, (key _).1 hb⟩
    · rintro ⟨rfl, hp⟩
      exact if_pos ((key _).2 hp)

theorem length_of_mapM_some {α β : Type} (f : α → Option β) :
    ∀ (xs : List α) (ys : List β), xs.mapM f = some ys → ys.length = xs.length
  | [], ys, h => by
    simp at h; subst h; rfl
  | x :: xs, ys, h => by
    rw [List.mapM_cons] at h
    cases hx : f x with
    | none => simp [hx] at h
    | some b =>
      cases hxs : xs.mapM f with
      | none => simp [hx, hxs] at h
      | some bs =>
        simp [hx, hxs] at h
        subst h
        simp [length_of_mapM_some f xs bs hxs]

theorem valid_length (l : Nat) (labels : List String) (ls : List SphLabel)
    (h : validSphOrder l labels = some ls) : ls.length = 2 * l + 1 ∧ labels.length = 2 * l + 1 := by
  obtain ⟨h1, h2⟩ := (valid_iff_perm l labels ls).1 h
  have := h2.length_eq
  simp only [List.length_map, sphKeys_length] at this
  refine ⟨this, ?_⟩
  have hl := length_of_mapM_some _ _ _ h1
  omega

theorem valid_keys_nodup (l : Nat) (labels : List String) (ls : List SphLabel)
    (h : validSphOrder l labels = some ls) : (ls.map fun x => (x.sine, x.m)).Nodup :=
  ((valid_iff_perm l labels ls).1 h).2.nodup_iff.2 (sphKeys_nodup l)

/-! ## Sign convention -/

/-- C10, sign convention: a leading `-` negates the entry `rat · √sq` (`.1 = rat`, `.2 = sq`) -/
theorem transEntryQ_sign (l : Nat) (neg sine : Bool) (m : Nat) (c : Comp) :
    (transEntryQ l ⟨!neg, sine, m⟩ c).1 = - (transEntryQ l ⟨neg, sine, m⟩ c).1 ∧
    (transEntryQ l ⟨!neg, sine, m⟩ c).2 = (transEntryQ l ⟨neg, sine, m⟩ c).2 := by
  cases neg <;> simp [transEntryQ]

/-! ## The default order -/

def defaultSphAll (lmax : Nat) : Bool :=
  (List.range (lmax + 1)).all fun l =>
    decide (validSphOrder l ((defaultSph l).map fun x => SphLabel.name x.sine x.m) = some (defaultSph l))

theorem defaultSphAll_10 : defaultSphAll 10 = true := by decide +kernel

theorem defaultSph_valid (l : Nat) (hl : l ≤ 10) :
    validSphOrder l ((defaultSph l).map fun x => SphLabel.name x.sine x.m) = some (defaultSph l) := by
  have h := defaultSphAll_10
  simp only [defaultSphAll, List.all_eq_true, List.mem_range, decide_eq_true_eq] at h
  exact h l (by omega)

end GB
