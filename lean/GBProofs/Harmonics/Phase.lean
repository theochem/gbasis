import GBProofs.Harmonics.Check.Tables
import GBProofs.Harmonics.Sound
import GBProofs.Basic
import Mathlib.Data.Complex.Basic
import Mathlib.Data.Rat.Cast.CharZero
import Mathlib.Data.Nat.Choose.Sum
import Mathlib.Algebra.MvPolynomial.Eval
/-!
# C10: azimuthal form and phase convention of the harmonics

For `1 ≤ m ≤ l ≤ 10`: `c_m = f · Re (x+iy)^m` and `s_m = f · Im (x+iy)^m` with the same
`f = Σ_i a_i (x²+y²)^i z^{l-m-2i}`, whose value on the positive `z` axis is `C(l,m) z^{l-m} > 0`
(no Condon–Shortley sign; cosine ↔ `Re`, sine ↔ `Im`).
-/
namespace GB
open MvPolynomial

theorem toMv_map_range (n : ℕ) (g : ℕ → Comp × ℚ) :
    toMv ((List.range n).map g) = ∑ j ∈ Finset.range n, monoMv (g j).1 (g j).2 := by
  induction n with
  | zero => simp
  | succ n ih => simp [List.range_succ, Finset.sum_range_succ, ih]

theorem toMv_flatMap_range (n : ℕ) (g : ℕ → Poly3) :
    toMv ((List.range n).flatMap g) = ∑ i ∈ Finset.range n, toMv (g i) := by
  induction n with
  | zero => simp
  | succ n ih => simp [List.range_succ, Finset.sum_range_succ, ih]

/-! ## `reXY`, `imXY` are the real and imaginary part of `(x + i y)^m` (every `m`) -/

noncomputable def toC (p : Poly3) : MvPolynomial (Fin 3) ℂ := map (Rat.castHom ℂ) (toMv p)

theorem toMv_reXY_succ (m : ℕ) :
    toMv (reXY (m + 1)) = X 0 * toMv (reXY m) - X 1 * toMv (imXY m) := by
  have : reXY (m + 1) = Poly3.sum (Poly3.mulRaw [((1, 0, 0), 1)] (reXY m)
      ++ Poly3.mulRaw [((0, 1, 0), -1)] (imXY m)) := rfl
  rw [this, toMv_sum, toMv_append, toMv_mulRaw, toMv_mulRaw]
  simp only [toMv_cons, toMv_nil, add_zero, monoMv, C_1, pow_one, pow_zero, mul_one, one_mul, C_neg,
    neg_mul, sub_eq_add_neg]

theorem toMv_imXY_succ (m : ℕ) :
    toMv (imXY (m + 1)) = X 0 * toMv (imXY m) + X 1 * toMv (reXY m) := by
  have : imXY (m + 1) = Poly3.sum (Poly3.mulRaw [((1, 0, 0), 1)] (imXY m)
      ++ Poly3.mulRaw [((0, 1, 0), 1)] (reXY m)) := rfl
  rw [this, toMv_sum, toMv_append, toMv_mulRaw, toMv_mulRaw]
  simp only [toMv_cons, toMv_nil, add_zero, monoMv, C_1, pow_one, pow_zero, mul_one, one_mul]

theorem reim_spec (m : ℕ) :
    toC (reXY m) + C Complex.I * toC (imXY m) = (X 0 + C Complex.I * X 1) ^ m := by
  have hI : (C Complex.I : MvPolynomial (Fin 3) ℂ) * C Complex.I = -1 := by
    rw [← C_mul, Complex.I_mul_I]; simp
  induction m with
  | zero => simp [toC, reXY, imXY, reimXY, monoMv]
  | succ m ih =>
    rw [pow_succ, ← ih]
    simp only [toC, toMv_reXY_succ, toMv_imXY_succ, map_sub, map_add, map_mul, map_X]
    linear_combination (-(X 1 : MvPolynomial (Fin 3) ℂ) * map (Rat.castHom ℂ) (toMv (imXY m))) * hI

/-! ## The common factor `f` -/

theorem toMv_rhoTerm (a : ℚ) (i e : ℕ) :
    toMv (rhoTerm a i e) = C a * (X 0 ^ 2 + X 1 ^ 2) ^ i * X 2 ^ e := by
  rw [rhoTerm, toMv_map_range, add_comm (X 0 ^ 2), add_pow, Finset.mul_sum, Finset.sum_mul]
  refine Finset.sum_congr rfl fun j _ => ?_
  simp only [monoMv, choose_eq_choose, C_mul, ← pow_mul]
  rw [← map_natCast (C : ℚ →+* MvPolynomial (Fin 3) ℚ)]
  ring

theorem fPoly_spec (l m : ℕ) :
    toMv (fPoly l m) = ∑ i ∈ Finset.range ((l - m) / 2 + 1),
      C (fCoef l m i) * (X 0 ^ 2 + X 1 ^ 2) ^ i * X 2 ^ (l - m - 2 * i) := by
  rw [fPoly, toMv_flatMap_range]
  exact Finset.sum_congr rfl fun i _ => toMv_rhoTerm _ _ _

theorem fCoef_zero (l m : ℕ) : fCoef l m 0 = (Nat.choose l m : ℚ) := by
  have h : fCoef l m 0 = 1 * (1 / ((1 : ℕ) : ℚ)) * (choose l 0 : ℕ) * (choose l m : ℕ) := rfl
  rw [h, choose_eq_choose, choose_eq_choose, Nat.choose_zero_right, Nat.cast_one, div_one, mul_one,
    mul_one, one_mul]

/-- the coefficient of `z^{l-m}` in `f` (its leading term near the pole) is `C(l,m)`: among the terms
`(x²+y²)^i z^{l-m-2i}` only `i = 0` is free of `x` and `y` -/
theorem fPoly_coeff_pole (l m : ℕ) :
    (Poly3.sum (fPoly l m)).coeff (0, 0, l - m) = (Nat.choose l m : ℚ) := by
  rw [Poly3.coeff_sum, fPoly, List.range_succ_eq_map, List.flatMap_cons, List.map_append,
    List.sum_append]
  refine (add_eq_left.2 (List.sum_eq_zero ?_)).trans ?_
  · intro x hx
    obtain ⟨t, ht, rfl⟩ := List.mem_map.1 hx
    obtain ⟨i', hi', ht⟩ := List.mem_flatMap.1 ht
    obtain ⟨i, -, rfl⟩ := List.mem_map.1 hi'
    obtain ⟨j, hj, rfl⟩ := List.mem_map.1 ht
    rw [if_neg]
    intro h
    rw [Prod.mk.injEq, Prod.mk.injEq] at h
    have := List.mem_range.1 hj
    omega
  · show (if ((0, 0, l - m) : Comp) = (0, 0, l - m) then fCoef l m 0 * ((choose 0 0 : ℕ) : ℚ) else 0) + 0 = _
    rw [if_pos rfl, add_zero, fCoef_zero]
    exact mul_one _

theorem fPoly_coeff_pole_pos (l m : ℕ) (hm : m ≤ l) :
    0 < (Poly3.sum (fPoly l m)).coeff (0, 0, l - m) := by
  rw [fPoly_coeff_pole]
  exact Nat.cast_pos.2 (Nat.choose_pos hm)

/-- C10, positive common factor near the pole: on the `z` axis `f` is `C(l,m) · z^{l-m}`, positive for `z > 0`
and `m ≤ l` -/
theorem fPoly_pole (l m : ℕ) (z : ℚ) :
    eval (fun i : Fin 3 => if i = 2 then z else 0) (toMv (fPoly l m)) = (Nat.choose l m : ℚ) * z ^ (l - m) := by
  rw [fPoly_spec, map_sum, Finset.sum_eq_single_of_mem 0 (Finset.mem_range.2 (Nat.succ_pos _))]
  · simp [fCoef_zero]
  · intro i _ hi
    simp [hi]

/-! ## The kernel-checked factorisation for `l ≤ 10` -/

theorem phaseOK_le_10 (l : ℕ) (hl : l ≤ 10) (m : ℕ) (hm1 : 1 ≤ m) (hm : m ≤ l) : phaseOK l m = true := by
  have h : phaseAll 10 = true := tables_10.2.1
  simp only [phaseAll, List.all_eq_true, List.mem_range, Bool.and_eq_true] at h
  have := (h l (by omega)).2 (m - 1) (by omega)
  rwa [Nat.sub_add_cancel hm1] at this

theorem phase_le_10_canon (l : ℕ) (hl : l ≤ 10) (m : ℕ) (hm1 : 1 ≤ m) (hm : m ≤ l) :
    Poly3.canon (harmonic l m false) = Poly3.canon (Poly3.mulRaw (fPoly l m) (reXY m)) ∧
    Poly3.canon (harmonic l m true) = Poly3.canon (Poly3.mulRaw (fPoly l m) (imXY m)) := by
  have h := phaseOK_le_10 l hl m hm1 hm
  simp only [phaseOK, Bool.and_eq_true] at h
  exact ⟨canon_eq_of_cancels (harmonic_keys_nodup ..) h.1,
    canon_eq_of_cancels (harmonic_keys_nodup ..) h.2⟩

/-- C10: `c_m` and `s_m` vary as `cos mφ` and `sin mφ` (`Re` and `Im` of `(x+iy)^m`, `reim_spec`) with the
common factor `fPoly l m` -/
theorem phase_le_10 (l : ℕ) (hl : l ≤ 10) (m : ℕ) (hm1 : 1 ≤ m) (hm : m ≤ l) :
    toMv (harmonic l m false) = toMv (fPoly l m) * toMv (reXY m) ∧
    toMv (harmonic l m true) = toMv (fPoly l m) * toMv (imXY m) ∧
    0 < (Poly3.sum (fPoly l m)).coeff (0, 0, l - m) := by
  obtain ⟨h1, h2⟩ := phase_le_10_canon l hl m hm1 hm
  exact ⟨by rw [toMv_eq_of_canon h1, toMv_mulRaw], by rw [toMv_eq_of_canon h2, toMv_mulRaw],
    fPoly_coeff_pole_pos l m hm⟩

theorem phase_zero_le_10 (l : ℕ) (hl : l ≤ 10) :
    toMv (harmonic l 0 false) = toMv (fPoly l 0) ∧ 0 < (harmonic l 0 false).coeff (0, 0, l) := by
  have h : phaseAll 10 = true := tables_10.2.1
  simp only [phaseAll, List.all_eq_true, List.mem_range, Bool.and_eq_true] at h
  have h0 := (h l (by omega)).1
  refine ⟨toMv_eq_of_cancels h0, ?_⟩
  rw [coeff_eq_of_cancels (harmonic_keys_nodup ..) h0]
  exact fPoly_coeff_pole_pos l 0 l.zero_le

theorem reim_binom_le_10 (m : ℕ) (hm : m ≤ 10) :
    toMv (reXY m) = toMv (reXYbinom m) ∧ toMv (imXY m) = toMv (imXYbinom m) := by
  have h : binomAll 10 = true := tables_10.2.2
  simp only [binomAll, List.all_eq_true, List.mem_range, Bool.and_eq_true] at h
  exact ⟨toMv_eq_of_cancels (h m (by omega)).1, toMv_eq_of_cancels (h m (by omega)).2⟩

end GB
