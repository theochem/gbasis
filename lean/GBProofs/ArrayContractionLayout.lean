import GBProofs.BlockContraction
import GBProofs.Layout

/-!
# Layout of a basis in which one shell is replaced (C13, array level — the index bookkeeping)

`Basis.splitColumns b i` (shell `i` replaced by its single-column shells `b[i].column 0, …`, in the
order of the columns) and `Basis.mapShell b i op` (shell `i` replaced by `op b[i]`, where `op` keeps
`nseg` and `nfun`) leave the number of functions unchanged, and every basis index `r` names the same
function as before (`…_total`, `…_locate`); the shell it then belongs to is given by
`Basis.splitColumns_shell` and `Basis.mapShell_getElem!`.
-/
namespace GB

section Generic
variable {K : Type}

/-! ## three-part bases -/

theorem locate_append3_left (A M P : Basis K) (r : ℕ) (hr : r < A.total) :
    Basis.locate (A ++ M ++ P) r = A.locate r := by
  rw [locate_append_left (A ++ M) P r (by rw [total_append]; omega), locate_append_left A M r hr]

theorem locate_append3_mid (A M P : Basis K) (x : ℕ) (hx : x < M.total) :
    Basis.locate (A ++ M ++ P) (A.total + x)
      = (A.size + (M.locate x).1, (M.locate x).2.1, (M.locate x).2.2) := by
  rw [locate_append_left (A ++ M) P _ (by rw [total_append]; omega)]
  exact locate_append_right A M x hx

theorem locate_append3_right (A M P : Basis K) (x : ℕ) (hx : x < P.total) :
    Basis.locate (A ++ M ++ P) (A.total + M.total + x)
      = (A.size + M.size + (P.locate x).1, (P.locate x).2.1, (P.locate x).2.2) := by
  have := locate_append_right (A ++ M) P x hx
  rw [total_append, Array.size_append] at this
  exact this

/-! ## bases of equally large single-segment shells -/

theorem offset_uniform (M : Basis K) (n : ℕ) (h : ∀ j (hj : j < M.size), M[j].size = n) :
    ∀ j, j ≤ M.size → M.offset j = j * n := by
  intro j
  induction j with
  | zero => intro _; rw [offset_zero]; simp
  | succ j ih =>
    intro hj
    rw [offset_succ M j (by omega), ih (by omega), h j (by omega), Nat.succ_mul]

theorem locate_uniform (M : Basis K) (n : ℕ)
    (h : ∀ j (hj : j < M.size), M[j].nseg = 1 ∧ M[j].nfun = n)
    (x : ℕ) (hx : x < M.size * n) : M.locate x = (x / n, 0, x % n) := by
  have hn : 0 < n := by
    rcases Nat.eq_zero_or_pos n with h0 | h0
    · subst h0; simp at hx
    · exact h0
  have hj : x / n < M.size := Nat.div_lt_of_lt_mul (by rwa [Nat.mul_comm] at hx)
  have hsz : ∀ j (hj : j < M.size), M[j].size = n := fun j hj => by
    unfold Shell.size; rw [(h j hj).1, (h j hj).2, Nat.one_mul]
  have hoff := offset_uniform M n hsz (x / n) hj.le
  have hxm : x % n < M[x / n].size := by rw [hsz _ hj]; exact Nat.mod_lt _ hn
  have key := locate_offset' M (x / n) hj (x % n) hxm
  rw [hoff, Nat.div_add_mod' x n] at key
  rw [key, (h _ hj).2, Nat.mod_mod, Nat.div_eq_of_lt (Nat.mod_lt _ hn)]

theorem nseg_eq (s : Shell K) : s.nseg = (s.coefs[0]?.getD #[]).size := by
  unfold Shell.nseg
  cases s.coefs[0]? <;> rfl

theorem total_singleton (s : Shell K) : Basis.total (#[s] : Basis K) = s.size := by
  simp [total_eq_sum]

theorem locate_singleton (s : Shell K) (x : ℕ) (hx : x < s.size) :
    Basis.locate (#[s] : Basis K) x = (0, x / s.nfun, x % s.nfun) := by
  have key := locate_offset' (#[s] : Basis K) 0 (by simp) x (by simpa using hx)
  rw [offset_zero, Nat.zero_add] at key
  simpa using key

/-! ## cutting a basis at shell `i` -/

def Basis.pre (b : Basis K) (i : ℕ) : Basis K := (b.toList.take i).toArray
def Basis.post (b : Basis K) (i : ℕ) : Basis K := (b.toList.drop (i + 1)).toArray

theorem Basis.pre_size (b : Basis K) (i : ℕ) (hi : i ≤ b.size) : (b.pre i).size = i := by
  simp only [Basis.pre, List.size_toArray, List.length_take, Array.length_toList]
  exact Nat.min_eq_left hi

theorem Basis.post_size (b : Basis K) (i : ℕ) : (b.post i).size = b.size - (i + 1) := by
  simp only [Basis.post, List.size_toArray, List.length_drop, Array.length_toList]

theorem Basis.eq_pre_append_post (b : Basis K) (i : ℕ) (hi : i < b.size) :
    b = b.pre i ++ #[b[i]] ++ b.post i := by
  apply Array.ext'
  have hl : i < b.toList.length := by simpa using hi
  simp only [Basis.pre, Basis.post, Array.toList_append, List.append_assoc]
  have h1 : b.toList.drop i = b.toList[i] :: b.toList.drop (i + 1) := List.drop_eq_getElem_cons hl
  have h2 : b.toList[i] = b[i] := by simp
  conv_lhs => rw [← List.take_append_drop i b.toList, h1, h2]
  simp

/-! ## replacing shell `i` by `op b[i]` -/

def Basis.mapShell (b : Basis K) (i : ℕ) (op : Shell K → Shell K) : Basis K := b.modify i op

theorem Basis.mapShell_size (b : Basis K) (i : ℕ) (op : Shell K → Shell K) :
    (b.mapShell i op).size = b.size := by
  simp [Basis.mapShell]

theorem Basis.mapShell_getElem (b : Basis K) (i : ℕ) (op : Shell K → Shell K) (j : ℕ)
    (hj : j < b.size) (hj' : j < (b.mapShell i op).size) :
    (b.mapShell i op)[j] = if i = j then op b[j] else b[j] := by
  simp [Basis.mapShell, Array.getElem_modify]

theorem Basis.mapShell_shape (b : Basis K) (i : ℕ) (op : Shell K → Shell K) (hi : i < b.size)
    (hseg : (op b[i]).nseg = b[i].nseg) (hfun : (op b[i]).nfun = b[i].nfun)
    (j : ℕ) (hj : j < b.size) (hj' : j < (b.mapShell i op).size) :
    (b.mapShell i op)[j].nseg = b[j].nseg ∧ (b.mapShell i op)[j].nfun = b[j].nfun := by
  rw [Basis.mapShell_getElem b i op j hj]
  by_cases h : i = j
  · subst h; rw [if_pos rfl]; exact ⟨hseg, hfun⟩
  · rw [if_neg h]; exact ⟨rfl, rfl⟩

theorem Basis.mapShell_total (b : Basis K) (i : ℕ) (op : Shell K → Shell K) (hi : i < b.size)
    (hseg : (op b[i]).nseg = b[i].nseg) (hfun : (op b[i]).nfun = b[i].nfun) :
    (b.mapShell i op).total = b.total := by
  refine total_congr b _ (Basis.mapShell_size b i op) fun j hj hj' => ?_
  have := Basis.mapShell_shape b i op hi hseg hfun j hj hj'
  unfold Shell.size; rw [this.1, this.2]

theorem Basis.mapShell_locate (b : Basis K) (i : ℕ) (op : Shell K → Shell K) (hi : i < b.size)
    (hseg : (op b[i]).nseg = b[i].nseg) (hfun : (op b[i]).nfun = b[i].nfun) (r : ℕ) :
    (b.mapShell i op).locate r = b.locate r :=
  locate_congr b _ (Basis.mapShell_size b i op)
    (fun j hj hj' => Basis.mapShell_shape b i op hi hseg hfun j hj hj') r

end Generic

section Ops
variable {K : Type} [Transc K]

/-! ## shells read with `[j]!` -/

theorem Basis.mapShell_getElem! (b : Basis K) (i : ℕ) (op : Shell K → Shell K) (j : ℕ)
    (hj : j < b.size) :
    (b.mapShell i op)[j]! = if i = j then op b[j]! else b[j]! := by
  rw [getElem!_pos (b.mapShell i op) j (by rw [Basis.mapShell_size]; exact hj),
    getElem!_pos b j hj, Basis.mapShell_getElem b i op j hj]

theorem getElem!_append (A B : Basis K) (j : ℕ) :
    (A ++ B)[j]! = if j < A.size then A[j]! else B[j - A.size]! := by
  simp only [getElem!_def, Array.getElem?_append]
  split_ifs <;> rfl

theorem Basis.pre_getElem! (b : Basis K) (i j : ℕ) (hj : j < i) : (b.pre i)[j]! = b[j]! := by
  unfold Basis.pre
  simp only [getElem!_def, List.getElem?_toArray, List.getElem?_take, if_pos hj,
    Array.getElem?_toList]

theorem Basis.post_getElem! (b : Basis K) (i p : ℕ) : (b.post i)[p]! = b[i + 1 + p]! := by
  unfold Basis.post
  simp only [getElem!_def, List.getElem?_toArray, List.getElem?_drop, Array.getElem?_toList]

/-! ## splitting a generalized shell into its columns -/

def Shell.columns (s : Shell K) : Basis K := Array.ofFn (n := s.nseg) fun m => s.column m.val

def Basis.splitColumns (b : Basis K) (i : ℕ) : Basis K :=
  if h : i < b.size then b.pre i ++ b[i].columns ++ b.post i else b

theorem Shell.columns_size (s : Shell K) : s.columns.size = s.nseg := by
  simp [Shell.columns]

theorem Shell.columns_getElem (s : Shell K) (m : ℕ) (h : m < s.columns.size) :
    s.columns[m] = s.column m := by
  simp [Shell.columns]

theorem column_nseg' (s : Shell K) (m : ℕ) (h : 0 < s.nseg) : (s.column m).nseg = 1 := by
  rw [nseg_eq] at h ⊢
  show ((s.coefs.map _)[0]?.getD #[]).size = 1
  rw [Array.getElem?_map]
  cases hc : s.coefs[0]? with
  | none => rw [hc] at h; exact absurd h (Nat.lt_irrefl 0)
  | some r => rfl

theorem column_nfun (s : Shell K) (m : ℕ) : (s.column m).nfun = s.nfun := rfl

theorem Shell.columns_shape (s : Shell K) (j : ℕ) (hj : j < s.columns.size) :
    s.columns[j].nseg = 1 ∧ s.columns[j].nfun = s.nfun := by
  rw [Shell.columns_getElem]
  have : j < s.nseg := by rwa [Shell.columns_size] at hj
  exact ⟨column_nseg' s j (by omega), rfl⟩

theorem Shell.columns_total (s : Shell K) : s.columns.total = s.size := by
  rw [total_eq_offset_size, offset_uniform s.columns s.nfun (fun j hj => by
    unfold Shell.size
    rw [(Shell.columns_shape s j hj).1, (Shell.columns_shape s j hj).2, Nat.one_mul])
    s.columns.size (Nat.le_refl _), Shell.columns_size]
  rfl

theorem Shell.columns_locate (s : Shell K) (x : ℕ) (hx : x < s.size) :
    s.columns.locate x = (x / s.nfun, 0, x % s.nfun) :=
  locate_uniform s.columns s.nfun (Shell.columns_shape s) x (by rw [Shell.columns_size]; exact hx)

theorem Basis.splitColumns_total (b : Basis K) (i : ℕ) : (b.splitColumns i).total = b.total := by
  unfold Basis.splitColumns
  by_cases hi : i < b.size
  · rw [dif_pos hi]
    conv_rhs => rw [Basis.eq_pre_append_post b i hi]
    simp only [total_append, Shell.columns_total, total_singleton]
  · rw [dif_neg hi]

theorem locate_split_aux (A P : Basis K) (s : Shell K) (r : ℕ)
    (hr : r < Basis.total (A ++ #[s] ++ P)) :
    Basis.locate (A ++ s.columns ++ P) r
      = if (Basis.locate (A ++ #[s] ++ P) r).1 < A.size then Basis.locate (A ++ #[s] ++ P) r
        else if (Basis.locate (A ++ #[s] ++ P) r).1 = A.size then
          (A.size + (Basis.locate (A ++ #[s] ++ P) r).2.1, 0, (Basis.locate (A ++ #[s] ++ P) r).2.2)
        else ((Basis.locate (A ++ #[s] ++ P) r).1 + s.nseg - 1,
          (Basis.locate (A ++ #[s] ++ P) r).2.1, (Basis.locate (A ++ #[s] ++ P) r).2.2) := by
  rw [total_append, total_append, total_singleton] at hr
  by_cases h1 : r < A.total
  · rw [locate_append3_left A _ P r h1, locate_append3_left A _ P r h1, if_pos (locate_lt A r h1).1]
  · obtain ⟨x, rfl⟩ := Nat.exists_eq_add_of_le (Nat.le_of_not_lt h1)
    by_cases h2 : x < s.size
    · rw [locate_append3_mid A s.columns P x (by rw [Shell.columns_total]; exact h2),
        locate_append3_mid A #[s] P x (by rw [total_singleton]; exact h2),
        Shell.columns_locate s x h2, locate_singleton s x h2, Nat.add_zero,
        if_neg (Nat.lt_irrefl _), if_pos rfl]
    · obtain ⟨y, rfl⟩ := Nat.exists_eq_add_of_le (Nat.le_of_not_lt h2)
      have hy : y < P.total := by omega
      have e1 := locate_append3_right A s.columns P y hy
      have e2 := locate_append3_right A #[s] P y hy
      rw [Shell.columns_total, Shell.columns_size] at e1
      rw [total_singleton, show (#[s] : Basis K).size = 1 from rfl] at e2
      rw [← Nat.add_assoc, e1, e2, if_neg (by omega), if_neg (by omega)]
      refine Prod.ext ?_ rfl
      show A.size + s.nseg + (P.locate y).1 = A.size + 1 + (P.locate y).1 + s.nseg - 1
      omega

/-- Basis index `r` of `b.splitColumns i` names the same function as basis index `r` of `b`: a function
`(i, m, f)` of the split shell is function `f` of the single segment of shell `i + m` of the new
basis; functions of earlier shells keep their place; functions of later shells have their shell
index shifted by `nseg - 1`. -/
theorem Basis.splitColumns_locate (b : Basis K) (i : ℕ) (hi : i < b.size) (r : ℕ)
    (hr : r < b.total) :
    (b.splitColumns i).locate r
      = if (b.locate r).1 < i then b.locate r
        else if (b.locate r).1 = i then (i + (b.locate r).2.1, 0, (b.locate r).2.2)
        else ((b.locate r).1 + b[i].nseg - 1, (b.locate r).2.1, (b.locate r).2.2) := by
  have hb := Basis.eq_pre_append_post b i hi
  have key := locate_split_aux (b.pre i) (b.post i) b[i] r (by rw [← hb]; exact hr)
  rw [← hb, Basis.pre_size b i hi.le] at key
  unfold Basis.splitColumns
  rw [dif_pos hi]
  exact key

theorem Basis.splitColumns_size (b : Basis K) (i : ℕ) (hi : i < b.size) :
    (b.splitColumns i).size = i + b[i].nseg + (b.size - (i + 1)) := by
  unfold Basis.splitColumns
  rw [dif_pos hi]
  simp only [Array.size_append, Basis.pre_size b i hi.le, Shell.columns_size, Basis.post_size]

theorem Basis.splitColumns_getElem_lt (b : Basis K) (i : ℕ) (hi : i < b.size) (j : ℕ) (hj : j < i) :
    (b.splitColumns i)[j]! = b[j]! := by
  have hp := Basis.pre_size b i hi.le
  unfold Basis.splitColumns
  rw [dif_pos hi, getElem!_append, Array.size_append, hp, if_pos (Nat.lt_add_right _ hj),
    getElem!_append, hp, if_pos hj, Basis.pre_getElem! b i j hj]

theorem Basis.splitColumns_getElem_mid (b : Basis K) (i : ℕ) (hi : i < b.size) (m : ℕ)
    (hm : m < b[i].nseg) : (b.splitColumns i)[i + m]! = b[i].column m := by
  have hp := Basis.pre_size b i hi.le
  unfold Basis.splitColumns
  rw [dif_pos hi, getElem!_append, Array.size_append, hp, Shell.columns_size,
    if_pos (Nat.add_lt_add_left hm i), getElem!_append, hp,
    if_neg (Nat.not_lt.mpr (Nat.le_add_right i m)), Nat.add_sub_cancel_left,
    getElem!_pos _ m (by rw [Shell.columns_size]; exact hm), Shell.columns_getElem]

theorem Basis.splitColumns_getElem_gt (b : Basis K) (i : ℕ) (hi : i < b.size) (p : ℕ) :
    (b.splitColumns i)[i + b[i].nseg + p]! = b[i + 1 + p]! := by
  unfold Basis.splitColumns
  rw [dif_pos hi, getElem!_append, Array.size_append, Basis.pre_size b i hi.le, Shell.columns_size,
    if_neg (Nat.not_lt.mpr (Nat.le_add_right _ p)), Nat.add_sub_cancel_left, Basis.post_getElem!]

theorem Basis.splitColumns_shell (b : Basis K) (i : ℕ) (hi : i < b.size) (r : ℕ)
    (hr : r < b.total) :
    (b.splitColumns i)[((b.splitColumns i).locate r).1]!
      = if (b.locate r).1 = i then b[i].column (b.locate r).2.1 else b[(b.locate r).1]! := by
  obtain ⟨hlt, hm, -, -⟩ := locate_lt b r hr
  rw [Basis.splitColumns_locate b i hi r hr]
  rcases Nat.lt_trichotomy (b.locate r).1 i with h | h | h
  · rw [if_pos h, if_neg (Nat.ne_of_lt h)]
    exact Basis.splitColumns_getElem_lt b i hi _ h
  · rw [if_neg (Nat.not_lt.mpr (Nat.le_of_eq h.symm)), if_pos h, if_pos h]
    rw [getElem_congr_idx h] at hm
    exact Basis.splitColumns_getElem_mid b i hi _ hm
  · obtain ⟨p, hp⟩ : ∃ p, (b.locate r).1 = i + 1 + p := ⟨_, (Nat.add_sub_cancel' h).symm⟩
    have e : i + 1 + p + b[i].nseg - 1 = i + b[i].nseg + p := by omega
    rw [if_neg (Nat.lt_asymm h), if_neg (Nat.ne_of_gt h), if_neg (Nat.ne_of_gt h), hp, e]
    exact Basis.splitColumns_getElem_gt b i hi p

end Ops

end GB
