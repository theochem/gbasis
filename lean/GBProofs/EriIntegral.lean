import GBProofs.EriBlock
import GBProofs.CoulombTwoElectron
import GBProofs.Definiteness

/-!
# The electron-repulsion block is the six-dimensional Coulomb integral

C04.  A four-index family that satisfies both families of horizontal relations is determined by its
values at `b = d = 0` (`horiz4_unique`).  The integrals `eriPrimInt` of four un-normalised primitives
`primFnE` satisfy them (`(x-B) = (x-A) + (A-B)` under the integral sign), the Rys form `eriQuartet`
satisfies them by construction, and at `b = d = 0` the two agree by `coulomb2_general`; hence
`eriQuartet_eq_integral`.  Summing over the primitives gives `eriBlock_eq_integral`: every entry of the
model `eriBlock` of `ElectronRepulsionIntegral.construct_array_contraction` is `eriExact`.  The
non-negativity, Schwarz bound and positive semi-definiteness of C17 and the eight-fold symmetry are then
read off the integrals.
-/
open Finset

namespace GB

/-! ## 1. Uniqueness of solutions of the horizontal relations -/
section Unique
variable {K : Type} [Field K]

theorem HorizRel.unique {AB : ℕ → K} {g g' : ℕ × ℕ × ℕ → ℕ × ℕ × ℕ → K}
    (hg : HorizRel AB g) (hg' : HorizRel AB g') (h0 : ∀ a, g a (0,0,0) = g' a (0,0,0)) :
    ∀ a b, g a b = g' a b := by
  have hx : ∀ bx ax ay az, g (ax, ay, az) (bx, 0, 0) = g' (ax, ay, az) (bx, 0, 0) := by
    intro bx
    induction bx with
    | zero => intro ax ay az; exact h0 _
    | succ n ih => intro ax ay az; rw [hg.x, hg'.x, ih, ih]
  have hy : ∀ by' bx ax ay az, g (ax, ay, az) (bx, by', 0) = g' (ax, ay, az) (bx, by', 0) := by
    intro by'
    induction by' with
    | zero => exact hx
    | succ n ih => intro bx ax ay az; rw [hg.y, hg'.y, ih, ih]
  have hz : ∀ bz by' bx ax ay az, g (ax, ay, az) (bx, by', bz) = g' (ax, ay, az) (bx, by', bz) := by
    intro bz
    induction bz with
    | zero => exact hy
    | succ n ih => intro by' bx ax ay az; rw [hg.z, hg'.z, ih, ih]
  rintro ⟨ax, ay, az⟩ ⟨bx, by', bz⟩
  exact hz bz by' bx ax ay az

theorem horiz4_unique {AB CD : ℕ → K} {G G' : Comp → Comp → Comp → Comp → K}
    (hAB : ∀ c d, HorizRel AB (fun a b => G a b c d))
    (hCD : ∀ a b, HorizRel CD (fun c d => G a b c d))
    (hAB' : ∀ c d, HorizRel AB (fun a b => G' a b c d))
    (hCD' : ∀ a b, HorizRel CD (fun c d => G' a b c d))
    (h0 : ∀ a c, G a (0,0,0) c (0,0,0) = G' a (0,0,0) c (0,0,0)) :
    ∀ a b c d, G a b c d = G' a b c d := by
  intro a b c d
  refine HorizRel.unique (hAB c d) (hAB' c d) (fun a => ?_) a b
  exact HorizRel.unique (hCD a (0,0,0)) (hCD' a (0,0,0)) (fun c => h0 a c) c d

end Unique

/-! ## 2. One primitive quartet -/
section Prim
open MeasureTheory Real

noncomputable def primPair (α β : ℝ) (A B : E3) (a b : Comp) (r : E3) : ℝ :=
  primFnE α A a r * primFnE β B b r

lemma continuous_primPair (α β : ℝ) (A B : E3) (a b : Comp) :
    Continuous (primPair α β A B a b) :=
  (continuous_primFnE α A a).mul (continuous_primFnE β B b)

lemma gaussBdd_primPair (α β : ℝ) (hα : 0 < α) (hβ : 0 < β) (A B : E3) (a b : Comp) :
    GaussBdd (primPair α β A B a b) :=
  (gaussBdd_primFnE α hα A a).mul (gaussBdd_primFnE β hβ B b)

/-- `(ab|cd)` in chemists' notation: `a`, `b` sit on electron 1 (`z.1`), `c`, `d` on electron 2 (`z.2`) -/
noncomputable def eriPrimInt (α β γ δ : ℝ) (A B C D : E3) (a b c d : Comp) : ℝ :=
  ∫ z : E3 × E3, primFnE α A a z.1 * primFnE β B b z.1
      * (primFnE γ C c z.2 * primFnE δ D d z.2) / ‖z.1 - z.2‖

theorem eriPrimInt_integrable {α β γ δ : ℝ} (hα : 0 < α) (hβ : 0 < β) (hγ : 0 < γ) (hδ : 0 < δ)
    (A B C D : E3) (a b c d : Comp) :
    Integrable fun z : E3 × E3 => primFnE α A a z.1 * primFnE β B b z.1
      * (primFnE γ C c z.2 * primFnE δ D d z.2) / ‖z.1 - z.2‖ :=
  integrable_coulomb_pair (F := primPair α β A B a b) (G := primPair γ δ C D c d)
    (continuous_primPair α β A B a b).aestronglyMeasurable
    (continuous_primPair γ δ C D c d).aestronglyMeasurable
    (gaussBdd_primPair α β hα hβ A B a b) (gaussBdd_primPair γ δ hγ hδ C D c d)

lemma primFnE_bump0 (α : ℝ) (A : E3) (ax ay az : ℕ) (r : E3) :
    primFnE α A (ax+1, ay, az) r = (r 0 - A 0) * primFnE α A (ax, ay, az) r := by
  unfold primFnE; ring

lemma primFnE_bump1 (α : ℝ) (A : E3) (ax ay az : ℕ) (r : E3) :
    primFnE α A (ax, ay+1, az) r = (r 1 - A 1) * primFnE α A (ax, ay, az) r := by
  unfold primFnE; ring

lemma primFnE_bump2 (α : ℝ) (A : E3) (ax ay az : ℕ) (r : E3) :
    primFnE α A (ax, ay, az+1) r = (r 2 - A 2) * primFnE α A (ax, ay, az) r := by
  unfold primFnE; ring

lemma eriPrimInt_swap (α β γ δ : ℝ) (A B C D : E3) (a b c d : Comp) :
    eriPrimInt α β γ δ A B C D a b c d = eriPrimInt γ δ α β C D A B c d a b :=
  coulombMat_symm (fun i : Bool => bif i then primPair α β A B a b else primPair γ δ C D c d)
    true false

/-- One horizontal relation along the axis `u`, from `(x-B)_u = (x-A)_u + (A-B)_u` under the
integral sign.  `ha`, `hb` say that `a'`, `b'` are `a`, `b` raised by one along `u`; in this shape
the three axes share one proof. -/
lemma eriPrimInt_horiz {α β γ δ : ℝ} (hα : 0 < α) (hβ : 0 < β) (hγ : 0 < γ) (hδ : 0 < δ)
    (A B C D : E3) (u : Fin 3) (a a' b b' c d : Comp)
    (ha : ∀ r, primFnE α A a' r = (r u - A u) * primFnE α A a r)
    (hb : ∀ r, primFnE β B b' r = (r u - B u) * primFnE β B b r) :
    eriPrimInt α β γ δ A B C D a b' c d
      = eriPrimInt α β γ δ A B C D a' b c d + (A u - B u) * eriPrimInt α β γ δ A B C D a b c d := by
  unfold eriPrimInt
  rw [← integral_const_mul, ← integral_add (eriPrimInt_integrable hα hβ hγ hδ A B C D a' b c d)
    ((eriPrimInt_integrable hα hβ hγ hδ A B C D a b c d).const_mul _)]
  refine integral_congr_ae (Filter.Eventually.of_forall fun z => ?_)
  simp only []
  rw [ha, hb]
  ring

theorem horizAB_eriPrimInt {α β γ δ : ℝ} (hα : 0 < α) (hβ : 0 < β) (hγ : 0 < γ) (hδ : 0 < δ)
    (A B C D : ℕ → ℝ) (c d : Comp) :
    HorizRel (fun i => A i - B i)
      (fun a b => eriPrimInt α β γ δ (toE3 A) (toE3 B) (toE3 C) (toE3 D) a b c d) where
  x := fun ax ay az bx by' bz => eriPrimInt_horiz hα hβ hγ hδ _ _ _ _ 0 _ _ _ _ c d
    (primFnE_bump0 α _ ax ay az) (primFnE_bump0 β _ bx by' bz)
  y := fun ax ay az bx by' bz => eriPrimInt_horiz hα hβ hγ hδ _ _ _ _ 1 _ _ _ _ c d
    (primFnE_bump1 α _ ax ay az) (primFnE_bump1 β _ bx by' bz)
  z := fun ax ay az bx by' bz => eriPrimInt_horiz hα hβ hγ hδ _ _ _ _ 2 _ _ _ _ c d
    (primFnE_bump2 α _ ax ay az) (primFnE_bump2 β _ bx by' bz)

theorem horizCD_eriPrimInt {α β γ δ : ℝ} (hα : 0 < α) (hβ : 0 < β) (hγ : 0 < γ) (hδ : 0 < δ)
    (A B C D : ℕ → ℝ) (a b : Comp) :
    HorizRel (fun i => C i - D i)
      (fun c d => eriPrimInt α β γ δ (toE3 A) (toE3 B) (toE3 C) (toE3 D) a b c d) := by
  simp only [eriPrimInt_swap α β γ δ]
  exact horizAB_eriPrimInt hγ hδ hα hβ C D A B a b

/-- needed because `toE3` forgets the components `u ≥ 3` of a centre `ℕ → ℝ`, so the geometric
arguments of `Espec` on the two sides of `eriPrimInt_base` agree only for `u < 3` -/
theorem Espec_congr_geom {K : Type} [Field K] [CharZero K] (F : ℕ → K) (p q w w' : K)
    {PA QC PQ PA' QC' PQ' : ℕ → K}
    (hA : ∀ u, u < 3 → PA u = PA' u) (hC : ∀ u, u < 3 → QC u = QC' u)
    (hQ : ∀ u, u < 3 → PQ u = PQ' u) (m : ℕ) (a c : Comp) :
    Espec F p q w w' PA QC PQ m a c = Espec F p q w w' PA' QC' PQ' m a c := by
  simp only [Espec, hA 0 (by norm_num), hA 1 (by norm_num), hA 2 (by norm_num),
    hC 0 (by norm_num), hC 1 (by norm_num), hC 2 (by norm_num),
    hQ 0 (by norm_num), hQ 1 (by norm_num), hQ 2 (by norm_num)]

theorem eriPrimInt_base {α β γ δ : ℝ} (hα : 0 < α) (hβ : 0 < β) (hγ : 0 < γ) (hδ : 0 < δ)
    (A B C D : ℕ → ℝ) (a c : Comp) :
    eriPrimInt α β γ δ (toE3 A) (toE3 B) (toE3 C) (toE3 D) a (0,0,0) c (0,0,0)
      = eriQuartet Real.exp Real.sqrt π boys α β γ δ A B C D a (0,0,0) c (0,0,0) := by
  have hp : α + β ≠ 0 := (add_pos hα hβ).ne'
  have hq : γ + δ ≠ 0 := (add_pos hγ hδ).ne'
  have hpq : α + β + (γ + δ) ≠ 0 := (add_pos (add_pos hα hβ) (add_pos hγ hδ)).ne'
  have h := coulomb2_general hα hβ hγ hδ (toE3 A) (toE3 B) (toE3 C) (toE3 D) _ _
    (toE3_center α β A B) (toE3_center γ δ C D)
    ((α + β) * (γ + δ) / (α + β + (γ + δ)))
    ((α + β) * (γ + δ) / (α + β + (γ + δ)) / (α + β))
    ((α + β) * (γ + δ) / (α + β + (γ + δ)) / (γ + δ)) rfl (by field_simp) (by field_simp) a c
  unfold eriPrimInt eriQuartet
  rw [Measure.volume_eq_prod, integral_prod _ (eriPrimInt_integrable hα hβ hγ hδ _ _ _ _ _ _ _ _)]
  simp only [primFnE, pow_zero, mul_one, one_mul]
  rw [h, E4_zero, norm_sq_toE3_sub, norm_sq_toE3_sub, norm_sq_toE3_sub,
    Espec_congr_geom _ _ _ _ _ (comp3_toE3_sub _ _) (comp3_toE3_sub _ _) (comp3_toE3_sub _ _)]
  simp only [neg_mul, pow_two]

/-- `eriQuartet` is taken with the real `exp`, `√`, `π` and the true Boys function `boys`.  Both sides
satisfy the two families of horizontal relations and agree at `b = d = 0` (`eriPrimInt_base`). -/
theorem eriQuartet_eq_integral {α β γ δ : ℝ} (hα : 0 < α) (hβ : 0 < β) (hγ : 0 < γ) (hδ : 0 < δ)
    (A B C D : ℕ → ℝ) (a b c d : Comp) :
    eriQuartet Real.exp Real.sqrt π boys α β γ δ A B C D a b c d
      = ∫ z : E3 × E3, primFnE α (toE3 A) a z.1 * primFnE β (toE3 B) b z.1
          * (primFnE γ (toE3 C) c z.2 * primFnE δ (toE3 D) d z.2) / ‖z.1 - z.2‖ :=
  (horiz4_unique (horizAB_eriPrimInt hα hβ hγ hδ A B C D) (horizCD_eriPrimInt hα hβ hγ hδ A B C D)
    (horizAB_eriQuartet Real.exp Real.sqrt π boys α β γ δ A B C D)
    (horizCD_eriQuartet Real.exp Real.sqrt π boys α β γ δ A B C D)
    (eriPrimInt_base hα hβ hγ hδ A B C D) a b c d).symm

/-- the same with `primFnE` written out, so that the right-hand side can be read without a definition
of this development other than `toE3` -/
theorem eriQuartet_eq_integral' {α β γ δ : ℝ} (hα : 0 < α) (hβ : 0 < β) (hγ : 0 < γ) (hδ : 0 < δ)
    (A B C D : ℕ → ℝ) (a b c d : Comp) :
    eriQuartet Real.exp Real.sqrt π boys α β γ δ A B C D a b c d
      = ∫ z : E3 × E3,
          ((z.1 0 - A 0)^a.1 * (z.1 1 - A 1)^a.2.1 * (z.1 2 - A 2)^a.2.2
              * exp (-α * ‖z.1 - toE3 A‖^2))
            * ((z.1 0 - B 0)^b.1 * (z.1 1 - B 1)^b.2.1 * (z.1 2 - B 2)^b.2.2
              * exp (-β * ‖z.1 - toE3 B‖^2))
            * (((z.2 0 - C 0)^c.1 * (z.2 1 - C 1)^c.2.1 * (z.2 2 - C 2)^c.2.2
                * exp (-γ * ‖z.2 - toE3 C‖^2))
              * ((z.2 0 - D 0)^d.1 * (z.2 1 - D 1)^d.2.1 * (z.2 2 - D 2)^d.2.2
                * exp (-δ * ‖z.2 - toE3 D‖^2))) / ‖z.1 - z.2‖ :=
  eriQuartet_eq_integral hα hβ hγ hδ A B C D a b c d

theorem eriPrim_eq_integral (sa sb sc sd : Shell ℝ) (ka kb kc kd : ℕ)
    (ha : 0 < sa.exp! ka) (hb : 0 < sb.exp! kb) (hc : 0 < sc.exp! kc) (hd : 0 < sd.exp! kd)
    (a b c d : Comp) :
    eriPrim Real.exp Real.sqrt π boys sa sb sc sd ka kb kc kd a b c d
      = ∫ z : E3 × E3, primFnE (sa.exp! ka) (toE3 sa.ctr) a z.1 * primFnE (sb.exp! kb) (toE3 sb.ctr) b z.1
          * (primFnE (sc.exp! kc) (toE3 sc.ctr) c z.2 * primFnE (sd.exp! kd) (toE3 sd.ctr) d z.2)
          / ‖z.1 - z.2‖ :=
  eriQuartet_eq_integral ha hb hc hd sa.ctr sb.ctr sc.ctr sd.ctr a b c d

end Prim

/-! ## 3. The contracted block -/
section Block
open MeasureTheory Real

lemma pairDensity_expand (s t : Shell ℝ) (ma ca mb cb : ℕ) (r : E3) :
    pairDensity s t ma ca mb cb r
      = ∑ ka ∈ range s.nprim, ∑ kb ∈ range t.nprim,
          (s.coef! ka ma * normPrim (s.exp! ka) s.l (s.comp! ca)
            * (t.coef! kb mb * normPrim (t.exp! kb) t.l (t.comp! cb)))
          * (primFnE (s.exp! ka) (toE3 s.ctr) (s.comp! ca) r
              * primFnE (t.exp! kb) (toE3 t.ctr) (t.comp! cb) r) := by
  unfold pairDensity shellFnE
  rw [Finset.sum_mul_sum]
  refine Finset.sum_congr rfl fun ka _ => Finset.sum_congr rfl fun kb _ => ?_
  ring

lemma integral_sum4 (nA nB nC nD : ℕ) (w1 : ℕ → ℕ → ℝ) (w2 : ℕ → ℕ → ℝ)
    (F : ℕ → ℕ → E3 → ℝ) (G : ℕ → ℕ → E3 → ℝ)
    (hint : ∀ ka kb kc kd, ka < nA → kb < nB → kc < nC → kd < nD →
      Integrable fun z : E3 × E3 => F ka kb z.1 * G kc kd z.2 / ‖z.1 - z.2‖) :
    ∫ z : E3 × E3, (∑ ka ∈ range nA, ∑ kb ∈ range nB, w1 ka kb * F ka kb z.1)
        * (∑ kc ∈ range nC, ∑ kd ∈ range nD, w2 kc kd * G kc kd z.2) / ‖z.1 - z.2‖
      = ∑ ka ∈ range nA, ∑ kb ∈ range nB, ∑ kc ∈ range nC, ∑ kd ∈ range nD,
          (w1 ka kb * w2 kc kd) * ∫ z : E3 × E3, F ka kb z.1 * G kc kd z.2 / ‖z.1 - z.2‖ := by
  have hpt : ∀ z : E3 × E3, (∑ ka ∈ range nA, ∑ kb ∈ range nB, w1 ka kb * F ka kb z.1)
        * (∑ kc ∈ range nC, ∑ kd ∈ range nD, w2 kc kd * G kc kd z.2) / ‖z.1 - z.2‖
      = ∑ ka ∈ range nA, ∑ kb ∈ range nB, ∑ kc ∈ range nC, ∑ kd ∈ range nD,
          (w1 ka kb * w2 kc kd) * (F ka kb z.1 * G kc kd z.2 / ‖z.1 - z.2‖) := by
    intro z
    rw [Finset.sum_mul, Finset.sum_div]
    refine Finset.sum_congr rfl fun ka _ => ?_
    rw [Finset.sum_mul, Finset.sum_div]
    refine Finset.sum_congr rfl fun kb _ => ?_
    rw [Finset.mul_sum, Finset.sum_div]
    refine Finset.sum_congr rfl fun kc _ => ?_
    rw [Finset.mul_sum, Finset.sum_div]
    refine Finset.sum_congr rfl fun kd _ => ?_
    ring
  have h4 : ∀ ka ∈ range nA, ∀ kb ∈ range nB, ∀ kc ∈ range nC, ∀ kd ∈ range nD,
      Integrable fun z : E3 × E3 =>
        (w1 ka kb * w2 kc kd) * (F ka kb z.1 * G kc kd z.2 / ‖z.1 - z.2‖) :=
    fun ka ha kb hb kc hc kd hd => (hint ka kb kc kd (Finset.mem_range.mp ha)
      (Finset.mem_range.mp hb) (Finset.mem_range.mp hc) (Finset.mem_range.mp hd)).const_mul _
  have h3 := fun ka ha kb hb kc hc => integrable_finsetSum _ (h4 ka ha kb hb kc hc)
  have h2 := fun ka ha kb hb => integrable_finsetSum _ (h3 ka ha kb hb)
  have h1 := fun ka ha => integrable_finsetSum _ (h2 ka ha)
  simp_rw [hpt]
  rw [integral_finsetSum _ h1]
  refine Finset.sum_congr rfl fun ka ha => ?_
  rw [integral_finsetSum _ (h2 ka ha)]
  refine Finset.sum_congr rfl fun kb hb => ?_
  rw [integral_finsetSum _ (h3 ka ha kb hb)]
  refine Finset.sum_congr rfl fun kc hc => ?_
  rw [integral_finsetSum _ (h4 ka ha kb hb kc hc)]
  refine Finset.sum_congr rfl fun kd hd => ?_
  rw [integral_const_mul]

theorem eriRys_eq_eriExact (sa sb sc sd : Shell ℝ) (ma ca mb cb mc cc md cd : ℕ)
    (hsa : ∀ k, k < sa.nprim → 0 < sa.exp! k) (hsb : ∀ k, k < sb.nprim → 0 < sb.exp! k)
    (hsc : ∀ k, k < sc.nprim → 0 < sc.exp! k) (hsd : ∀ k, k < sd.nprim → 0 < sd.exp! k) :
    eriRys Real.exp Real.sqrt π boys sa sb sc sd ma ca mb cb mc cc md cd
      = eriExact sa sb sc sd ma ca mb cb mc cc md cd := by
  unfold eriExact
  simp_rw [pairDensity_expand]
  rw [integral_sum4 sa.nprim sb.nprim sc.nprim sd.nprim
    (fun ka kb => sa.coef! ka ma * normPrim (sa.exp! ka) sa.l (sa.comp! ca)
      * (sb.coef! kb mb * normPrim (sb.exp! kb) sb.l (sb.comp! cb)))
    (fun kc kd => sc.coef! kc mc * normPrim (sc.exp! kc) sc.l (sc.comp! cc)
      * (sd.coef! kd md * normPrim (sd.exp! kd) sd.l (sd.comp! cd)))
    (fun ka kb r => primFnE (sa.exp! ka) (toE3 sa.ctr) (sa.comp! ca) r
      * primFnE (sb.exp! kb) (toE3 sb.ctr) (sb.comp! cb) r)
    (fun kc kd r => primFnE (sc.exp! kc) (toE3 sc.ctr) (sc.comp! cc) r
      * primFnE (sd.exp! kd) (toE3 sd.ctr) (sd.comp! cd) r)
    (fun ka kb kc kd ha hb hc hd =>
      eriPrimInt_integrable (hsa ka ha) (hsb kb hb) (hsc kc hc) (hsd kd hd) _ _ _ _ _ _ _ _)]
  unfold eriRys eriContr
  rw [mul_assoc, mul_assoc, mul_assoc]
  simp only [Finset.sum_mul]
  refine Finset.sum_congr rfl fun ka hka => Finset.sum_congr rfl fun kb hkb =>
    Finset.sum_congr rfl fun kc hkc => Finset.sum_congr rfl fun kd hkd => ?_
  rw [eriPrim_eq_integral sa sb sc sd ka kb kc kd (hsa ka (Finset.mem_range.mp hka))
    (hsb kb (Finset.mem_range.mp hkb)) (hsc kc (Finset.mem_range.mp hkc))
    (hsd kd (Finset.mem_range.mp hkd))]
  unfold normPrim
  ring

/-- C04, one block in chemists' notation: every entry of the model `eriBlock` of
`ElectronRepulsionIntegral.construct_array_contraction` is
`(ab|cd) = ∬ φ_a φ_b (r₁) φ_c φ_d (r₂) / |r₁-r₂|` of the contracted shell functions, each primitive
normalised (`eriExact`).  `hboys`: the Boys table holds the true `boys T m = ∫₀¹ t^{2m} e^{-T t²} dt`;
how well the library's `PointChargeIntegral.boys_func` (a `hyp1f1` call) approximates it is outside
the claim.  `ha … hd`: nothing is claimed for a listed component of total degree `> l`. -/
theorem eriBlock_eq_integral (boysT : ℝ → ℕ → Tab ℝ)
    (hboys : ∀ T n m, m < n → (boysT T n).get m = boys T m)
    (sa sb sc sd : Shell ℝ) (ma ca mb cb mc cc md cd : ℕ)
    (hsa : ∀ k, k < sa.nprim → 0 < sa.exp! k) (hsb : ∀ k, k < sb.nprim → 0 < sb.exp! k)
    (hsc : ∀ k, k < sc.nprim → 0 < sc.exp! k) (hsd : ∀ k, k < sd.nprim → 0 < sd.exp! k)
    (ha : (sa.comp! ca).1 + (sa.comp! ca).2.1 + (sa.comp! ca).2.2 ≤ sa.l)
    (hb : (sb.comp! cb).1 + (sb.comp! cb).2.1 + (sb.comp! cb).2.2 ≤ sb.l)
    (hc : (sc.comp! cc).1 + (sc.comp! cc).2.1 + (sc.comp! cc).2.2 ≤ sc.l)
    (hd : (sd.comp! cd).1 + (sd.comp! cd).2.1 + (sd.comp! cd).2.2 ≤ sd.l) :
    (eriBlock boysT sa sb sc sd).get8 ma ca mb cb mc cc md cd
      = eriExact sa sb sc sd ma ca mb cb mc cc md cd := by
  have h1 := eriBlock_eq_rys Real.exp Real.sqrt π boysT boys sa sb sc sd ma ca mb cb mc cc md cd
    Real.sqrt_one (fun T m hm => hboys T _ m hm)
    (fun ka kb hka hkb => (add_pos (hsa ka hka) (hsb kb hkb)).ne')
    (fun kc kd hkc hkd => (add_pos (hsc kc hkc) (hsd kd hkd)).ne')
    (fun ka kb kc kd hka hkb hkc hkd =>
      (add_pos (add_pos (hsa ka hka) (hsb kb hkb)) (add_pos (hsc kc hkc) (hsd kd hkd))).ne')
    ha hb hc hd
  rw [h1]
  exact eriRys_eq_eriExact sa sb sc sd ma ca mb cb mc cc md cd hsa hsb hsc hsd

/-- `hboys` is satisfiable: the table `boysReal` -/
theorem eriBlock_boysReal_eq_integral
    (sa sb sc sd : Shell ℝ) (ma ca mb cb mc cc md cd : ℕ)
    (hsa : ∀ k, k < sa.nprim → 0 < sa.exp! k) (hsb : ∀ k, k < sb.nprim → 0 < sb.exp! k)
    (hsc : ∀ k, k < sc.nprim → 0 < sc.exp! k) (hsd : ∀ k, k < sd.nprim → 0 < sd.exp! k)
    (ha : (sa.comp! ca).1 + (sa.comp! ca).2.1 + (sa.comp! ca).2.2 ≤ sa.l)
    (hb : (sb.comp! cb).1 + (sb.comp! cb).2.1 + (sb.comp! cb).2.2 ≤ sb.l)
    (hc : (sc.comp! cc).1 + (sc.comp! cc).2.1 + (sc.comp! cc).2.2 ≤ sc.l)
    (hd : (sd.comp! cd).1 + (sd.comp! cd).2.1 + (sd.comp! cd).2.2 ≤ sd.l) :
    (eriBlock boysReal sa sb sc sd).get8 ma ca mb cb mc cc md cd
      = eriExact sa sb sc sd ma ca mb cb mc cc md cd :=
  eriBlock_eq_integral boysReal (fun _ n m _ => tab_get n _ m) sa sb sc sd ma ca mb cb mc cc md cd
    hsa hsb hsc hsd ha hb hc hd

end Block

/-! ## 4. Corollaries for the code's block -/
section Corollaries
open MeasureTheory Real

/-- C17 for one block: `(ab|ab) ≥ 0` -/
theorem eriBlock_self_nonneg (boysT : ℝ → ℕ → Tab ℝ)
    (hboys : ∀ T n m, m < n → (boysT T n).get m = boys T m)
    (sa sb : Shell ℝ) (ma ca mb cb : ℕ)
    (hsa : ∀ k, k < sa.nprim → 0 < sa.exp! k) (hsb : ∀ k, k < sb.nprim → 0 < sb.exp! k)
    (ha : (sa.comp! ca).1 + (sa.comp! ca).2.1 + (sa.comp! ca).2.2 ≤ sa.l)
    (hb : (sb.comp! cb).1 + (sb.comp! cb).2.1 + (sb.comp! cb).2.2 ≤ sb.l) :
    0 ≤ (eriBlock boysT sa sb sa sb).get8 ma ca mb cb ma ca mb cb := by
  rw [eriBlock_eq_integral boysT hboys sa sb sa sb ma ca mb cb ma ca mb cb hsa hsb hsa hsb
    ha hb ha hb]
  exact eriExact_self_nonneg sa sb ma ca mb cb hsa hsb

/-- C17 for one block: the Schwarz bound `|(ab|cd)| ≤ √(ab|ab) √(cd|cd)` -/
theorem eriBlock_schwarz (boysT : ℝ → ℕ → Tab ℝ)
    (hboys : ∀ T n m, m < n → (boysT T n).get m = boys T m)
    (sa sb sc sd : Shell ℝ) (ma ca mb cb mc cc md cd : ℕ)
    (hsa : ∀ k, k < sa.nprim → 0 < sa.exp! k) (hsb : ∀ k, k < sb.nprim → 0 < sb.exp! k)
    (hsc : ∀ k, k < sc.nprim → 0 < sc.exp! k) (hsd : ∀ k, k < sd.nprim → 0 < sd.exp! k)
    (ha : (sa.comp! ca).1 + (sa.comp! ca).2.1 + (sa.comp! ca).2.2 ≤ sa.l)
    (hb : (sb.comp! cb).1 + (sb.comp! cb).2.1 + (sb.comp! cb).2.2 ≤ sb.l)
    (hc : (sc.comp! cc).1 + (sc.comp! cc).2.1 + (sc.comp! cc).2.2 ≤ sc.l)
    (hd : (sd.comp! cd).1 + (sd.comp! cd).2.1 + (sd.comp! cd).2.2 ≤ sd.l) :
    |(eriBlock boysT sa sb sc sd).get8 ma ca mb cb mc cc md cd|
      ≤ √((eriBlock boysT sa sb sa sb).get8 ma ca mb cb ma ca mb cb)
        * √((eriBlock boysT sc sd sc sd).get8 mc cc md cd mc cc md cd) := by
  rw [eriBlock_eq_integral boysT hboys sa sb sc sd ma ca mb cb mc cc md cd hsa hsb hsc hsd
      ha hb hc hd,
    eriBlock_eq_integral boysT hboys sa sb sa sb ma ca mb cb ma ca mb cb hsa hsb hsa hsb
      ha hb ha hb,
    eriBlock_eq_integral boysT hboys sc sd sc sd mc cc md cd mc cc md cd hsc hsd hsc hsd
      hc hd hc hd]
  exact eriExact_schwarz sa sb sc sd ma ca mb cb mc cc md cd hsa hsb hsc hsd

/-- C17: the electron-repulsion array as a matrix over index pairs is positive semi-definite.  `ι`
indexes any finite family of pairs `(a_i, b_i)` of entries of shells, so the blocks of a whole basis
are covered at once. -/
theorem eriBlock_psd {ι : Type*} [Fintype ι] (boysT : ℝ → ℕ → Tab ℝ)
    (hboys : ∀ T n m, m < n → (boysT T n).get m = boys T m)
    (sa sb : ι → Shell ℝ) (ma ca mb cb : ι → ℕ)
    (hsa : ∀ i, ∀ k, k < (sa i).nprim → 0 < (sa i).exp! k)
    (hsb : ∀ i, ∀ k, k < (sb i).nprim → 0 < (sb i).exp! k)
    (ha : ∀ i, ((sa i).comp! (ca i)).1 + ((sa i).comp! (ca i)).2.1 + ((sa i).comp! (ca i)).2.2
      ≤ (sa i).l)
    (hb : ∀ i, ((sb i).comp! (cb i)).1 + ((sb i).comp! (cb i)).2.1 + ((sb i).comp! (cb i)).2.2
      ≤ (sb i).l)
    (x : ι → ℝ) :
    0 ≤ ∑ i, ∑ j, x i * (eriBlock boysT (sa i) (sb i) (sa j) (sb j)).get8 (ma i) (ca i) (mb i) (cb i)
        (ma j) (ca j) (mb j) (cb j) * x j := by
  have h := eriExact_psd sa sb ma ca mb cb hsa hsb x
  refine h.trans_eq (Finset.sum_congr rfl fun i _ => Finset.sum_congr rfl fun j _ => ?_)
  rw [eriBlock_eq_integral boysT hboys (sa i) (sb i) (sa j) (sb j) (ma i) (ca i) (mb i) (cb i)
    (ma j) (ca j) (mb j) (cb j) (hsa i) (hsb i) (hsa j) (hsb j) (ha i) (hb i) (ha j) (hb j)]

/-! ### The eight-fold symmetry of the exact integrals -/

lemma pairDensity_comm (s t : Shell ℝ) (ma ca mb cb : ℕ) :
    pairDensity s t ma ca mb cb = pairDensity t s mb cb ma ca := by
  funext r; unfold pairDensity; ring

theorem eriExact_swap_ab (sa sb sc sd : Shell ℝ) (ma ca mb cb mc cc md cd : ℕ) :
    eriExact sa sb sc sd ma ca mb cb mc cc md cd = eriExact sb sa sc sd mb cb ma ca mc cc md cd := by
  unfold eriExact; rw [pairDensity_comm sa sb]

theorem eriExact_swap_cd (sa sb sc sd : Shell ℝ) (ma ca mb cb mc cc md cd : ℕ) :
    eriExact sa sb sc sd ma ca mb cb mc cc md cd = eriExact sa sb sd sc ma ca mb cb md cd mc cc := by
  unfold eriExact; rw [pairDensity_comm sc sd]

theorem eriExact_swap_electrons (sa sb sc sd : Shell ℝ) (ma ca mb cb mc cc md cd : ℕ) :
    eriExact sa sb sc sd ma ca mb cb mc cc md cd = eriExact sc sd sa sb mc cc md cd ma ca mb cb :=
  coulombMat_symm (fun i : Bool => bif i then pairDensity sa sb ma ca mb cb
    else pairDensity sc sd mc cc md cd) true false

theorem eriBlock_swap_ab (boysT : ℝ → ℕ → Tab ℝ)
    (hboys : ∀ T n m, m < n → (boysT T n).get m = boys T m)
    (sa sb sc sd : Shell ℝ) (ma ca mb cb mc cc md cd : ℕ)
    (hsa : ∀ k, k < sa.nprim → 0 < sa.exp! k) (hsb : ∀ k, k < sb.nprim → 0 < sb.exp! k)
    (hsc : ∀ k, k < sc.nprim → 0 < sc.exp! k) (hsd : ∀ k, k < sd.nprim → 0 < sd.exp! k)
    (ha : (sa.comp! ca).1 + (sa.comp! ca).2.1 + (sa.comp! ca).2.2 ≤ sa.l)
    (hb : (sb.comp! cb).1 + (sb.comp! cb).2.1 + (sb.comp! cb).2.2 ≤ sb.l)
    (hc : (sc.comp! cc).1 + (sc.comp! cc).2.1 + (sc.comp! cc).2.2 ≤ sc.l)
    (hd : (sd.comp! cd).1 + (sd.comp! cd).2.1 + (sd.comp! cd).2.2 ≤ sd.l) :
    (eriBlock boysT sa sb sc sd).get8 ma ca mb cb mc cc md cd
      = (eriBlock boysT sb sa sc sd).get8 mb cb ma ca mc cc md cd := by
  rw [eriBlock_eq_integral boysT hboys sa sb sc sd ma ca mb cb mc cc md cd hsa hsb hsc hsd
      ha hb hc hd,
    eriBlock_eq_integral boysT hboys sb sa sc sd mb cb ma ca mc cc md cd hsb hsa hsc hsd
      hb ha hc hd]
  exact eriExact_swap_ab ..

theorem eriBlock_swap_cd (boysT : ℝ → ℕ → Tab ℝ)
    (hboys : ∀ T n m, m < n → (boysT T n).get m = boys T m)
    (sa sb sc sd : Shell ℝ) (ma ca mb cb mc cc md cd : ℕ)
    (hsa : ∀ k, k < sa.nprim → 0 < sa.exp! k) (hsb : ∀ k, k < sb.nprim → 0 < sb.exp! k)
    (hsc : ∀ k, k < sc.nprim → 0 < sc.exp! k) (hsd : ∀ k, k < sd.nprim → 0 < sd.exp! k)
    (ha : (sa.comp! ca).1 + (sa.comp! ca).2.1 + (sa.comp! ca).2.2 ≤ sa.l)
    (hb : (sb.comp! cb).1 + (sb.comp! cb).2.1 + (sb.comp! cb).2.2 ≤ sb.l)
    (hc : (sc.comp! cc).1 + (sc.comp! cc).2.1 + (sc.comp! cc).2.2 ≤ sc.l)
    (hd : (sd.comp! cd).1 + (sd.comp! cd).2.1 + (sd.comp! cd).2.2 ≤ sd.l) :
    (eriBlock boysT sa sb sc sd).get8 ma ca mb cb mc cc md cd
      = (eriBlock boysT sa sb sd sc).get8 ma ca mb cb md cd mc cc := by
  rw [eriBlock_eq_integral boysT hboys sa sb sc sd ma ca mb cb mc cc md cd hsa hsb hsc hsd
      ha hb hc hd,
    eriBlock_eq_integral boysT hboys sa sb sd sc ma ca mb cb md cd mc cc hsa hsb hsd hsc
      ha hb hd hc]
  exact eriExact_swap_cd ..

/-- the library's accuracy repair (fix commit c23ffd8) computes `(cd|ab)` and swaps the axes back when
that orientation amplifies rounding less; in exact arithmetic that is the identity, by this theorem -/
theorem eriBlock_swap_electrons (boysT : ℝ → ℕ → Tab ℝ)
    (hboys : ∀ T n m, m < n → (boysT T n).get m = boys T m)
    (sa sb sc sd : Shell ℝ) (ma ca mb cb mc cc md cd : ℕ)
    (hsa : ∀ k, k < sa.nprim → 0 < sa.exp! k) (hsb : ∀ k, k < sb.nprim → 0 < sb.exp! k)
    (hsc : ∀ k, k < sc.nprim → 0 < sc.exp! k) (hsd : ∀ k, k < sd.nprim → 0 < sd.exp! k)
    (ha : (sa.comp! ca).1 + (sa.comp! ca).2.1 + (sa.comp! ca).2.2 ≤ sa.l)
    (hb : (sb.comp! cb).1 + (sb.comp! cb).2.1 + (sb.comp! cb).2.2 ≤ sb.l)
    (hc : (sc.comp! cc).1 + (sc.comp! cc).2.1 + (sc.comp! cc).2.2 ≤ sc.l)
    (hd : (sd.comp! cd).1 + (sd.comp! cd).2.1 + (sd.comp! cd).2.2 ≤ sd.l) :
    (eriBlock boysT sa sb sc sd).get8 ma ca mb cb mc cc md cd
      = (eriBlock boysT sc sd sa sb).get8 mc cc md cd ma ca mb cb := by
  rw [eriBlock_eq_integral boysT hboys sa sb sc sd ma ca mb cb mc cc md cd hsa hsb hsc hsd
      ha hb hc hd,
    eriBlock_eq_integral boysT hboys sc sd sa sb mc cc md cd ma ca mb cb hsc hsd hsa hsb
      hc hd ha hb]
  exact eriExact_swap_electrons ..

end Corollaries

end GB

