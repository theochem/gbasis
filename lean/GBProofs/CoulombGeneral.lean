import GBProofs.RysAnalytic
import Mathlib.MeasureTheory.Integral.Pi

/-!
# The Rys-form specification `Vspec` with the true Boys function is the 3-D Coulomb integral

Gaussian transform `1/|r-C| = (2/√π) ∫₀^∞ e^{-w²|r-C|²} dw`, exchange of the two integrals (Tonelli),
factorisation of the spatial integral over the axes, each axis being `rys1` evaluated at
`s = w²/(p+w²)` (`rys1_eval_eq_weighted_integral`), and the remaining `w`-integral by the Rys
substitution (`integral_rysK_poly`).
-/
open MeasureTheory Real Polynomial Set

namespace GB

/-! ## 1. One axis -/

/-- one axis of the integrand after the Gaussian transform of `1/|r-C|`, at the point `w` -/
noncomputable def axisFn (a b A B Cc : ℝ) (i j : ℕ) (w x : ℝ) : ℝ :=
  (x - A)^i * (x - B)^j * (exp (-a * (x - A)^2) * exp (-b * (x - B)^2) * exp (-w^2 * (x - Cc)^2))

lemma axisFn_eq (a b A B Cc : ℝ) (hab : a + b ≠ 0) (i j : ℕ) (w x : ℝ) :
    axisFn a b A B Cc i j w x
      = exp (-(a * b / (a + b)) * (A - B)^2)
        * ((x - A)^i * (x - B)^j
            * (exp (-(a + b) * (x - (a * A + b * B) / (a + b))^2) * exp (-w^2 * (x - Cc)^2))) := by
  rw [axisFn, gauss_product_exp a b A B x hab]
  ring

lemma axisFn_eq' (a b A B Cc : ℝ) (ha : 0 < a) (hb : 0 < b) (i j : ℕ) (w x : ℝ) :
    axisFn a b A B Cc i j w x
      = exp (-(a * b / (a + b)) * (A - B)^2)
        * exp (-((a + b) * w^2 / (a + b + w^2)) * ((a * A + b * B) / (a + b) - Cc)^2)
        * ((x - A)^i * (x - B)^j
            * exp (-(a + b + w^2) * (x - ((a + b) * ((a * A + b * B) / (a + b)) + w^2 * Cc)
                / (a + b + w^2))^2)) := by
  have hq : 0 < a + b + w^2 := by positivity
  rw [axisFn_eq a b A B Cc (by positivity), gauss_product_exp (a + b) (w^2) _ Cc x hq.ne']
  ring

lemma axisFn_integrable (a b A B Cc : ℝ) (ha : 0 < a) (hb : 0 < b) (i j : ℕ) (w : ℝ) :
    Integrable (axisFn a b A B Cc i j w) := by
  have hq : 0 < a + b + w^2 := by positivity
  obtain ⟨R, hR⟩ : ∃ R : ℝ, R = ((a + b) * ((a * A + b * B) / (a + b)) + w^2 * Cc)
      / (a + b + w^2) := ⟨_, rfl⟩
  have base := (integrable_poly_mul_gauss hq
    ((X + C (R - A))^i * (X + C (R - B))^j)).comp_sub_right R
  have h2 := base.const_mul (exp (-(a * b / (a + b)) * (A - B)^2)
        * exp (-((a + b) * w^2 / (a + b + w^2)) * ((a * A + b * B) / (a + b) - Cc)^2))
  refine h2.congr (Filter.Eventually.of_forall fun x => ?_)
  simp only [axisFn_eq' a b A B Cc ha hb, ← hR, eval_mul, eval_pow, eval_add, eval_X, eval_C,
    sub_add_sub_cancel]

theorem axisFn_integral (a b A B Cc : ℝ) (ha : 0 < a) (hb : 0 < b) {P : ℝ}
    (hP : (a * A + b * B) / (a + b) = P) (i j : ℕ) (w : ℝ) :
    ∫ x : ℝ, axisFn a b A B Cc i j w x
      = exp (-(a * b / (a + b)) * (A - B)^2)
        * (√(π / (a + b + w^2)) * exp (-((a + b) * w^2 / (a + b + w^2)) * (P - Cc)^2)
            * (rys1 (a + b) (P - A) (P - B) (P - Cc) i j).eval (w^2 / (a + b + w^2))) := by
  have hp : 0 < a + b := by positivity
  have hq : 0 < a + b + w^2 := by positivity
  have hden := integral_gauss_product hq P Cc
  have hden0 : ∫ x : ℝ, exp (-(a + b) * (x - P)^2) * exp (-w^2 * (x - Cc)^2) ≠ 0 := by
    rw [hden]
    exact (mul_pos (Real.exp_pos _) (Real.sqrt_pos.mpr (div_pos pi_pos hq))).ne'
  -- `s = w²/(p+w²)` is the Rys variable belonging to `u² = w²`
  obtain ⟨s, hs⟩ : ∃ s : ℝ, s = w^2 / (a + b + w^2) := ⟨_, rfl⟩
  have hs' : 1 - s = (a + b) / (a + b + w^2) := by
    rw [hs, eq_div_iff hq.ne', sub_mul, div_mul_cancel₀ _ hq.ne']; ring
  have hsw : (a + b) * s / (1 - s) = w^2 := by
    rw [hs', hs, ← mul_div_assoc, div_div_div_cancel_right₀ hq.ne', mul_div_cancel_left₀ _ hp.ne']
  have h := rys1_eval_eq_weighted_integral (a + b) P A B Cc s hp
    (by rw [← sub_pos, hs']; positivity) i j
  rw [hsw, eq_div_iff hden0, hden] at h
  simp_rw [axisFn_eq a b A B Cc hp.ne', hP]
  rw [MeasureTheory.integral_const_mul, ← hs, ← h]
  ring

lemma axisFn_eq_mul (a b A B Cc : ℝ) (i j : ℕ) (w x : ℝ) :
    axisFn a b A B Cc i j w x = (x - A)^i * (x - B)^j * axisFn a b A B Cc 0 0 w x := by
  simp only [axisFn, pow_zero, one_mul]

lemma axisFn_zero_pos (a b A B Cc w x : ℝ) : 0 < axisFn a b A B Cc 0 0 w x := by
  unfold axisFn
  positivity

lemma axisFn_even (a b A B Cc : ℝ) (i j : ℕ) (w x : ℝ) :
    axisFn a b A B Cc (2*i) (2*j) w x
      = ((x - A)^i * (x - B)^j)^2 * axisFn a b A B Cc 0 0 w x := by
  rw [axisFn_eq_mul, mul_pow, ← pow_mul, ← pow_mul, mul_comm i, mul_comm j]

/-! ## 2. Three dimensions -/

section ProdCoord
variable {X Y ι : Type*} [Fintype ι] [MeasureSpace X] [MeasureSpace Y]
  [SigmaFinite (volume : Measure Y)] {e : X ≃ᵐ (ι → Y)}

lemma integral_prod_coord (he : MeasurePreserving e) (f : ι → Y → ℝ) :
    ∫ x, ∏ u, f u (e x u) = ∏ u, ∫ y, f u y :=
  (he.integral_comp' fun y : ι → Y => ∏ u, f u (y u)).trans (integral_fintype_prod_volume_eq_prod f)

lemma integrable_prod_coord (he : MeasurePreserving e) {f : ι → Y → ℝ}
    (hf : ∀ u, Integrable (f u)) : Integrable fun x => ∏ u, f u (e x u) :=
  (he.integrable_comp_emb e.measurableEmbedding).mpr (Integrable.fintype_prod hf)

end ProdCoord

abbrev E3 := EuclideanSpace ℝ (Fin 3)

lemma E3_coord_measurePreserving :
    MeasurePreserving (MeasurableEquiv.toLp 2 (Fin 3 → ℝ)).symm (volume : Measure E3) volume :=
  EuclideanSpace.volume_preserving_symm_measurableEquiv_toLp (Fin 3)

lemma axisFn_prod_continuous (a b : ℝ) (A B Cc : E3) (ca cb : Fin 3 → ℕ) :
    Continuous fun q : E3 × ℝ => ∏ u, axisFn a b (A u) (B u) (Cc u) (ca u) (cb u) q.2 (q.1 u) := by
  unfold axisFn
  fun_prop

lemma prod_axis_closed (c d : Fin 3 → ℝ) (Q : Fin 3 → ℝ[X]) (p w : ℝ) (hq : 0 < p + w^2) :
    ∏ u, (c u * (√(π / (p + w^2)) * exp (-(p * w^2 / (p + w^2)) * d u)
        * (Q u).eval (w^2 / (p + w^2))))
      = (∏ u, c u) * (exp (-(p * w^2 / (p + w^2)) * ∑ u, d u) * (π / (p + w^2)) ^ ((3:ℝ)/2)
          * (∏ u, Q u).eval (w^2 / (p + w^2))) := by
  have hx : 0 < π / (p + w^2) := div_pos pi_pos hq
  have hy : √(π / (p + w^2)) * √(π / (p + w^2)) = π / (p + w^2) := Real.mul_self_sqrt hx.le
  simp only [Fin.prod_univ_three, Fin.sum_univ_three, eval_mul, mul_add, Real.exp_add]
  rw [rpow_three_half _ hx]
  obtain ⟨y, hy'⟩ : ∃ y : ℝ, y = √(π / (p + w^2)) := ⟨_, rfl⟩
  rw [← hy'] at hy ⊢
  rw [← hy]
  ring

lemma E3_integrand_eq (a b : ℝ) (A B Cc : E3) (ca cb : Fin 3 → ℕ) (w : ℝ) (r : E3) :
    (∏ u, (r u - A u)^(ca u) * (r u - B u)^(cb u)) * exp (-a * ‖r - A‖^2) * exp (-b * ‖r - B‖^2)
        * exp (-w^2 * ‖r - Cc‖^2)
      = ∏ u, axisFn a b (A u) (B u) (Cc u) (ca u) (cb u) w (r u) := by
  simp only [EuclideanSpace.real_norm_sq_eq, PiLp.sub_apply, Finset.mul_sum, Real.exp_sum,
    ← Finset.prod_mul_distrib, axisFn]
  refine Finset.prod_congr rfl fun u _ => ?_
  ring

lemma norm_sq_sub_E3 (v w : E3) : ‖v - w‖^2 = ∑ u, (v u - w u)^2 := by
  rw [EuclideanSpace.real_norm_sq_eq]
  rfl

theorem E3_spatial_integral (a b : ℝ) (ha : 0 < a) (hb : 0 < b) (A B Cc P : E3)
    (hP : P = (a + b)⁻¹ • (a • A + b • B)) (ca cb : Fin 3 → ℕ) (w : ℝ) :
    ∫ r : E3, ∏ u, axisFn a b (A u) (B u) (Cc u) (ca u) (cb u) w (r u)
      = exp (-(a * b / (a + b)) * ‖A - B‖^2)
        * (exp (-((a + b) * w^2 / (a + b + w^2)) * ‖P - Cc‖^2) * (π / (a + b + w^2)) ^ ((3:ℝ)/2)
            * (∏ u, rys1 (a + b) (P u - A u) (P u - B u) (P u - Cc u) (ca u) (cb u)).eval
                (w^2 / (a + b + w^2))) := by
  have hq : 0 < a + b + w^2 := by positivity
  have hPu : ∀ u, (a * A u + b * B u) / (a + b) = P u := by
    intro u
    rw [hP, div_eq_inv_mul]
    rfl
  refine (integral_prod_coord E3_coord_measurePreserving
    fun u => axisFn a b (A u) (B u) (Cc u) (ca u) (cb u) w).trans ?_
  simp_rw [axisFn_integral a b _ _ _ ha hb (hPu _)]
  rw [prod_axis_closed _ _ _ (a + b) w hq, ← Real.exp_sum, ← Finset.mul_sum, ← norm_sq_sub_E3,
    ← norm_sq_sub_E3]

/-- by Tonelli (`integrable_uncurry_of_nonneg`), from the closed form of the spatial integral -/
lemma coulomb_joint_integrable_of_nonneg (a b : ℝ) (ha : 0 < a) (hb : 0 < b) (A B Cc : E3)
    (ca cb : Fin 3 → ℕ)
    (hnn : ∀ u w x, 0 ≤ axisFn a b (A u) (B u) (Cc u) (ca u) (cb u) w x) :
    Integrable (Function.uncurry fun (r : E3) (w : ℝ) =>
        ∏ u, axisFn a b (A u) (B u) (Cc u) (ca u) (cb u) w (r u))
      ((volume : Measure E3).prod (volume.restrict (Ioi (0:ℝ)))) := by
  refine integrable_uncurry_of_nonneg (axisFn_prod_continuous a b A B Cc ca cb).aestronglyMeasurable
    (fun r w => Finset.prod_nonneg fun u _ => hnn u w (r u))
    (fun w => integrable_prod_coord E3_coord_measurePreserving
      fun u => axisFn_integrable a b _ _ _ ha hb _ _ w) ?_
  simp_rw [E3_spatial_integral a b ha hb A B Cc _ rfl]
  exact (integrableOn_rysK_poly (a + b) _ (add_pos ha hb) _).const_mul _

/-- with `T` the polynomial factor and `G > 0` the Gaussian one, `|T G| ≤ (1 + T²) G`, and both `G`
and `T² G` are non-negative integrands of the same kind (powers `0` and `2·ca`, `2·cb`) -/
lemma coulomb_joint_integrable (a b : ℝ) (ha : 0 < a) (hb : 0 < b) (A B Cc : E3)
    (ca cb : Fin 3 → ℕ) :
    Integrable (Function.uncurry fun (r : E3) (w : ℝ) =>
        ∏ u, axisFn a b (A u) (B u) (Cc u) (ca u) (cb u) w (r u))
      ((volume : Measure E3).prod (volume.restrict (Ioi (0:ℝ)))) := by
  have hdom := (coulomb_joint_integrable_of_nonneg a b ha hb A B Cc (fun _ => 0) (fun _ => 0)
      fun u w x => (axisFn_zero_pos _ _ _ _ _ w x).le).add
    (coulomb_joint_integrable_of_nonneg a b ha hb A B Cc (fun u => 2 * ca u) (fun u => 2 * cb u)
      fun u w x => by
        rw [axisFn_even]
        exact mul_nonneg (sq_nonneg _) (axisFn_zero_pos _ _ _ _ _ w x).le)
  refine hdom.mono' (axisFn_prod_continuous a b A B Cc ca cb).aestronglyMeasurable
    (Filter.Eventually.of_forall ?_)
  rintro ⟨r, w⟩
  simp only [Function.uncurry_apply_pair, Pi.add_apply, Real.norm_eq_abs]
  obtain ⟨t, ht⟩ : ∃ t : Fin 3 → ℝ, ∀ u, t u = (r u - A u)^(ca u) * (r u - B u)^(cb u) :=
    ⟨_, fun _ => rfl⟩
  simp_rw [axisFn_even, axisFn_eq_mul a b _ _ _ (ca _), ← ht, Finset.prod_mul_distrib,
    Finset.prod_pow]
  exact abs_mul_le_add_sq_mul _
    (Finset.prod_nonneg fun u _ => (axisFn_zero_pos _ _ _ _ _ w (r u)).le)

lemma coulomb_pointwise (a b : ℝ) (A B Cc : E3) (ca cb : Fin 3 → ℕ) (r : E3) :
    (∏ u, (r u - A u)^(ca u) * (r u - B u)^(cb u))
        * exp (-a * ‖r - A‖^2) * exp (-b * ‖r - B‖^2) / ‖r - Cc‖
      = 2 / √π * ∫ w in Ioi (0:ℝ),
          ∏ u, axisFn a b (A u) (B u) (Cc u) (ca u) (cb u) w (r u) := by
  simp_rw [← E3_integrand_eq]
  exact div_eq_integral_gauss _ _ (norm_nonneg _)

theorem coulomb_general_fin (a b : ℝ) (ha : 0 < a) (hb : 0 < b) (A B Cc P : E3)
    (hP : P = (a + b)⁻¹ • (a • A + b • B)) (ca cb : Fin 3 → ℕ) :
    ∫ r : E3, (∏ u, (r u - A u)^(ca u) * (r u - B u)^(cb u))
        * exp (-a * ‖r - A‖^2) * exp (-b * ‖r - B‖^2) / ‖r - Cc‖
      = (2 * π / (a + b)) * exp (-(a * b / (a + b)) * ‖A - B‖^2)
        * boysF (boys ((a + b) * ‖P - Cc‖^2)) 0
            (∏ u, rys1 (a + b) (P u - A u) (P u - B u) (P u - Cc u) (ca u) (cb u)) := by
  simp_rw [coulomb_pointwise]
  rw [MeasureTheory.integral_const_mul,
    integral_integral_swap (coulomb_joint_integrable a b ha hb A B Cc ca cb)]
  simp_rw [E3_spatial_integral a b ha hb A B Cc P hP]
  rw [MeasureTheory.integral_const_mul, integral_rysK_poly (a + b) _ (add_pos ha hb)]
  have hsp : √π ≠ 0 := (Real.sqrt_pos.mpr pi_pos).ne'
  generalize boysF (boys ((a + b) * ‖P - Cc‖^2)) 0 _ = Bf
  generalize rexp _ = E
  field_simp

/-- axis ↦ component function of a point of `E3` (`0` beyond the third axis): the form in which
`Vspec` takes its geometric arguments -/
def comp3 (v : E3) : ℕ → ℝ := fun n => if h : n < 3 then v ⟨n, h⟩ else 0

lemma comp3_zero (v : E3) : comp3 v 0 = v 0 := rfl

lemma comp3_one (v : E3) : comp3 v 1 = v 1 := rfl

lemma comp3_two (v : E3) : comp3 v 2 = v 2 := rfl

/-- The left side is the nuclear-attraction integral of two un-normalised primitive Cartesian
Gaussians for a unit point charge at `Cc`; on the right `(2π/p) e^{-ab/p |AB|²}` is the `pref` of
`oneElecBlockOrdered` and `Vspec` is taken at the auxiliary order `m = 0`. -/
theorem coulomb_general (a b : ℝ) (ha : 0 < a) (hb : 0 < b) (A B Cc P : E3)
    (hP : P = (a + b)⁻¹ • (a • A + b • B)) (ca cb : ℕ × ℕ × ℕ) :
    ∫ r : E3, ((r 0 - A 0)^ca.1 * (r 0 - B 0)^cb.1
          * ((r 1 - A 1)^ca.2.1 * (r 1 - B 1)^cb.2.1)
          * ((r 2 - A 2)^ca.2.2 * (r 2 - B 2)^cb.2.2))
        * exp (-a * ‖r - A‖^2) * exp (-b * ‖r - B‖^2) / ‖r - Cc‖
      = (2 * π / (a + b)) * exp (-(a * b / (a + b)) * ‖A - B‖^2)
        * Vspec (boys ((a + b) * ‖P - Cc‖^2)) (a + b)
            (comp3 (P - A)) (comp3 (P - B)) (comp3 (P - Cc)) 0 ca cb := by
  have h := coulomb_general_fin a b ha hb A B Cc P hP
    ![ca.1, ca.2.1, ca.2.2] ![cb.1, cb.2.1, cb.2.2]
  simp only [Fin.prod_univ_three, Matrix.cons_val_zero, Matrix.cons_val_one,
    Matrix.cons_val_two, Matrix.head_cons, Matrix.tail_cons] at h
  simp only [Vspec, rysAx, comp3_zero, comp3_one, comp3_two, PiLp.sub_apply]
  exact h


end GB
