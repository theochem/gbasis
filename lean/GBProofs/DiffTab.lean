import GBProofs.MomTab
import GBProofs.GaussIntegral
import Mathlib.Analysis.Calculus.Deriv.Shift
import Mathlib.Analysis.Calculus.IteratedDeriv.Defs

/-!
# The differential-operator recursion table

`diffPlanes` models `_compute_differential_operator_integrals_intermediate`, whose entries are

`T[k][j][i] = ∫ (x-A)^i e^{-a(x-A)²} (d/dx)^k [ (x-B)^j e^{-b(x-B)²} ] dx`.

With `t = x - P`, `d/dt` acts on the polynomial part of `q(t) e^{-b (t+PB)²}` as the twisted
derivative `Dtw b PB`, so the entry is the Gaussian functional `G` of
`(X+PA)^i · (Dtw b PB)^[k] ((X+PB)^j)` (`Dspec`).  Integration by parts (`G_mul_Dtw`) moves `Dtw` to
the left factor, where it is explicit on `(X+PA)^i`: that is the recursion of the Python code, and
also the momentum antisymmetry and the kinetic symmetry.  Plane `k+1` reads column `i+1` of plane
`k`, so the table is right only for `i + k ≤ amax + dmax`; the padding of the width by `dmax` buys
exactly that (`diffPlanes_eq`, `diffPlanes_unpadded_ne`).
-/
open Polynomial

namespace GB

section Algebra
variable {K : Type} [Field K] [CharZero K]

/-- twisted derivative: the polynomial part of `d/dt [ q(t) e^{-b (t+PB)²} ]` -/
noncomputable def Dtw (b PB : K) (q : K[X]) : K[X] :=
  derivative q - C (2*b) * (X + C PB) * q

/-- algebraic specification of the differential-operator table:
normalised integral of `(x-A)^i e^{-a(x-A)²}` against the `k`-th derivative of
`(x-B)^j e^{-b(x-B)²}` -/
noncomputable def Dspec (p b PA PB : K) (k i j : ℕ) : K :=
  G p ((X + C PA)^i * (Dtw b PB)^[k] ((X + C PB)^j))

omit [CharZero K] in
lemma Dtw_iterate_succ (b PB : K) (k : ℕ) (q : K[X]) :
    (Dtw b PB)^[k+1] q = Dtw b PB ((Dtw b PB)^[k] q) :=
  Function.iterate_succ_apply' _ _ _

omit [CharZero K] in
lemma Dspec_zero (p b PA PB PC : K) (i j : ℕ) : Dspec p b PA PB 0 i j = S3 p PA PB PC i j 0 := by
  simp [Dspec, S3]

omit [CharZero K] in
lemma mul_Dtw_add_Dtw_mul (a b PA PB : K) (u v : K[X]) :
    u * Dtw b PB v + Dtw a PA u * v
      = derivative (u * v) - C (2 * (a + b)) * (X * (u * v)) - C (2 * (a * PA + b * PB)) * (u * v) := by
  unfold Dtw
  simp only [derivative_mul, map_mul, map_add]
  ring

/-- Integration by parts.  By `mul_Dtw_add_Dtw_mul` and `a·PA + b·PB = 0` the sum of the two sides
is `G p` of `(uv)' - 2pX·uv`, which `G_derivative` makes zero. -/
theorem G_mul_Dtw (a b PA PB p : K) (hp : p ≠ 0) (hab : a + b = p) (hPAB : a * PA + b * PB = 0)
    (u v : K[X]) :
    G p (u * Dtw b PB v) = - G p (Dtw a PA u * v) := by
  have h := mul_Dtw_add_Dtw_mul a b PA PB u v
  rw [hPAB, hab] at h
  have h2 : G p (u * Dtw b PB v + Dtw a PA u * v) = 0 := by
    rw [h, map_sub, map_sub, G_derivative p hp, G_C_mul, G_C_mul]
    ring
  rw [map_add] at h2
  linear_combination h2

theorem G_mul_Dtw_iterate (a b PA PB p : K) (hp : p ≠ 0) (hab : a + b = p)
    (hPAB : a * PA + b * PB = 0) (k : ℕ) (u v : K[X]) :
    G p (u * (Dtw b PB)^[k] v) = (-1)^k * G p ((Dtw a PA)^[k] u * v) := by
  induction k generalizing u v with
  | zero => simp
  | succ k ih =>
    rw [Dtw_iterate_succ, G_mul_Dtw a b PA PB p hp hab hPAB, ih, Function.iterate_succ_apply]
    ring

/-- two integrations by parts: why the kinetic-energy matrix is symmetric (`C02.second_derivative_symmetric`) -/
theorem G_mul_Dtw_Dtw (a b PA PB p : K) (hp : p ≠ 0) (hab : a + b = p)
    (hPAB : a * PA + b * PB = 0) (u v : K[X]) :
    G p (u * Dtw b PB (Dtw b PB v)) = G p (Dtw a PA (Dtw a PA u) * v) := by
  rw [G_mul_Dtw a b PA PB p hp hab hPAB, G_mul_Dtw a b PA PB p hp hab hPAB, neg_neg]

omit [CharZero K] in
lemma Dtw_X_add_C_pow (a PA : K) (i : ℕ) :
    Dtw a PA ((X + C PA)^i) = C (i:K) * (X + C PA)^(i-1) - C (2*a) * (X + C PA)^(i+1) := by
  rw [Dtw, derivative_X_add_C_pow, mul_assoc, ← pow_succ']

/-- One step of the recursion of `_compute_differential_operator_integrals_intermediate`,
`[k+1, j, i] = 2a·[k, j, i+1] − i·[k, j, i-1]`, for an arbitrary right polynomial `v`: move `Dtw`
to the left (`G_mul_Dtw`) and apply it to `(X+PA)^i`. -/
theorem G_pow_mul_Dtw (a b PA PB p : K) (hp : p ≠ 0) (hab : a + b = p) (hPAB : a * PA + b * PB = 0)
    (i : ℕ) (v : K[X]) :
    G p ((X + C PA)^i * Dtw b PB v)
      = 2 * a * G p ((X + C PA)^(i+1) * v) - (i:K) * G p ((X + C PA)^(i-1) * v) := by
  rw [G_mul_Dtw a b PA PB p hp hab hPAB, Dtw_X_add_C_pow, sub_mul, mul_assoc, mul_assoc, map_sub,
    G_C_mul, G_C_mul, neg_sub]

theorem Dspec_succ (a b PA PB : K) (hp : a + b ≠ 0) (hPAB : a * PA + b * PB = 0) (k i j : ℕ) :
    Dspec (a+b) b PA PB (k+1) i j
      = 2 * a * Dspec (a+b) b PA PB k (i+1) j - (i:K) * Dspec (a+b) b PA PB k (i-1) j := by
  unfold Dspec
  rw [Dtw_iterate_succ, G_pow_mul_Dtw a b PA PB (a+b) hp rfl hPAB]

/-- why the momentum matrix is antisymmetric -/
theorem Dspec_one_antisymm (a b PA PB : K) (hp : a + b ≠ 0) (hPAB : a * PA + b * PB = 0) (i j : ℕ) :
    G (a+b) ((X + C PA)^i * Dtw b PB ((X + C PB)^j))
      = - G (a+b) (Dtw a PA ((X + C PA)^i) * (X + C PB)^j) :=
  G_mul_Dtw a b PA PB (a+b) hp rfl hPAB _ _

theorem Dspec_swap (a b PA PB : K) (hp : a + b ≠ 0) (hPAB : a * PA + b * PB = 0) (k i j : ℕ) :
    Dspec (a+b) b PA PB k i j = (-1)^k * Dspec (a+b) a PB PA k j i := by
  unfold Dspec
  rw [G_mul_Dtw_iterate a b PA PB (a+b) hp rfl hPAB, mul_comm ((Dtw a PA)^[k] _)]

/-! ## The table -/

/-- Induction on the plane `k` with `i` universally quantified under `i + k < w`: plane `k+1` at
column `i` needs plane `k` at column `i+1`. -/
theorem diffPlanes_eq_of_base (a b PA PB base : K) (hp : a + b ≠ 0) (hPAB : a * PA + b * PB = 0)
    (t0 : Tab (Tab K)) (nj w : ℕ)
    (h0 : ∀ j i, t0.get2 j i = base * Dspec (a+b) b PA PB 0 i j) :
    ∀ k j i, i + k < w →
      (diffPlanes a t0 nj w k).get2 j i = base * Dspec (a+b) b PA PB k i j := by
  intro k
  induction k with
  | zero => intro j i _; exact h0 j i
  | succ k ih =>
    intro j i hik
    have h1 : i + 1 < w := by omega
    simp only [diffPlanes, tab2_get, if_pos h1, num_nat]
    rw [ih j (i+1) (by omega), ih j (i-1) (by omega), Dspec_succ a b PA PB hp hPAB]
    push_cast
    ring

/-- The padded table (width `amax + dmax + 1`, plane 0 the overlap-type plane of `momPlanes`) is
`base` times `Dspec` on the triangle `i + k ≤ amax + dmax`, which contains the returned slice
`k ≤ dmax`, `i ≤ amax`; outside the triangle an entry can differ from the integral
(`diffPlanes_unpadded_ne`). -/
theorem diffPlanes_eq (a b PA PB base : K) (hp : a + b ≠ 0) (hPAB : a * PA + b * PB = 0) (PC : K)
    (nj amax dmax : ℕ) :
    ∀ k j i, k ≤ dmax → i + k ≤ amax + dmax →
      (diffPlanes a (momPlanes (1/(2*(a+b))) PA PB PC base nj (amax+dmax+1) 0).1 nj
          (amax+dmax+1) k).get2 j i
        = base * Dspec (a+b) b PA PB k i j := by
  intro k j i _ hik
  refine diffPlanes_eq_of_base a b PA PB base hp hPAB _ nj _ (fun j i => ?_) k j i (by omega)
  rw [(momPlanes_eq (a+b) PA PB PC base hp nj (amax+dmax+1) 0).1 j i, Dspec_zero]

/-- `i ≤ amax` is the slice `[:, :, :a_max+1]` the Python function returns -/
theorem diffTab_eq (a b PA PB base : K) (hp : a + b ≠ 0) (hPAB : a * PA + b * PB = 0)
    (nj amax dmax : ℕ) (k j i : ℕ) (hk : k ≤ dmax) (hi : i ≤ amax) :
    (diffTab (1/(2*(a+b))) PA PB base a nj amax dmax).get3 k j i
      = base * Dspec (a+b) b PA PB k i j := by
  simp only [diffTab, Tab.get3, tab_get]
  exact diffPlanes_eq a b PA PB base hp hPAB _ nj amax dmax k j i hk (by omega)

omit [CharZero K] in
/-- without padding the last column of every plane `k ≥ 1` is never written -/
theorem diffPlanes_last_col (a : K) (t0 : Tab (Tab K)) (nj w k j i : ℕ) (hi : w ≤ i + 1) :
    (diffPlanes a t0 nj w (k+1)).get2 j i = 0 := by
  simp only [diffPlanes, tab2_get, if_neg (not_lt.mpr hi), num_nat, Nat.cast_zero]

/-- The side condition `i + k < w` cannot be dropped.  Exponents `a = b = 1`, `PA = 1`, `PB = -1` (so
`a·PA + b·PB = 0`), `amax = 0`, one derivative, table of width `amax + 1` (no padding):
the entry `[1, 0, 0]` is `0` whereas the spec value is `2·base`. -/
theorem diffPlanes_unpadded_ne (base : K) (hbase : base ≠ 0) :
    (diffPlanes (1:K) (momPlanes (1/(2*(1+1))) 1 (-1) 0 base 1 (0+1) 0).1 1 (0+1) 1).get2 0 0
      ≠ base * Dspec (1+1) 1 1 (-1) 1 0 0 := by
  have h2 : (1 + 1 : K) ≠ 0 := by norm_num
  rw [diffPlanes_last_col _ _ _ _ _ _ _ (le_refl _), Dspec_succ 1 1 1 (-1) h2 (by ring),
    Dspec_zero _ _ _ _ 0, S3_succ_i _ _ _ _ h2, S3_zero]
  simpa using hbase

end Algebra

/-! ## Analytic link over `ℝ` -/
section Real
open MeasureTheory Real

theorem hasDerivAt_gaussPoly (b B P : ℝ) (q : ℝ[X]) (x : ℝ) :
    HasDerivAt (gaussPoly b B P q) (gaussPoly b B P (Dtw b (P - B) q) x) x := by
  have h1 : HasDerivAt (fun x => q.eval (x - P)) (q.derivative.eval (x - P)) x :=
    HasDerivAt.comp_sub_const x P (q.hasDerivAt (x - P))
  have h2 : HasDerivAt (fun x : ℝ => exp (-b * (x - B) ^ 2))
      (exp (-b * (x - B)^2) * (-b * (2 * (x - B)))) x := by
    simpa using ((((hasDerivAt_id x).sub_const B).pow 2).const_mul (-b)).exp
  refine (h1.mul h2).congr_deriv ?_
  simp only [gaussPoly, Dtw, eval_sub, eval_mul, eval_add, eval_C, eval_X]
  ring

theorem iteratedDeriv_gaussPoly (b B P : ℝ) (q : ℝ[X]) (k : ℕ) :
    iteratedDeriv k (gaussPoly b B P q) = gaussPoly b B P ((Dtw b (P - B))^[k] q) := by
  induction k with
  | zero => rfl
  | succ k ih =>
    rw [iteratedDeriv_succ, ih, Dtw_iterate_succ]
    exact funext fun x => (hasDerivAt_gaussPoly b B P _ x).deriv

/-- `P` is free here; `Dspec_eq_integral` takes it to be the centre of the product Gaussian -/
theorem iteratedDeriv_prim (b B P : ℝ) (j k : ℕ) (x : ℝ) :
    iteratedDeriv k (fun x : ℝ => (x - B)^j * exp (-b * (x - B)^2)) x
      = ((Dtw b (P - B))^[k] ((X + C (P - B))^j)).eval (x - P) * exp (-b * (x - B)^2) := by
  rw [← funext (gaussPoly_X_add_C_pow b B P j), iteratedDeriv_gaussPoly]
  rfl

/-- The prefactor `√(π/p) e^{-ab/p·(A-B)²}` is the `base` of `pair1D`; `PA`, `PB` are `P - A`, `P - B`
with `P` the centre of the product Gaussian. -/
theorem Dspec_eq_integral (a b A B : ℝ) (ha : 0 < a) (hb : 0 < b) (k i j : ℕ) :
    ∫ x : ℝ, (x - A)^i * exp (-a * (x - A)^2)
        * iteratedDeriv k (fun x : ℝ => (x - B)^j * exp (-b * (x - B)^2)) x
      = √(π / (a + b)) * exp (-(a * b / (a + b) * ((A - B) * (A - B))))
          * Dspec (a + b) b ((a * A + b * B) / (a + b) - A) ((a * A + b * B) / (a + b) - B) k i j := by
  rw [Dspec, ← gauss_product_integral_poly a b A B ha hb]
  congr 1
  funext x
  rw [iteratedDeriv_prim b B ((a * A + b * B) / (a + b)) j k x, ← gaussPoly_X_add_C_pow a A]
  rfl

end Real

end GB

