import GBProofs.Block3D
import GBProofs.PointChargeBlock
import GBProofs.GramLaws

/-!
# Definiteness of the one-electron matrices of the model (C17), and of the Coulomb kernel

`ι` is a finite index type (all (shell, contraction, component) triples of a basis), `x : ι → ℝ`
arbitrary coefficients.

* §0 the quadratic form of a matrix of integrals `∫ u_i v_j / w` (algebra of `quadForm`: `GramLaws`).
* §1 overlap: `Σ x_i S_ij x_j = ∫ (Σ x_i f_i)²  ≥ 0`, symmetry, `|S_ij| ≤ √S_ii √S_jj`.
* §2 point charge: `Σ x_i V_ij x_j = -q ∫ (Σ x_i f_i)² / |r-C| ≤ 0` for `q ≥ 0`.
* §3 kinetic: gradient form `T_ij = ½ Σ_axis ∫ ∂f_i ∂f_j`, hence `Σ x_i T_ij x_j ≥ 0`.
* §4 Coulomb kernel: `0 ≤ ∬ F(r₁) F(r₂) e^{-u²|r₁-r₂|²}` and `0 ≤ ∬ F(r₁) F(r₂) / |r₁-r₂|`.
* §5 Gaussian-bounded functions on a 3-dimensional space satisfy the hypotheses of §4; the Coulomb
  matrix `∬ F_i F_j / |r₁-r₂|` of such functions is symmetric positive semi-definite.
* §6 the pair densities of contracted functions are Gaussian-bounded: the exact repulsion integrals.
-/
open MeasureTheory Real

namespace GB

/-! ## 0. Quadratic forms of matrices of integrals -/
section QuadIntegral
variable {ι : Type*} [Fintype ι] {α : Type*} [MeasurableSpace α]

lemma quadForm_integral (μ : Measure α) (g : ι → ι → α → ℝ) (hg : ∀ i j, Integrable (g i j) μ)
    (x : ι → ℝ) :
    quadForm (fun i j => ∫ a, g i j a ∂μ) x = ∫ a, quadForm (fun i j => g i j a) x ∂μ := by
  unfold quadForm
  rw [integral_finsetSum _ fun i _ => integrable_finsetSum _ fun j _ =>
    ((hg i j).const_mul (x i)).mul_const (x j)]
  refine Finset.sum_congr rfl fun i _ => ?_
  rw [integral_finsetSum _ fun j _ => ((hg i j).const_mul (x i)).mul_const (x j)]
  refine Finset.sum_congr rfl fun j _ => ?_
  rw [integral_mul_const, integral_const_mul]

theorem quadForm_integral_div (μ : Measure α) (u v : ι → α → ℝ) (w : α → ℝ)
    (h : ∀ i j, Integrable (fun a => u i a * v j a / w a) μ) (x : ι → ℝ) :
    quadForm (fun i j => ∫ a, u i a * v j a / w a ∂μ) x
      = ∫ a, (∑ i, x i * u i a) * (∑ j, x j * v j a) / w a ∂μ := by
  rw [quadForm_integral μ _ h]
  simp only [div_eq_mul_inv, quadForm_rank_one]

theorem quadForm_integral_sq (μ : Measure α) (f : ι → α → ℝ)
    (h : ∀ i j, Integrable (fun a => f i a * f j a) μ) (x : ι → ℝ) :
    quadForm (fun i j => ∫ a, f i a * f j a ∂μ) x = ∫ a, (∑ i, x i * f i a) ^ 2 ∂μ := by
  have h1 := quadForm_integral_div μ f f (fun _ => 1) (by simpa only [div_one] using h) x
  simpa only [div_one, ← sq] using h1

end QuadIntegral

/-- Tonelli with a dominating function. -/
theorem integrable_prod_of_integral_norm_le {α β : Type*} [MeasurableSpace α] [MeasurableSpace β]
    {μ : Measure α} {ν : Measure β} [SFinite μ] [SFinite ν] {f : α × β → ℝ}
    (hm : AEStronglyMeasurable f (μ.prod ν)) (h1 : ∀ᵐ x ∂μ, Integrable (fun y => f (x, y)) ν)
    {g : α → ℝ} (hg : Integrable g μ) (h2 : ∀ x, ∫ y, ‖f (x, y)‖ ∂ν ≤ g x) :
    Integrable f (μ.prod ν) :=
  (integrable_prod_iff hm).mpr ⟨h1, hg.mono' hm.norm.integral_prod_right'
    (Filter.Eventually.of_forall fun x => by
      rw [Real.norm_of_nonneg (integral_nonneg fun _ => norm_nonneg _)]
      exact h2 x)⟩

/-! ## 1. The overlap matrix -/
section Overlap
variable {ι : Type*} [Fintype ι]

noncomputable def overlapMat (s : ι → Shell ℝ) (m c : ι → ℕ) (i j : ι) : ℝ :=
  (overlapBlock (s i) (s j)).get4 (m i) (c i) (m j) (c j)

theorem overlap_quadForm_eq (s : ι → Shell ℝ) (m c : ι → ℕ)
    (hs : ∀ i, ∀ k < (s i).nprim, 0 < (s i).exp! k) (x : ι → ℝ) :
    quadForm (overlapMat s m c) x
      = ∫ r : ℝ × ℝ × ℝ, (∑ i, x i * shellFn (s i) (m i) (c i) r) ^ 2 := by
  have e : overlapMat s m c = _ := funext₂ fun i j =>
    overlapBlock_eq_integral (s i) (s j) (m i) (c i) (m j) (c j) (hs i) (hs j)
  rw [e]
  exact quadForm_integral_sq volume (fun i => shellFn (s i) (m i) (c i))
    (fun i j => integrable_shellFn_mul _ _ _ _ _ _ (hs i) (hs j)) x

theorem overlap_psd (s : ι → Shell ℝ) (m c : ι → ℕ)
    (hs : ∀ i, ∀ k < (s i).nprim, 0 < (s i).exp! k) (x : ι → ℝ) :
    0 ≤ quadForm (overlapMat s m c) x := by
  rw [overlap_quadForm_eq s m c hs]
  exact integral_nonneg fun r => sq_nonneg _

omit [Fintype ι] in
theorem overlapMat_symm (s : ι → Shell ℝ) (m c : ι → ℕ)
    (hs : ∀ i, ∀ k < (s i).nprim, 0 < (s i).exp! k) (i j : ι) :
    overlapMat s m c i j = overlapMat s m c j i :=
  overlapBlock_symm (s i) (s j) (m i) (c i) (m j) (c j) (hs i) (hs j)

theorem overlap_abs_le [DecidableEq ι] (s : ι → Shell ℝ) (m c : ι → ℕ)
    (hs : ∀ i, ∀ k < (s i).nprim, 0 < (s i).exp! k) (i j : ι) :
    |overlapMat s m c i j| ≤ √(overlapMat s m c i i) * √(overlapMat s m c j j) :=
  psd_abs_le _ (overlapMat_symm s m c hs) (overlap_psd s m c hs) i j

theorem overlap_sq_le [DecidableEq ι] (s : ι → Shell ℝ) (m c : ι → ℕ)
    (hs : ∀ i, ∀ k < (s i).nprim, 0 < (s i).exp! k) (i j : ι) :
    overlapMat s m c i j ^ 2 ≤ overlapMat s m c i i * overlapMat s m c j j :=
  psd_sq_le _ (overlapMat_symm s m c hs) (overlap_psd s m c hs) i j

theorem overlapBlock_abs_le (s t : Shell ℝ) (ma ca mb cb : ℕ)
    (hs : ∀ k < s.nprim, 0 < s.exp! k) (ht : ∀ k < t.nprim, 0 < t.exp! k) :
    |(overlapBlock s t).get4 ma ca mb cb|
      ≤ √((overlapBlock s s).get4 ma ca ma ca) * √((overlapBlock t t).get4 mb cb mb cb) :=
  overlap_abs_le (ι := Fin 2) ![s, t] ![ma, mb] ![ca, cb] (Fin.forall_fin_two.mpr ⟨hs, ht⟩) 0 1

end Overlap

/-! ## 2. The point-charge matrix -/
section PointCharge
variable {ι : Type*} [Fintype ι]

noncomputable def pointChargeMat (boysT : ℝ → ℕ → Tab ℝ) (Cpt : ℕ → ℝ) (q : ℝ)
    (s : ι → Shell ℝ) (m c : ι → ℕ) (i j : ι) : ℝ :=
  (pointChargeBlock boysT (s i) (s j) Cpt q).get4 (m i) (c i) (m j) (c j)

theorem integrable_shellFnE_mul_div (s t : Shell ℝ) (ma ca mb cb : ℕ) (Cc : E3)
    (hs : ∀ k, k < s.nprim → 0 < s.exp! k) (ht : ∀ k, k < t.nprim → 0 < t.exp! k) :
    Integrable fun r : E3 => shellFnE s ma ca r * shellFnE t mb cb r / ‖r - Cc‖ := by
  have h := integrable_sum_mul_sum s.nprim t.nprim
    (fun k => s.coef! k ma * normPrim (s.exp! k) s.l (s.comp! ca))
    (fun k => t.coef! k mb * normPrim (t.exp! k) t.l (t.comp! cb))
    (fun k => primFnE (s.exp! k) (toE3 s.ctr) (s.comp! ca))
    (fun k r => primFnE (t.exp! k) (toE3 t.ctr) (t.comp! cb) r / ‖r - Cc‖) volume
    fun ka hka kb hkb => by
      simpa only [mul_div_assoc] using
        coulomb_prim_integrable _ _ (hs ka hka) (ht kb hkb) _ _ Cc (s.comp! ca) (t.comp! cb)
  simpa only [shellFnE, mul_div_assoc, Finset.sum_div] using h

theorem pointCharge_quadForm_eq (boysT : ℝ → ℕ → Tab ℝ)
    (hboys : ∀ T n m, m < n → (boysT T n).get m = boys T m) (Cpt : ℕ → ℝ) (q : ℝ)
    (s : ι → Shell ℝ) (m c : ι → ℕ)
    (hs : ∀ i, ∀ k, k < (s i).nprim → 0 < (s i).exp! k)
    (hc : ∀ i, ((s i).comp! (c i)).1 + ((s i).comp! (c i)).2.1 + ((s i).comp! (c i)).2.2 ≤ (s i).l)
    (x : ι → ℝ) :
    quadForm (pointChargeMat boysT Cpt q s m c) x
      = -q * ∫ r : E3, (∑ i, x i * shellFnE (s i) (m i) (c i) r) ^ 2 / ‖r - toE3 Cpt‖ := by
  have e : pointChargeMat boysT Cpt q s m c = _ := funext₂ fun i j =>
    pointChargeBlock_eq_integral boysT hboys (s i) (s j) Cpt q (m i) (c i) (m j) (c j)
      (hs i) (hs j) (hc i) (hc j)
  rw [e, quadForm_const_mul, quadForm_integral_div volume (fun i => shellFnE (s i) (m i) (c i)) _
    (fun r => ‖r - toE3 Cpt‖) (fun i j => integrable_shellFnE_mul_div _ _ _ _ _ _ _ (hs i) (hs j))]
  simp only [sq]

theorem pointCharge_nsd (boysT : ℝ → ℕ → Tab ℝ)
    (hboys : ∀ T n m, m < n → (boysT T n).get m = boys T m) (Cpt : ℕ → ℝ) (q : ℝ) (hq : 0 ≤ q)
    (s : ι → Shell ℝ) (m c : ι → ℕ)
    (hs : ∀ i, ∀ k, k < (s i).nprim → 0 < (s i).exp! k)
    (hc : ∀ i, ((s i).comp! (c i)).1 + ((s i).comp! (c i)).2.1 + ((s i).comp! (c i)).2.2 ≤ (s i).l)
    (x : ι → ℝ) :
    quadForm (pointChargeMat boysT Cpt q s m c) x ≤ 0 := by
  rw [pointCharge_quadForm_eq boysT hboys Cpt q s m c hs hc, neg_mul]
  exact neg_nonpos.mpr (mul_nonneg hq
    (integral_nonneg fun r => div_nonneg (sq_nonneg _) (norm_nonneg _)))

omit [Fintype ι] in
theorem pointChargeMat_symm (boysT : ℝ → ℕ → Tab ℝ)
    (hboys : ∀ T n m, m < n → (boysT T n).get m = boys T m) (Cpt : ℕ → ℝ) (q : ℝ)
    (s : ι → Shell ℝ) (m c : ι → ℕ)
    (hs : ∀ i, ∀ k, k < (s i).nprim → 0 < (s i).exp! k)
    (hc : ∀ i, ((s i).comp! (c i)).1 + ((s i).comp! (c i)).2.1 + ((s i).comp! (c i)).2.2 ≤ (s i).l)
    (i j : ι) :
    pointChargeMat boysT Cpt q s m c i j = pointChargeMat boysT Cpt q s m c j i := by
  unfold pointChargeMat
  rw [pointChargeBlock_eq_integral boysT hboys (s i) (s j) Cpt q (m i) (c i)
      (m j) (c j) (hs i) (hs j) (hc i) (hc j),
    pointChargeBlock_eq_integral boysT hboys (s j) (s i) Cpt q (m j) (c j)
      (m i) (c i) (hs j) (hs i) (hc j) (hc i)]
  simp_rw [mul_comm (shellFnE (s i) (m i) (c i) _)]

theorem pointCharge_abs_le [DecidableEq ι] (boysT : ℝ → ℕ → Tab ℝ)
    (hboys : ∀ T n m, m < n → (boysT T n).get m = boys T m) (Cpt : ℕ → ℝ) (q : ℝ) (hq : 0 ≤ q)
    (s : ι → Shell ℝ) (m c : ι → ℕ)
    (hs : ∀ i, ∀ k, k < (s i).nprim → 0 < (s i).exp! k)
    (hc : ∀ i, ((s i).comp! (c i)).1 + ((s i).comp! (c i)).2.1 + ((s i).comp! (c i)).2.2 ≤ (s i).l)
    (i j : ι) :
    |pointChargeMat boysT Cpt q s m c i j|
      ≤ √(-pointChargeMat boysT Cpt q s m c i i) * √(-pointChargeMat boysT Cpt q s m c j j) := by
  have h := psd_abs_le (fun i j => -pointChargeMat boysT Cpt q s m c i j)
    (fun i j => congrArg Neg.neg (pointChargeMat_symm boysT hboys Cpt q s m c hs hc i j))
    (fun x => by
      rw [quadForm_neg]
      exact neg_nonneg.mpr (pointCharge_nsd boysT hboys Cpt q hq s m c hs hc x)) i j
  rwa [abs_neg] at h

end PointCharge

/-! ## 3. The kinetic-energy matrix: gradient form -/
section KineticFunctional
open Polynomial
variable {K : Type} [Field K] [CharZero K]

/-- Integration by parts at the level of the Gaussian functional `G`. -/
theorem G_mul_Dtw_Dtw_grad (a b PA PB p : K) (hp : p ≠ 0) (hab : a + b = p)
    (hPAB : a * PA + b * PB = 0) (u v : K[X]) :
    G p (u * Dtw b PB (Dtw b PB v)) = - G p (Dtw a PA u * Dtw b PB v) :=
  G_mul_Dtw a b PA PB p hp hab hPAB u (Dtw b PB v)

end KineticFunctional

section Kinetic3D

lemma integrable_shellDeriv_mul (s t : Shell ℝ) (o o' : Comp) (ma ca mb cb : ℕ)
    (hs : ∀ k < s.nprim, 0 < s.exp! k) (ht : ∀ k < t.nprim, 0 < t.exp! k) :
    Integrable (fun r : ℝ × ℝ × ℝ => shellDerivFn s ma ca o r * shellDerivFn t mb cb o' r) := by
  simpa only [monoFn, pow_zero, mul_one]
    using integrable_shellW s t (fun _ => 0) o o' (0,0,0) ma ca mb cb hs ht

/-- Integration by parts along the axis of the unit vector `e`. -/
theorem shell_ibp (s t : Shell ℝ) (ma ca mb cb : ℕ)
    (hs : ∀ k < s.nprim, 0 < s.exp! k) (ht : ∀ k < t.nprim, 0 < t.exp! k) (o o' e : Comp)
    (he : e = (1,0,0) ∨ e = (0,1,0) ∨ e = (0,0,1)) :
    ∫ r : ℝ × ℝ × ℝ, shellDerivFn s ma ca o r * shellDerivFn t mb cb (o' + e) r
      = - ∫ r : ℝ × ℝ × ℝ, shellDerivFn s ma ca (o + e) r * shellDerivFn t mb cb o' r := by
  simpa only [monoFn, pow_zero, mul_one]
    using shellW_ibp s t (fun _ => 0) o o' (0,0,0) e ma ca mb cb hs ht
      (he.imp (⟨·, rfl⟩) (Or.imp (⟨·, rfl⟩) (⟨·, rfl⟩)))

theorem shell_ibp_x (s t : Shell ℝ) (ma ca mb cb : ℕ)
    (hs : ∀ k < s.nprim, 0 < s.exp! k) (ht : ∀ k < t.nprim, 0 < t.exp! k)
    (ox oy oz px py pz : ℕ) :
    ∫ r : ℝ × ℝ × ℝ, shellDerivFn s ma ca (ox, oy, oz) r * shellDerivFn t mb cb (px + 1, py, pz) r
      = - ∫ r : ℝ × ℝ × ℝ, shellDerivFn s ma ca (ox + 1, oy, oz) r
            * shellDerivFn t mb cb (px, py, pz) r :=
  shell_ibp s t ma ca mb cb hs ht (ox, oy, oz) (px, py, pz) (1,0,0) (.inl rfl)

/-- The kinetic block is computed with both derivatives on the right function; one integration by
parts per axis gives the symmetric gradient form, from which symmetry and positivity are read off. -/
theorem kineticBlock_eq_gradient (s t : Shell ℝ) (ma ca mb cb : ℕ)
    (hs : ∀ k < s.nprim, 0 < s.exp! k) (ht : ∀ k < t.nprim, 0 < t.exp! k)
    (hc : (s.comp! ca).1 ≤ s.l ∧ (s.comp! ca).2.1 ≤ s.l ∧ (s.comp! ca).2.2 ≤ s.l) :
    (kineticBlock s t).get4 ma ca mb cb
      = 1 / 2 * ((∫ r : ℝ × ℝ × ℝ, shellDerivFn s ma ca (1,0,0) r * shellDerivFn t mb cb (1,0,0) r)
          + (∫ r : ℝ × ℝ × ℝ, shellDerivFn s ma ca (0,1,0) r * shellDerivFn t mb cb (0,1,0) r)
          + (∫ r : ℝ × ℝ × ℝ, shellDerivFn s ma ca (0,0,1) r * shellDerivFn t mb cb (0,0,1) r)) := by
  rw [kineticBlock_eq_integral s t ma ca mb cb hs ht hc]
  have e : ∀ r : ℝ × ℝ × ℝ, shellFn s ma ca r
          * (-(1/2) * (shellDerivFn t mb cb (2,0,0) r + shellDerivFn t mb cb (0,2,0) r
              + shellDerivFn t mb cb (0,0,2) r))
      = -(1/2) * (shellDerivFn s ma ca (0,0,0) r * shellDerivFn t mb cb (2,0,0) r
          + shellDerivFn s ma ca (0,0,0) r * shellDerivFn t mb cb (0,2,0) r
          + shellDerivFn s ma ca (0,0,0) r * shellDerivFn t mb cb (0,0,2) r) := fun r => by
    rw [shellDerivFn_zero]; ring
  simp_rw [e]
  rw [integral_const_mul, integral_add, integral_add]
  · have h := fun e => shell_ibp s t ma ca mb cb hs ht (0,0,0) e e
    have hx := h (1,0,0) (.inl rfl)
    have hy := h (0,1,0) (.inr (.inl rfl))
    have hz := h (0,0,1) (.inr (.inr rfl))
    simp only [Prod.mk_add_mk, zero_add, Nat.reduceAdd] at hx hy hz
    rw [hx, hy, hz]
    ring
  · exact integrable_shellDeriv_mul s t _ _ ma ca mb cb hs ht
  · exact integrable_shellDeriv_mul s t _ _ ma ca mb cb hs ht
  · exact (integrable_shellDeriv_mul s t _ _ ma ca mb cb hs ht).add
      (integrable_shellDeriv_mul s t _ _ ma ca mb cb hs ht)
  · exact integrable_shellDeriv_mul s t _ _ ma ca mb cb hs ht

end Kinetic3D

section KineticMatrix
variable {ι : Type*} [Fintype ι]

noncomputable def kineticMat (s : ι → Shell ℝ) (m c : ι → ℕ) (i j : ι) : ℝ :=
  (kineticBlock (s i) (s j)).get4 (m i) (c i) (m j) (c j)

theorem kinetic_quadForm_eq (s : ι → Shell ℝ) (m c : ι → ℕ)
    (hs : ∀ i, ∀ k < (s i).nprim, 0 < (s i).exp! k)
    (hc : ∀ i, ((s i).comp! (c i)).1 ≤ (s i).l ∧ ((s i).comp! (c i)).2.1 ≤ (s i).l
      ∧ ((s i).comp! (c i)).2.2 ≤ (s i).l) (x : ι → ℝ) :
    quadForm (kineticMat s m c) x
      = 1 / 2 * ((∫ r : ℝ × ℝ × ℝ, (∑ i, x i * shellDerivFn (s i) (m i) (c i) (1,0,0) r) ^ 2)
          + (∫ r : ℝ × ℝ × ℝ, (∑ i, x i * shellDerivFn (s i) (m i) (c i) (0,1,0) r) ^ 2)
          + (∫ r : ℝ × ℝ × ℝ, (∑ i, x i * shellDerivFn (s i) (m i) (c i) (0,0,1) r) ^ 2)) := by
  have e : kineticMat s m c = _ := funext₂ fun i j =>
    kineticBlock_eq_gradient (s i) (s j) (m i) (c i) (m j) (c j) (hs i) (hs j) (hc i)
  have hq : ∀ o : Comp, quadForm (fun i j => ∫ r : ℝ × ℝ × ℝ, shellDerivFn (s i) (m i) (c i) o r
        * shellDerivFn (s j) (m j) (c j) o r) x
      = ∫ r : ℝ × ℝ × ℝ, (∑ i, x i * shellDerivFn (s i) (m i) (c i) o r) ^ 2 := fun o =>
    quadForm_integral_sq volume (fun i => shellDerivFn (s i) (m i) (c i) o)
      (fun i j => integrable_shellDeriv_mul _ _ _ _ _ _ _ _ (hs i) (hs j)) x
  rw [e, quadForm_const_mul, quadForm_add, quadForm_add, hq, hq, hq]

theorem kinetic_psd (s : ι → Shell ℝ) (m c : ι → ℕ)
    (hs : ∀ i, ∀ k < (s i).nprim, 0 < (s i).exp! k)
    (hc : ∀ i, ((s i).comp! (c i)).1 ≤ (s i).l ∧ ((s i).comp! (c i)).2.1 ≤ (s i).l
      ∧ ((s i).comp! (c i)).2.2 ≤ (s i).l) (x : ι → ℝ) :
    0 ≤ quadForm (kineticMat s m c) x := by
  rw [kinetic_quadForm_eq s m c hs hc]
  have h : ∀ o : Comp, 0 ≤ ∫ r : ℝ × ℝ × ℝ, (∑ i, x i * shellDerivFn (s i) (m i) (c i) o r) ^ 2 :=
    fun o => integral_nonneg fun r => sq_nonneg _
  exact mul_nonneg one_half_pos.le (add_nonneg (add_nonneg (h _) (h _)) (h _))

omit [Fintype ι] in
theorem kineticMat_symm (s : ι → Shell ℝ) (m c : ι → ℕ)
    (hs : ∀ i, ∀ k < (s i).nprim, 0 < (s i).exp! k)
    (hc : ∀ i, ((s i).comp! (c i)).1 ≤ (s i).l ∧ ((s i).comp! (c i)).2.1 ≤ (s i).l
      ∧ ((s i).comp! (c i)).2.2 ≤ (s i).l) (i j : ι) :
    kineticMat s m c i j = kineticMat s m c j i := by
  unfold kineticMat
  rw [kineticBlock_eq_gradient (s i) (s j) (m i) (c i) (m j) (c j) (hs i) (hs j) (hc i),
    kineticBlock_eq_gradient (s j) (s i) (m j) (c j) (m i) (c i) (hs j) (hs i) (hc j)]
  simp_rw [mul_comm (shellDerivFn (s i) (m i) (c i) _ _)]

theorem kinetic_abs_le [DecidableEq ι] (s : ι → Shell ℝ) (m c : ι → ℕ)
    (hs : ∀ i, ∀ k < (s i).nprim, 0 < (s i).exp! k)
    (hc : ∀ i, ((s i).comp! (c i)).1 ≤ (s i).l ∧ ((s i).comp! (c i)).2.1 ≤ (s i).l
      ∧ ((s i).comp! (c i)).2.2 ≤ (s i).l) (i j : ι) :
    |kineticMat s m c i j| ≤ √(kineticMat s m c i i) * √(kineticMat s m c j j) :=
  psd_abs_le _ (kineticMat_symm s m c hs hc) (kinetic_psd s m c hs hc) i j

end KineticMatrix

/-! ### The first-order `shellDerivFn` are the partial derivatives of `shellFn` -/
section Partial

lemma differentiable_prim1 (α A : ℝ) (n : ℕ) : Differentiable ℝ (prim1 α A n) := by
  unfold prim1; fun_prop

theorem hasDerivAt_shellFn_x (s : Shell ℝ) (m c : ℕ) (x y z : ℝ) :
    HasDerivAt (fun x' => shellFn s m c (x', y, z)) (shellDerivFn s m c (1,0,0) (x, y, z)) x := by
  unfold shellFn shellDerivFn
  refine HasDerivAt.fun_sum fun k _ => HasDerivAt.const_mul _ ?_
  simp_rw [primFn_eq_prod]
  simp only [primDerivFn, iteratedDeriv_one, iteratedDeriv_zero]
  exact (((differentiable_prim1 _ _ _ x).hasDerivAt).mul_const _).mul_const _

theorem hasDerivAt_shellFn_y (s : Shell ℝ) (m c : ℕ) (x y z : ℝ) :
    HasDerivAt (fun y' => shellFn s m c (x, y', z)) (shellDerivFn s m c (0,1,0) (x, y, z)) y := by
  unfold shellFn shellDerivFn
  refine HasDerivAt.fun_sum fun k _ => HasDerivAt.const_mul _ ?_
  simp_rw [primFn_eq_prod]
  simp only [primDerivFn, iteratedDeriv_one, iteratedDeriv_zero]
  exact (((differentiable_prim1 _ _ _ y).hasDerivAt).const_mul _).mul_const _

theorem hasDerivAt_shellFn_z (s : Shell ℝ) (m c : ℕ) (x y z : ℝ) :
    HasDerivAt (fun z' => shellFn s m c (x, y, z')) (shellDerivFn s m c (0,0,1) (x, y, z)) z := by
  unfold shellFn shellDerivFn
  refine HasDerivAt.fun_sum fun k _ => HasDerivAt.const_mul _ ?_
  simp_rw [primFn_eq_prod]
  simp only [primDerivFn, iteratedDeriv_one, iteratedDeriv_zero]
  exact ((differentiable_prim1 _ _ _ z).hasDerivAt).const_mul _

end Partial

/-! ## 4. Positivity of the Gaussian and Coulomb kernels -/

theorem exp_neg_mul_sq_le {a b : ℝ} (h : b ≤ a) (t : ℝ) : exp (-a * t ^ 2) ≤ exp (-b * t ^ 2) :=
  Real.exp_le_exp.mpr (mul_le_mul_of_nonneg_right (neg_le_neg h) (sq_nonneg t))

theorem exp_neg_mul_sq_le_one {a : ℝ} (h : 0 ≤ a) (t : ℝ) : exp (-a * t ^ 2) ≤ 1 :=
  Real.exp_le_one_iff.mpr (mul_nonpos_of_nonpos_of_nonneg (neg_nonpos.mpr h) (sq_nonneg t))

section Kernel
open Set
variable {V : Type*} [NormedAddCommGroup V] [InnerProductSpace ℝ V] [FiniteDimensional ℝ V]
  [MeasurableSpace V] [BorelSpace V]

noncomputable def gaussSmooth (c : ℝ) (F : V → ℝ) (z : V) : ℝ :=
  ∫ r : V, F r * exp (-c * ‖r - z‖ ^ 2)

lemma gauss_conv_identity (c : ℝ) (hc : 0 < c) (x y : V) :
    ∫ z : V, exp (-c * ‖x - z‖ ^ 2) * exp (-c * ‖y - z‖ ^ 2)
      = exp (-(c / 2) * ‖x - y‖ ^ 2) * (π / (2 * c)) ^ ((Module.finrank ℝ V : ℝ) / 2) := by
  have h := gauss3_product_integral c c hc hc.le x y
  simp_rw [norm_sub_rev _ x, norm_sub_rev _ y] at h
  rw [h]
  have e1 : c * c / (c + c) = c / 2 := by field_simp; ring
  have e2 : c + c = 2 * c := by ring
  rw [e1, e2, norm_sub_rev y x]

noncomputable def tripleFn (c : ℝ) (F : V → ℝ) (q : (V × V) × V) : ℝ :=
  (F q.1.1 * exp (-c * ‖q.1.1 - q.2‖ ^ 2)) * (F q.1.2 * exp (-c * ‖q.1.2 - q.2‖ ^ 2))

omit [InnerProductSpace ℝ V] [FiniteDimensional ℝ V] [MeasurableSpace V] [BorelSpace V] in
lemma tripleFn_eq (c : ℝ) (F : V → ℝ) (p : V × V) (z : V) :
    tripleFn c F (p, z)
      = (F p.1 * F p.2) * (exp (-c * ‖p.1 - z‖ ^ 2) * exp (-c * ‖p.2 - z‖ ^ 2)) := by
  unfold tripleFn; ring

lemma integrable_tripleFn (c : ℝ) (hc : 0 < c) (F : V → ℝ) (hF : Integrable F) :
    Integrable (tripleFn c F) (((volume : Measure V).prod volume).prod volume) := by
  have hconv := gauss_conv_identity (V := V) c hc
  have hκ : 0 ≤ (π / (2 * c)) ^ ((Module.finrank ℝ V : ℝ) / 2) :=
    Real.rpow_nonneg (div_nonneg pi_pos.le (mul_pos two_pos hc).le) _
  -- of the constant only `0 ≤ κ` is used
  generalize (π / (2 * c)) ^ ((Module.finrank ℝ V : ℝ) / 2) = κ at hconv hκ
  have hg : ∀ f : (V × V) × V → V, Continuous f →
      Continuous fun q : (V × V) × V => exp (-c * ‖f q - q.2‖ ^ 2) := fun f hf =>
    Real.continuous_exp.comp
      (continuous_const.mul ((continuous_norm.comp (hf.sub continuous_snd)).pow 2))
  have hFm := hF.aestronglyMeasurable
  have hm : AEStronglyMeasurable (tripleFn c F) (((volume : Measure V).prod volume).prod volume) :=
    (hFm.comp_fst.comp_fst.mul (hg _ continuous_fst.fst).aestronglyMeasurable).mul
      (hFm.comp_snd.comp_fst.mul (hg _ continuous_fst.snd).aestronglyMeasurable)
  refine integrable_prod_of_integral_norm_le hm (Filter.Eventually.of_forall fun p => ?_)
    ((hF.mul_prod hF).norm.mul_const κ) fun p => ?_
  · simp_rw [tripleFn_eq]
    have h := integrable_gauss3_product c c hc hc.le p.1 p.2
    simp_rw [norm_sub_rev _ p.1, norm_sub_rev _ p.2] at h
    exact h.const_mul _
  · calc ∫ z : V, ‖tripleFn c F (p, z)‖
        = ‖F p.1 * F p.2‖ * (exp (-(c / 2) * ‖p.1 - p.2‖ ^ 2) * κ) := by
          rw [← hconv, ← integral_const_mul]
          refine integral_congr_ae (Filter.Eventually.of_forall fun z => ?_)
          beta_reduce
          rw [tripleFn_eq, norm_mul,
            Real.norm_of_nonneg (mul_nonneg (Real.exp_pos _).le (Real.exp_pos _).le)]
      _ ≤ ‖F p.1 * F p.2‖ * κ :=
          mul_le_mul_of_nonneg_left
            (mul_le_of_le_one_left hκ (exp_neg_mul_sq_le_one (half_pos hc).le _)) (norm_nonneg _)

/-- The Gaussian kernel is a Gram kernel: write it as the `z`-integral of two Gaussians about `z`
(`gauss_conv_identity`) and integrate `tripleFn` over `(r₁, r₂)` first. -/
theorem gauss_kernel_gram (c : ℝ) (hc : 0 < c) (F : V → ℝ) (hF : Integrable F) :
    (π / (2 * c)) ^ ((Module.finrank ℝ V : ℝ) / 2)
        * ∫ p : V × V, F p.1 * F p.2 * exp (-(c / 2) * ‖p.1 - p.2‖ ^ 2)
      = ∫ z : V, gaussSmooth c F z ^ 2 := by
  have hH := integrable_tripleFn c hc F hF
  have e1 : ∀ p : V × V, ∫ z : V, tripleFn c F (p, z)
      = (π / (2 * c)) ^ ((Module.finrank ℝ V : ℝ) / 2)
        * (F p.1 * F p.2 * exp (-(c / 2) * ‖p.1 - p.2‖ ^ 2)) := by
    intro p
    simp_rw [tripleFn_eq]
    rw [integral_const_mul, gauss_conv_identity c hc]
    ring
  have e2 : ∀ z : V, ∫ p : V × V, tripleFn c F (p, z) ∂((volume : Measure V).prod volume)
      = gaussSmooth c F z ^ 2 := fun z =>
    (integral_prod_mul (fun r : V => F r * exp (-c * ‖r - z‖ ^ 2))
      (fun r : V => F r * exp (-c * ‖r - z‖ ^ 2))).trans (sq _).symm
  rw [← integral_const_mul, Measure.volume_eq_prod]
  calc _ = ∫ p : V × V, (∫ z : V, tripleFn c F (p, z)) ∂((volume : Measure V).prod volume) :=
        integral_congr_ae (Filter.Eventually.of_forall fun p => (e1 p).symm)
    _ = ∫ z : V, ∫ p : V × V, tripleFn c F (p, z) ∂((volume : Measure V).prod volume) :=
        (integral_prod _ hH).symm.trans (integral_prod_symm _ hH)
    _ = _ := integral_congr_ae (Filter.Eventually.of_forall e2)

theorem gauss_kernel_nonneg (u : ℝ) (F : V → ℝ) (hF : Integrable F) :
    0 ≤ ∫ p : V × V, F p.1 * F p.2 * exp (-u ^ 2 * ‖p.1 - p.2‖ ^ 2) := by
  rcases eq_or_ne u 0 with rfl | h0
  · -- the kernel is `1` and the integral is `(∫ F)²`
    have e : (fun p : V × V => F p.1 * F p.2 * exp (-(0:ℝ) ^ 2 * ‖p.1 - p.2‖ ^ 2))
        = fun p => F p.1 * F p.2 := funext fun p => by
      rw [zero_pow two_ne_zero, neg_zero, zero_mul, Real.exp_zero, mul_one]
    rw [e, Measure.volume_eq_prod, integral_prod_mul]
    exact mul_self_nonneg _
  · have hc : 0 < 2 * u ^ 2 := mul_pos two_pos (sq_pos_of_ne_zero h0)
    have h := gauss_kernel_gram (2 * u ^ 2) hc F hF
    rw [mul_div_cancel_left₀ _ two_ne_zero] at h
    exact nonneg_of_mul_nonneg_right ((integral_nonneg fun z => sq_nonneg _).trans_eq h.symm)
      (Real.rpow_pos_of_pos (div_pos pi_pos (mul_pos two_pos hc)) _)

lemma diagonal_null [Nontrivial V] :
    ((volume : Measure V).prod volume) {p : V × V | p.1 = p.2} = 0 := by
  have hm : MeasurableSet {p : V × V | p.1 = p.2} :=
    measurableSet_eq_fun measurable_fst measurable_snd
  rw [Measure.measure_prod_null hm]
  refine Filter.Eventually.of_forall fun x => ?_
  have : Prod.mk x ⁻¹' {p : V × V | p.1 = p.2} = {x} := by
    ext y; simp [eq_comm]
  show volume (Prod.mk x ⁻¹' {p : V × V | p.1 = p.2}) = 0
  rw [this]
  exact measure_singleton x

noncomputable def coulJoint (F : V → ℝ) (q : (V × V) × ℝ) : ℝ :=
  F q.1.1 * F q.1.2 * exp (-q.2 ^ 2 * ‖q.1.1 - q.1.2‖ ^ 2)

lemma coulJoint_aesm (F : V → ℝ) (hF : AEStronglyMeasurable F volume) :
    AEStronglyMeasurable (coulJoint F)
      (((volume : Measure V).prod volume).prod (volume.restrict (Ioi (0:ℝ)))) := by
  have h1 : AEStronglyMeasurable (fun q : (V × V) × ℝ => F q.1.1 * F q.1.2)
      (((volume : Measure V).prod volume).prod (volume.restrict (Ioi (0:ℝ)))) :=
    (hF.comp_fst.mul hF.comp_snd).comp_fst
  have h2 : Continuous fun q : (V × V) × ℝ => exp (-q.2 ^ 2 * ‖q.1.1 - q.1.2‖ ^ 2) := by fun_prop
  exact h1.mul h2.aestronglyMeasurable

lemma integrable_coulJoint [Nontrivial V] (F : V → ℝ) (hF : AEStronglyMeasurable F volume)
    (hFF : Integrable (fun p : V × V => F p.1 * F p.2 / ‖p.1 - p.2‖)
      ((volume : Measure V).prod volume)) :
    Integrable (coulJoint F)
      (((volume : Measure V).prod volume).prod (volume.restrict (Ioi (0:ℝ)))) := by
  refine integrable_prod_of_integral_norm_le (coulJoint_aesm F hF) ?_
    (hFF.norm.const_mul (2 / √π)⁻¹) fun p => ?_
  · -- off the diagonal `u ↦ e^{-u²|r₁-r₂|²}` is integrable
    filter_upwards [measure_eq_zero_iff_ae_notMem.mp diagonal_null] with p hp
    have hpos : 0 < ‖p.1 - p.2‖ ^ 2 := pow_pos (norm_pos_iff.mpr (sub_ne_zero.mpr hp)) 2
    refine (((integrable_exp_neg_mul_sq hpos).integrableOn (s := Ioi (0:ℝ))).const_mul
      (F p.1 * F p.2)).congr (Filter.Eventually.of_forall fun u => ?_)
    simp only [coulJoint]
    congr 2; ring
  · refine le_of_eq ?_
    rw [norm_div, norm_norm, div_eq_integral_gauss _ _ (norm_nonneg _),
      inv_mul_cancel_left₀ (by positivity)]
    exact integral_congr_ae (Filter.Eventually.of_forall fun u =>
      (norm_mul _ _).trans (congrArg _ (Real.norm_of_nonneg (Real.exp_pos _).le)))

/-- `1/r = 2/√π ∫₀^∞ e^{-u² r²} du` (`div_eq_integral_gauss`) under the integral, and the order of
integration swapped (`integrable_coulJoint`). -/
theorem coulomb_kernel_eq [Nontrivial V] (F : V → ℝ) (hF : Integrable F)
    (hFF : Integrable (fun p : V × V => F p.1 * F p.2 / ‖p.1 - p.2‖)
      ((volume : Measure V).prod volume)) :
    ∫ p : V × V, F p.1 * F p.2 / ‖p.1 - p.2‖
      = 2 / √π * ∫ u in Ioi (0:ℝ), ∫ p : V × V, F p.1 * F p.2 * exp (-u ^ 2 * ‖p.1 - p.2‖ ^ 2) := by
  have hJ := integrable_coulJoint F hF.aestronglyMeasurable hFF
  simp_rw [fun p : V × V => div_eq_integral_gauss (F p.1 * F p.2) _ (norm_nonneg (p.1 - p.2))]
  rw [integral_const_mul]
  have hswap := integral_integral_swap (f := fun (p : V × V) (u : ℝ) => coulJoint F (p, u))
    (μ := (volume : Measure V).prod volume) (ν := volume.restrict (Ioi (0:ℝ))) hJ
  rw [show (volume : Measure (V × V)) = (volume : Measure V).prod volume from rfl]
  exact congrArg _ hswap

theorem coulomb_kernel_nonneg [Nontrivial V] (F : V → ℝ) (hF : Integrable F)
    (hFF : Integrable (fun p : V × V => F p.1 * F p.2 / ‖p.1 - p.2‖)
      ((volume : Measure V).prod volume)) :
    0 ≤ ∫ p : V × V, F p.1 * F p.2 / ‖p.1 - p.2‖ := by
  rw [coulomb_kernel_eq F hF hFF]
  exact mul_nonneg (by positivity) (integral_nonneg fun u => gauss_kernel_nonneg u F hF)

end Kernel

/-! ## 5. Gaussian-bounded functions: the hypotheses of §4 hold for them in dimension 3 -/

section GaussBdd
variable {V : Type*} [NormedAddCommGroup V]

def GaussBdd (F : V → ℝ) : Prop := ∃ K a : ℝ, 0 < a ∧ ∀ r, |F r| ≤ K * exp (-a * ‖r‖ ^ 2)

theorem GaussBdd.bound_nonneg {F : V → ℝ} {K a : ℝ} (hK : ∀ r, |F r| ≤ K * exp (-a * ‖r‖ ^ 2)) :
    0 ≤ K := by
  have h := (abs_nonneg _).trans (hK 0)
  rwa [norm_zero, zero_pow two_ne_zero, mul_zero, Real.exp_zero, mul_one] at h

theorem GaussBdd.mono {F G : V → ℝ} (hG : GaussBdd G) (Cst : ℝ) (h : ∀ r, |F r| ≤ Cst * |G r|)
    (hC : 0 ≤ Cst) : GaussBdd F := by
  obtain ⟨K, a, ha, hK⟩ := hG
  exact ⟨Cst * K, a, ha, fun r =>
    ((h r).trans (mul_le_mul_of_nonneg_left (hK r) hC)).trans_eq (mul_assoc _ _ _).symm⟩

theorem GaussBdd.const_mul {F : V → ℝ} (hF : GaussBdd F) (c : ℝ) : GaussBdd fun r => c * F r :=
  hF.mono |c| (fun r => (abs_mul c (F r)).le) (abs_nonneg c)

theorem GaussBdd.zero : GaussBdd (fun _ : V => (0:ℝ)) :=
  ⟨0, 1, one_pos, fun r => by rw [abs_zero, zero_mul]⟩

theorem GaussBdd.add {F G : V → ℝ} (hF : GaussBdd F) (hG : GaussBdd G) :
    GaussBdd fun r => F r + G r := by
  obtain ⟨K, a, ha, hK⟩ := hF
  obtain ⟨L, b, hb, hL⟩ := hG
  refine ⟨K + L, min a b, lt_min ha hb, fun r => ?_⟩
  calc |F r + G r| ≤ |F r| + |G r| := abs_add_le _ _
    _ ≤ K * exp (-(min a b) * ‖r‖ ^ 2) + L * exp (-(min a b) * ‖r‖ ^ 2) :=
        add_le_add
          ((hK r).trans (mul_le_mul_of_nonneg_left (exp_neg_mul_sq_le (min_le_left a b) _)
            (GaussBdd.bound_nonneg hK)))
          ((hL r).trans (mul_le_mul_of_nonneg_left (exp_neg_mul_sq_le (min_le_right a b) _)
            (GaussBdd.bound_nonneg hL)))
    _ = _ := (add_mul _ _ _).symm

theorem GaussBdd.sum {κ : Type*} (t : Finset κ) (F : κ → V → ℝ) (hF : ∀ k ∈ t, GaussBdd (F k)) :
    GaussBdd fun r => ∑ k ∈ t, F k r := by
  classical
  induction t using Finset.induction_on with
  | empty => simpa using GaussBdd.zero
  | insert k t hk ih =>
    simp_rw [Finset.sum_insert hk]
    exact (hF k (Finset.mem_insert_self k t)).add
      (ih fun j hj => hF j (Finset.mem_insert_of_mem hj))

theorem GaussBdd.mul {F G : V → ℝ} (hF : GaussBdd F) (hG : GaussBdd G) :
    GaussBdd fun r => F r * G r := by
  obtain ⟨L, b, hb, hL⟩ := hG
  have hL0 := GaussBdd.bound_nonneg hL
  refine hF.mono L (fun r => ?_) hL0
  rw [abs_mul, mul_comm]
  exact mul_le_mul_of_nonneg_right
    ((hL r).trans (mul_le_of_le_one_right hL0 (exp_neg_mul_sq_le_one hb.le _))) (abs_nonneg _)

theorem gaussBdd_gauss (a : ℝ) (ha : 0 < a) (P : V) : GaussBdd fun r : V => exp (-a * ‖r - P‖ ^ 2) := by
  refine ⟨exp (a * ‖P‖ ^ 2), a / 2, half_pos ha, fun r => ?_⟩
  rw [abs_of_pos (Real.exp_pos _), ← Real.exp_add]
  refine Real.exp_le_exp.mpr ?_
  have h1 : ‖r‖ ^ 2 ≤ 2 * (‖r - P‖ ^ 2 + ‖P‖ ^ 2) :=
    (pow_le_pow_left₀ (norm_nonneg _) (norm_le_norm_sub_add r P) 2).trans add_sq_le
  linarith [mul_le_mul_of_nonneg_left h1 (half_pos ha).le]

theorem pow_mul_exp_neg_le (n : ℕ) (ε : ℝ) (hε : 0 < ε) (t : ℝ) (ht : 0 ≤ t) :
    t ^ n * exp (-ε * t ^ 2) ≤ 1 + n.factorial / ε ^ n := by
  have hs : t ^ n ≤ 1 + (t ^ 2) ^ n := by
    rw [← pow_mul]
    rcases le_or_gt t 1 with h | h
    · exact (pow_le_one₀ ht h).trans (le_add_of_nonneg_right (pow_nonneg ht _))
    · exact (pow_le_pow_right₀ h.le (Nat.le_mul_of_pos_left n two_pos)).trans
        (le_add_of_nonneg_left zero_le_one)
  have hfac : (t ^ 2) ^ n * exp (-ε * t ^ 2) ≤ n.factorial / ε ^ n := by
    have h := Real.pow_div_factorial_le_exp (x := ε * t ^ 2) (mul_nonneg hε.le (sq_nonneg t)) n
    rw [div_le_iff₀ (Nat.cast_pos (α := ℝ) |>.mpr n.factorial_pos)] at h
    rwa [le_div_iff₀ (pow_pos hε n), neg_mul, Real.exp_neg, mul_right_comm, ← mul_pow,
      mul_inv_le_iff₀ (Real.exp_pos _), mul_comm (t ^ 2), mul_comm (n.factorial : ℝ)]
  calc t ^ n * exp (-ε * t ^ 2) ≤ (1 + (t ^ 2) ^ n) * exp (-ε * t ^ 2) :=
        mul_le_mul_of_nonneg_right hs (Real.exp_pos _).le
    _ = exp (-ε * t ^ 2) + (t ^ 2) ^ n * exp (-ε * t ^ 2) := by rw [add_mul, one_mul]
    _ ≤ 1 + n.factorial / ε ^ n := add_le_add (exp_neg_mul_sq_le_one hε.le t) hfac

end GaussBdd

section Dim3
variable {V : Type*} [NormedAddCommGroup V] [InnerProductSpace ℝ V] [FiniteDimensional ℝ V]
  [MeasurableSpace V] [BorelSpace V]

theorem integrable_of_gaussBdd {F : V → ℝ} (hF : GaussBdd F) (hFm : AEStronglyMeasurable F volume) :
    Integrable F := by
  obtain ⟨K, a, ha, hK⟩ := hF
  exact ((integrable_gauss_norm ha).const_mul K).mono' hFm
    (Filter.Eventually.of_forall fun r => (Real.norm_eq_abs _).trans_le (hK r))

theorem boys_zero_le_one (T : ℝ) (hT : 0 ≤ T) : boys T 0 ≤ 1 := by
  unfold boys
  have h : ∫ t in (0:ℝ)..1, t ^ (2 * 0) * Real.exp (-T * t ^ 2) ≤ ∫ _t in (0:ℝ)..1, (1:ℝ) := by
    apply intervalIntegral.integral_mono_on (by norm_num)
    · exact (boys_integrand_continuous T 0).intervalIntegrable _ _
    · exact intervalIntegrable_const
    · intro t _
      rw [mul_zero, pow_zero, one_mul]
      exact exp_neg_mul_sq_le_one hT t
  simpa using h

variable {ι : Type*} [Fintype ι]

noncomputable def coulombMat (F : ι → V → ℝ) (i j : ι) : ℝ :=
  ∫ p : V × V, F i p.1 * F j p.2 / ‖p.1 - p.2‖

omit [Fintype ι] in
theorem coulombMat_symm (F : ι → V → ℝ) (i j : ι) : coulombMat F i j = coulombMat F j i := by
  unfold coulombMat
  rw [Measure.volume_eq_prod,
    ← integral_prod_swap (fun p : V × V => F i p.1 * F j p.2 / ‖p.1 - p.2‖)]
  refine integral_congr_ae (Filter.Eventually.of_forall fun p => ?_)
  simp only [Prod.fst_swap, Prod.snd_swap]
  rw [norm_sub_rev, mul_comm]

variable (h3 : Module.finrank ℝ V = 3)
include h3

theorem coulomb_s_integrable (p : ℝ) (hp : 0 < p) (P Cc : V) :
    Integrable fun r : V => exp (-p * ‖r - P‖ ^ 2) / ‖r - Cc‖ := by
  by_contra hni
  have h0 := integral_undef hni
  rw [coulomb_s_integral h3 p hp] at h0
  exact (mul_pos (div_pos (mul_pos two_pos pi_pos) hp) (boys_pos _ 0)).ne' h0

theorem coulomb_s_le (p : ℝ) (hp : 0 < p) (P Cc : V) :
    ∫ r : V, exp (-p * ‖r - P‖ ^ 2) / ‖r - Cc‖ ≤ 2 * π / p := by
  rw [coulomb_s_integral h3 p hp]
  exact mul_le_of_le_one_right (div_pos (mul_pos two_pos pi_pos) hp).le
    (boys_zero_le_one _ (mul_nonneg hp.le (sq_nonneg _)))

theorem integrable_div_norm_of_gaussBdd {G : V → ℝ} (hGm : AEStronglyMeasurable G volume) {K a : ℝ}
    (ha : 0 < a) (hK : ∀ r, |G r| ≤ K * exp (-a * ‖r‖ ^ 2)) (Cc : V) :
    Integrable (fun r : V => G r / ‖r - Cc‖)
      ∧ ∫ r : V, ‖G r / ‖r - Cc‖‖ ≤ K * (2 * π / a) := by
  have hdom : Integrable fun r : V => K * (exp (-a * ‖r - 0‖ ^ 2) / ‖r - Cc‖) :=
    (coulomb_s_integrable h3 a ha 0 Cc).const_mul K
  have hle : ∀ r : V, ‖G r / ‖r - Cc‖‖ ≤ K * (exp (-a * ‖r - 0‖ ^ 2) / ‖r - Cc‖) := by
    intro r
    rw [norm_div, norm_norm, Real.norm_eq_abs, sub_zero, ← mul_div_assoc]
    exact div_le_div_of_nonneg_right (hK r) (norm_nonneg _)
  have hint : Integrable (fun r : V => G r / ‖r - Cc‖) :=
    hdom.mono' (hGm.aemeasurable.div
      (continuous_norm.comp (continuous_sub_right Cc)).measurable.aemeasurable).aestronglyMeasurable
      (Filter.Eventually.of_forall hle)
  refine ⟨hint, ?_⟩
  calc ∫ r : V, ‖G r / ‖r - Cc‖‖
      ≤ ∫ r : V, K * (exp (-a * ‖r - 0‖ ^ 2) / ‖r - Cc‖) :=
        integral_mono hint.norm hdom hle
    _ = K * ∫ r : V, exp (-a * ‖r - 0‖ ^ 2) / ‖r - Cc‖ := integral_const_mul _ _
    _ ≤ K * (2 * π / a) :=
        mul_le_mul_of_nonneg_left (coulomb_s_le h3 a ha 0 Cc) (GaussBdd.bound_nonneg hK)

theorem integrable_coulomb_pair_of_gaussBdd {F G : V → ℝ} (hFm : AEStronglyMeasurable F volume)
    (hGm : AEStronglyMeasurable G volume) (hF : GaussBdd F) (hG : GaussBdd G) :
    Integrable (fun p : V × V => F p.1 * G p.2 / ‖p.1 - p.2‖)
      ((volume : Measure V).prod volume) := by
  obtain ⟨K, a, ha, hK⟩ := hG
  have hm : AEStronglyMeasurable (fun p : V × V => F p.1 * G p.2 / ‖p.1 - p.2‖)
      ((volume : Measure V).prod volume) :=
    ((hFm.comp_fst.mul hGm.comp_snd).aemeasurable.div
      (continuous_norm.comp (continuous_fst.sub continuous_snd)).measurable.aemeasurable).aestronglyMeasurable
  have e : ∀ r1 r2 : V, F r1 * G r2 / ‖r1 - r2‖ = F r1 * (G r2 / ‖r2 - r1‖) := by
    intro r1 r2; rw [norm_sub_rev, mul_div_assoc]
  have hdiv := integrable_div_norm_of_gaussBdd h3 hGm ha hK
  refine integrable_prod_of_integral_norm_le hm (Filter.Eventually.of_forall fun r1 => ?_)
    ((integrable_of_gaussBdd hF hFm).norm.mul_const (K * (2 * π / a))) fun r1 => ?_
  · simp_rw [e]
    exact (hdiv r1).1.const_mul _
  · simp_rw [e, norm_mul]
    rw [integral_const_mul]
    exact mul_le_mul_of_nonneg_left (hdiv r1).2 (norm_nonneg _)

theorem integral_coulomb_pair_eq_iterated {F G : V → ℝ} (hFm : AEStronglyMeasurable F volume)
    (hGm : AEStronglyMeasurable G volume) (hF : GaussBdd F) (hG : GaussBdd G) :
    ∫ p : V × V, F p.1 * G p.2 / ‖p.1 - p.2‖ = ∫ x : V, ∫ y : V, F x * G y / ‖x - y‖ :=
  integral_prod _ (integrable_coulomb_pair_of_gaussBdd h3 hFm hGm hF hG)

theorem coulomb_quadForm_eq (F : ι → V → ℝ) (hFm : ∀ i, AEStronglyMeasurable (F i) volume)
    (hF : ∀ i, GaussBdd (F i)) (x : ι → ℝ) :
    quadForm (coulombMat F) x
      = ∫ p : V × V, (∑ i, x i * F i p.1) * (∑ i, x i * F i p.2) / ‖p.1 - p.2‖ :=
  quadForm_integral_div ((volume : Measure V).prod volume) (fun i p => F i p.1) (fun j p => F j p.2)
    (fun p => ‖p.1 - p.2‖)
    (fun i j => integrable_coulomb_pair_of_gaussBdd h3 (hFm i) (hFm j) (hF i) (hF j)) x

theorem coulomb_self_nonneg (ρ : V → ℝ) (hm : AEStronglyMeasurable ρ volume) (hb : GaussBdd ρ) :
    0 ≤ ∫ p : V × V, ρ p.1 * ρ p.2 / ‖p.1 - p.2‖ :=
  have : Nontrivial V := Module.nontrivial_of_finrank_pos (R := ℝ) (h3 ▸ three_pos)
  coulomb_kernel_nonneg ρ (integrable_of_gaussBdd hb hm)
    (integrable_coulomb_pair_of_gaussBdd h3 hm hm hb hb)

theorem coulomb_psd (F : ι → V → ℝ) (hFm : ∀ i, AEStronglyMeasurable (F i) volume)
    (hF : ∀ i, GaussBdd (F i)) (x : ι → ℝ) :
    0 ≤ quadForm (coulombMat F) x := by
  rw [coulomb_quadForm_eq h3 F hFm hF]
  exact coulomb_self_nonneg h3 _
    (Finset.aestronglyMeasurable_fun_sum _ fun i _ => (hFm i).const_mul (x i))
    (GaussBdd.sum _ _ fun i _ => (hF i).const_mul (x i))

theorem coulomb_abs_le [DecidableEq ι] (F : ι → V → ℝ)
    (hFm : ∀ i, AEStronglyMeasurable (F i) volume) (hF : ∀ i, GaussBdd (F i)) (i j : ι) :
    |coulombMat F i j| ≤ √(coulombMat F i i) * √(coulombMat F j j) :=
  psd_abs_le _ (coulombMat_symm F) (coulomb_psd h3 F hFm hF) i j

end Dim3

/-! ## 6. The pair densities of contracted functions; the exact electron-repulsion integrals -/
section PairDensities
variable {ι : Type*} [Fintype ι]

theorem finrank_E3 : Module.finrank ℝ E3 = 3 := finrank_euclideanSpace_fin

lemma GaussBdd.integrable {F : E3 → ℝ} (hF : GaussBdd F) (hFm : AEStronglyMeasurable F volume) :
    Integrable F :=
  integrable_of_gaussBdd hF hFm

lemma GaussBdd.integrable_div_norm {G : E3 → ℝ} (hGm : AEStronglyMeasurable G volume) (K a : ℝ)
    (ha : 0 < a) (hK : ∀ r, |G r| ≤ K * exp (-a * ‖r‖ ^ 2)) (Cc : E3) :
    Integrable (fun r : E3 => G r / ‖r - Cc‖)
      ∧ ∫ r : E3, ‖G r / ‖r - Cc‖‖ ≤ K * (2 * π / a) :=
  integrable_div_norm_of_gaussBdd finrank_E3 hGm ha hK Cc

theorem integrable_coulomb_pair {F G : E3 → ℝ} (hFm : AEStronglyMeasurable F volume)
    (hGm : AEStronglyMeasurable G volume) (hF : GaussBdd F) (hG : GaussBdd G) :
    Integrable (fun p : E3 × E3 => F p.1 * G p.2 / ‖p.1 - p.2‖)
      ((volume : Measure E3).prod volume) :=
  integrable_coulomb_pair_of_gaussBdd finrank_E3 hFm hGm hF hG

theorem coulomb_energy_nonneg (ρ : E3 → ℝ) (hm : AEStronglyMeasurable ρ volume) (hb : GaussBdd ρ) :
    0 ≤ ∫ r1 : E3, ∫ r2 : E3, ρ r1 * ρ r2 / ‖r1 - r2‖ :=
  (coulomb_self_nonneg finrank_E3 ρ hm hb).trans_eq
    (integral_coulomb_pair_eq_iterated finrank_E3 hm hm hb hb)

lemma continuous_primFnE (α : ℝ) (A : E3) (c : Comp) : Continuous (primFnE α A c) := by
  unfold primFnE
  have h : ∀ u : Fin 3, Continuous fun r : E3 => r u := fun u => (EuclideanSpace.proj u).continuous
  have h0 := h 0
  have h1 := h 1
  have h2 := h 2
  fun_prop

lemma continuous_shellFnE (s : Shell ℝ) (m c : ℕ) : Continuous (shellFnE s m c) := by
  unfold shellFnE
  exact continuous_finsetSum _ fun k _ => (continuous_primFnE _ _ _).const_mul _

/-- Each `|r_i - A_i|` is at most `|r - A|`, and `t^n e^{-(α/2) t²}` is bounded (`pow_mul_exp_neg_le`);
the other half of the exponent remains. -/
lemma gaussBdd_primFnE (α : ℝ) (hα : 0 < α) (A : E3) (c : Comp) : GaussBdd (primFnE α A c) := by
  have hε : 0 < α / 2 := half_pos hα
  refine (gaussBdd_gauss (α / 2) hε A).mono (1 + (c.1 + c.2.1 + c.2.2).factorial
    / (α / 2) ^ (c.1 + c.2.1 + c.2.2)) (fun r => ?_) (by positivity)
  have hi : ∀ i, |r i - A i| ≤ ‖r - A‖ := fun i => PiLp.norm_apply_le (r - A) i
  have hn := norm_nonneg (r - A)
  calc |primFnE α A c r|
      = |r 0 - A 0| ^ c.1 * |r 1 - A 1| ^ c.2.1 * |r 2 - A 2| ^ c.2.2
          * exp (-α * ‖r - A‖ ^ 2) := by
        unfold primFnE
        rw [abs_mul, abs_mul, abs_mul, abs_pow, abs_pow, abs_pow, abs_of_pos (Real.exp_pos _)]
    _ ≤ ‖r - A‖ ^ c.1 * ‖r - A‖ ^ c.2.1 * ‖r - A‖ ^ c.2.2 * exp (-α * ‖r - A‖ ^ 2) :=
        mul_le_mul_of_nonneg_right (mul_le_mul (mul_le_mul
          (pow_le_pow_left₀ (abs_nonneg _) (hi 0) _) (pow_le_pow_left₀ (abs_nonneg _) (hi 1) _)
          (pow_nonneg (abs_nonneg _) _) (pow_nonneg hn _))
          (pow_le_pow_left₀ (abs_nonneg _) (hi 2) _)
          (pow_nonneg (abs_nonneg _) _) (mul_nonneg (pow_nonneg hn _) (pow_nonneg hn _)))
          (Real.exp_pos _).le
    _ = ‖r - A‖ ^ (c.1 + c.2.1 + c.2.2) * exp (-(α / 2) * ‖r - A‖ ^ 2)
          * |exp (-(α / 2) * ‖r - A‖ ^ 2)| := by
        rw [abs_of_pos (Real.exp_pos _), mul_assoc _ (exp _), ← Real.exp_add, pow_add, pow_add]
        congr 2
        ring
    _ ≤ _ := mul_le_mul_of_nonneg_right (pow_mul_exp_neg_le _ _ hε _ hn) (abs_nonneg _)

lemma gaussBdd_shellFnE (s : Shell ℝ) (m c : ℕ) (hs : ∀ k, k < s.nprim → 0 < s.exp! k) :
    GaussBdd (shellFnE s m c) := by
  unfold shellFnE
  exact GaussBdd.sum _ _ fun k hk =>
    (gaussBdd_primFnE _ (hs k (Finset.mem_range.mp hk)) _ _).const_mul _

noncomputable def pairDensity (s t : Shell ℝ) (ma ca mb cb : ℕ) (r : E3) : ℝ :=
  shellFnE s ma ca r * shellFnE t mb cb r

lemma continuous_pairDensity (s t : Shell ℝ) (ma ca mb cb : ℕ) :
    Continuous (pairDensity s t ma ca mb cb) :=
  (continuous_shellFnE s ma ca).mul (continuous_shellFnE t mb cb)

lemma gaussBdd_pairDensity (s t : Shell ℝ) (ma ca mb cb : ℕ)
    (hs : ∀ k, k < s.nprim → 0 < s.exp! k) (ht : ∀ k, k < t.nprim → 0 < t.exp! k) :
    GaussBdd (pairDensity s t ma ca mb cb) :=
  (gaussBdd_shellFnE s ma ca hs).mul (gaussBdd_shellFnE t mb cb ht)

noncomputable def eriExact (sa sb sc sd : Shell ℝ) (ma ca mb cb mc cc md cd : ℕ) : ℝ :=
  ∫ p : E3 × E3, pairDensity sa sb ma ca mb cb p.1 * pairDensity sc sd mc cc md cd p.2
    / ‖p.1 - p.2‖

theorem eriExact_psd (sa sb : ι → Shell ℝ) (ma ca mb cb : ι → ℕ)
    (hsa : ∀ i, ∀ k, k < (sa i).nprim → 0 < (sa i).exp! k)
    (hsb : ∀ i, ∀ k, k < (sb i).nprim → 0 < (sb i).exp! k) (x : ι → ℝ) :
    0 ≤ ∑ i, ∑ j, x i * eriExact (sa i) (sb i) (sa j) (sb j) (ma i) (ca i) (mb i) (cb i)
        (ma j) (ca j) (mb j) (cb j) * x j :=
  coulomb_psd finrank_E3 (fun i => pairDensity (sa i) (sb i) (ma i) (ca i) (mb i) (cb i))
    (fun _ => (continuous_pairDensity _ _ _ _ _ _).aestronglyMeasurable)
    (fun i => gaussBdd_pairDensity _ _ _ _ _ _ (hsa i) (hsb i)) x

theorem eriExact_self_nonneg (sa sb : Shell ℝ) (ma ca mb cb : ℕ)
    (hsa : ∀ k, k < sa.nprim → 0 < sa.exp! k) (hsb : ∀ k, k < sb.nprim → 0 < sb.exp! k) :
    0 ≤ eriExact sa sb sa sb ma ca mb cb ma ca mb cb :=
  coulomb_self_nonneg finrank_E3 _ (continuous_pairDensity _ _ _ _ _ _).aestronglyMeasurable
    (gaussBdd_pairDensity _ _ _ _ _ _ hsa hsb)

theorem eriExact_schwarz (sa sb sc sd : Shell ℝ) (ma ca mb cb mc cc md cd : ℕ)
    (hsa : ∀ k, k < sa.nprim → 0 < sa.exp! k) (hsb : ∀ k, k < sb.nprim → 0 < sb.exp! k)
    (hsc : ∀ k, k < sc.nprim → 0 < sc.exp! k) (hsd : ∀ k, k < sd.nprim → 0 < sd.exp! k) :
    |eriExact sa sb sc sd ma ca mb cb mc cc md cd|
      ≤ √(eriExact sa sb sa sb ma ca mb cb ma ca mb cb)
        * √(eriExact sc sd sc sd mc cc md cd mc cc md cd) :=
  coulomb_abs_le finrank_E3 (ι := Fin 2)
    ![pairDensity sa sb ma ca mb cb, pairDensity sc sd mc cc md cd]
    (Fin.forall_fin_two.mpr ⟨(continuous_pairDensity sa sb ma ca mb cb).aestronglyMeasurable,
      (continuous_pairDensity sc sd mc cc md cd).aestronglyMeasurable⟩)
    (Fin.forall_fin_two.mpr ⟨gaussBdd_pairDensity sa sb ma ca mb cb hsa hsb,
      gaussBdd_pairDensity sc sd mc cc md cd hsc hsd⟩) 0 1

end PairDensities

end GB

