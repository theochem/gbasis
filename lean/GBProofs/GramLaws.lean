import Mathlib.Analysis.InnerProductSpace.Basic
import Mathlib.Analysis.SpecialFunctions.Sqrt
import Mathlib.Algebra.BigOperators.Ring.Finset
import Mathlib.Algebra.QuadraticDiscriminant
import Mathlib.Tactic.Linarith
import Mathlib.Tactic.Ring

/-!
# Quadratic forms of finite matrices; positivity and Schwarz bounds of Gram matrices

§1 is the algebra of `quadForm M x = xᵀ M x` for a real matrix over a finite index type: linear in
`M`, its value on rank-one matrices, congruences `M ↦ T M Tᵀ` (any shape of `T`), and the Schwarz
bound `M_ij² ≤ M_ii M_jj` of a symmetric matrix with non-negative form.

§2: why the signs are what they are (not used by the model-level theorems): every one-electron "metric-like" matrix
of the library is, mathematically, a Gram matrix `S a b = ⟪f a, f b⟫` of the basis functions in a suitable real
inner-product space (none of these identifications is a theorem here):

* the overlap matrix: `f a = φ_a` in `L²(ℝ³)`;
* the kinetic-energy matrix: `T a b = ½ ⟪∇φ_a, ∇φ_b⟫` — one half of the Gram matrix of the
  gradients in `L²(ℝ³; ℝ³)`;
* minus the point-charge (nuclear-attraction) matrix of a positive charge `q`:
  `-V a b = q ∫ φ_a φ_b / |r - C|`, the Gram matrix of `φ_a |r-C|^{-1/2}` in `L²(ℝ³)`, times `q ≥ 0`;
* the electron-repulsion pair matrix `(ab|cd)` indexed by the pairs `(ab)`, `(cd)`: the Gram
  matrix of the pair densities `φ_a φ_b` in the Coulomb-weighted space `⟪ρ, σ⟫ = ∬ ρ(r) σ(r') / |r-r'|`.

The theorems of §2 are the abstract consequences for any Gram matrix (collected in `Props/C17.lean`).
`Definiteness.lean` does not go through `gramMat`: it derives the same signs and bounds for the model's
matrices from §1, writing the quadratic form of a matrix of integrals as the integral of a square,
and proves the positivity of the Coulomb kernel.
-/
namespace GB

/-! ## 1. Quadratic forms of finite matrices -/
section Abstract
variable {ι : Type*} [Fintype ι]

def quadForm (M : ι → ι → ℝ) (x : ι → ℝ) : ℝ := ∑ i, ∑ j, x i * M i j * x j

lemma quadForm_add (M N : ι → ι → ℝ) (x : ι → ℝ) :
    quadForm (fun i j => M i j + N i j) x = quadForm M x + quadForm N x := by
  simp only [quadForm, mul_add, add_mul, Finset.sum_add_distrib]

lemma quadForm_const_mul (c : ℝ) (M : ι → ι → ℝ) (x : ι → ℝ) :
    quadForm (fun i j => c * M i j) x = c * quadForm M x := by
  simp only [quadForm, Finset.mul_sum]
  refine Finset.sum_congr rfl fun i _ => Finset.sum_congr rfl fun j _ => ?_
  ring

lemma quadForm_neg (M : ι → ι → ℝ) (x : ι → ℝ) :
    quadForm (fun i j => -M i j) x = -quadForm M x := by
  simp only [quadForm, mul_neg, neg_mul, Finset.sum_neg_distrib]

lemma quadForm_sum {κ : Type*} (t : Finset κ) (M : κ → ι → ι → ℝ) (x : ι → ℝ) :
    quadForm (fun i j => ∑ e ∈ t, M e i j) x = ∑ e ∈ t, quadForm (M e) x := by
  simp only [quadForm, Finset.mul_sum, Finset.sum_mul]
  exact (Finset.sum_congr rfl fun i _ => Finset.sum_comm).trans Finset.sum_comm

lemma quadForm_rank_one (u v : ι → ℝ) (w : ℝ) (x : ι → ℝ) :
    quadForm (fun i j => u i * v j * w) x = (∑ i, x i * u i) * (∑ j, x j * v j) * w := by
  rw [quadForm, Finset.sum_mul_sum, Finset.sum_mul]
  refine Finset.sum_congr rfl fun i _ => ?_
  rw [Finset.sum_mul]
  refine Finset.sum_congr rfl fun j _ => ?_
  ring

variable [DecidableEq ι]

lemma sum_two_single (i j : ι) (a b : ℝ) (F : ι → ℝ) :
    ∑ k, (a * (if k = i then 1 else 0) + b * (if k = j then 1 else 0)) * F k
      = a * F i + b * F j := by
  simp only [mul_ite, mul_one, mul_zero, add_mul, ite_mul, zero_mul, Finset.sum_add_distrib,
    Finset.sum_ite_eq', Finset.mem_univ, if_true]

lemma quadForm_two (M : ι → ι → ℝ) (i j : ι) (a b : ℝ) :
    quadForm M (fun k => a * (if k = i then 1 else 0) + b * (if k = j then 1 else 0))
      = a * a * M i i + a * b * M i j + b * a * M j i + b * b * M j j := by
  unfold quadForm
  have h : ∀ k, ∑ l, (a * (if k = i then 1 else 0) + b * (if k = j then 1 else 0)) * M k l
        * (a * (if l = i then 1 else 0) + b * (if l = j then 1 else 0))
      = (a * (if k = i then 1 else 0) + b * (if k = j then 1 else 0))
        * (a * M k i + b * M k j) := by
    intro k
    rw [← sum_two_single i j a b (M k), Finset.mul_sum]
    refine Finset.sum_congr rfl fun l _ => ?_
    ring
  simp_rw [h]
  rw [sum_two_single i j a b (fun k => a * M k i + b * M k j)]
  ring

theorem psd_diag_nonneg (M : ι → ι → ℝ) (hpsd : ∀ x, 0 ≤ quadForm M x) (i : ι) : 0 ≤ M i i := by
  have h := hpsd (fun k => 1 * (if k = i then 1 else 0) + 0 * (if k = i then 1 else 0))
  rw [quadForm_two] at h
  linarith

theorem psd_sq_le (M : ι → ι → ℝ) (hsymm : ∀ i j, M i j = M j i) (hpsd : ∀ x, 0 ≤ quadForm M x)
    (i j : ι) : M i j ^ 2 ≤ M i i * M j j := by
  have hq : ∀ t : ℝ, 0 ≤ M i i * (t * t) + 2 * M i j * t + M j j := by
    intro t
    have h := hpsd (fun k => t * (if k = i then 1 else 0) + 1 * (if k = j then 1 else 0))
    rw [quadForm_two, hsymm j i] at h
    linarith
  have hd := discrim_le_zero hq
  unfold discrim at hd
  linarith

theorem psd_abs_le (M : ι → ι → ℝ) (hsymm : ∀ i j, M i j = M j i) (hpsd : ∀ x, 0 ≤ quadForm M x)
    (i j : ι) : |M i j| ≤ √(M i i) * √(M j j) := by
  rw [← Real.sqrt_mul (psd_diag_nonneg M hpsd i), ← Real.sqrt_sq_eq_abs]
  exact Real.sqrt_le_sqrt (psd_sq_le M hsymm hpsd i j)

end Abstract

section Congr
variable {ι κ : Type*} [Fintype ι] [Fintype κ]

theorem quadForm_congr (M : ι → ι → ℝ) (T : κ → ι → ℝ) (x : κ → ℝ) :
    quadForm (fun i j => ∑ a, ∑ b, T i a * M a b * T j b) x
      = quadForm M (fun a => ∑ i, x i * T i a) := by
  rw [quadForm_sum]
  refine Finset.sum_congr rfl fun a _ => ?_
  rw [quadForm_sum]
  refine Finset.sum_congr rfl fun b _ => ?_
  rw [show (fun i j => T i a * M a b * T j b) = fun i j => T i a * T j b * M a b from
    funext₂ fun i j => mul_right_comm _ _ _, quadForm_rank_one]
  ring

theorem psd_congr (M : ι → ι → ℝ) (T : κ → ι → ℝ) (hM : ∀ y, 0 ≤ quadForm M y) (x : κ → ℝ) :
    0 ≤ quadForm (fun i j => ∑ a, ∑ b, T i a * M a b * T j b) x := by
  rw [quadForm_congr]; exact hM _

theorem nsd_congr (M : ι → ι → ℝ) (T : κ → ι → ℝ) (hM : ∀ y, quadForm M y ≤ 0) (x : κ → ℝ) :
    quadForm (fun i j => ∑ a, ∑ b, T i a * M a b * T j b) x ≤ 0 := by
  rw [quadForm_congr]; exact hM _

omit [Fintype κ] in
theorem symm_congr (M : ι → ι → ℝ) (T : κ → ι → ℝ) (hM : ∀ a b, M a b = M b a) (i j : κ) :
    (∑ a, ∑ b, T i a * M a b * T j b) = ∑ a, ∑ b, T j a * M a b * T i b := by
  rw [Finset.sum_comm]
  refine Finset.sum_congr rfl fun b _ => Finset.sum_congr rfl fun a _ => ?_
  rw [hM a b]; ring

end Congr

/-! ## 2. Gram matrices -/
section Gram
variable {E : Type*} [NormedAddCommGroup E] [InnerProductSpace ℝ E] {n : ℕ}

noncomputable def gramMat (f : Fin n → E) (a b : Fin n) : ℝ := inner ℝ (f a) (f b)

theorem gram_quadratic_eq (f : Fin n → E) (x : Fin n → ℝ) :
    ∑ a, ∑ b, x a * gramMat f a b * x b = ‖∑ a, x a • f a‖ ^ 2 := by
  rw [← real_inner_self_eq_norm_sq, sum_inner]
  refine Finset.sum_congr rfl fun a _ => ?_
  rw [inner_sum]
  refine Finset.sum_congr rfl fun b _ => ?_
  rw [real_inner_smul_left, real_inner_smul_right, gramMat]
  ring

theorem gram_psd (f : Fin n → E) (x : Fin n → ℝ) : 0 ≤ ∑ a, ∑ b, x a * gramMat f a b * x b := by
  rw [gram_quadratic_eq]
  exact sq_nonneg _

theorem gram_quadratic_eq_zero_iff (f : Fin n → E) (x : Fin n → ℝ) :
    ∑ a, ∑ b, x a * gramMat f a b * x b = 0 ↔ ∑ a, x a • f a = 0 := by
  rw [gram_quadratic_eq, sq_eq_zero_iff, norm_eq_zero]

theorem gram_pd (f : Fin n → E) (hf : LinearIndependent ℝ f) (x : Fin n → ℝ) (hx : x ≠ 0) :
    0 < ∑ a, ∑ b, x a * gramMat f a b * x b := by
  refine lt_of_le_of_ne (gram_psd f x) fun h => hx ?_
  have h0 := (gram_quadratic_eq_zero_iff f x).mp h.symm
  funext a
  exact Fintype.linearIndependent_iff.mp hf x h0 a

theorem gram_symm (f : Fin n → E) (a b : Fin n) : gramMat f a b = gramMat f b a :=
  real_inner_comm _ _

theorem gram_diag (f : Fin n → E) (a : Fin n) : gramMat f a a = ‖f a‖ ^ 2 :=
  real_inner_self_eq_norm_sq _

theorem gram_diag_nonneg (f : Fin n → E) (a : Fin n) : 0 ≤ gramMat f a a := by
  rw [gram_diag]; exact sq_nonneg _

theorem sqrt_gram_diag (f : Fin n → E) (a : Fin n) : Real.sqrt (gramMat f a a) = ‖f a‖ := by
  rw [gram_diag, Real.sqrt_sq (norm_nonneg _)]

theorem gram_abs_le (f : Fin n → E) (a b : Fin n) :
    |gramMat f a b| ≤ Real.sqrt (gramMat f a a) * Real.sqrt (gramMat f b b) := by
  rw [sqrt_gram_diag, sqrt_gram_diag]
  exact abs_real_inner_le_norm _ _

theorem gram_sq_le (f : Fin n → E) (a b : Fin n) :
    gramMat f a b ^ 2 ≤ gramMat f a a * gramMat f b b := by
  rw [gram_diag, gram_diag, ← sq_abs, ← mul_pow]
  exact pow_le_pow_left₀ (abs_nonneg _) (abs_real_inner_le_norm _ _) 2

theorem gram_abs_le_one (f : Fin n → E) (a b : Fin n) (ha : gramMat f a a = 1) (hb : gramMat f b b = 1) :
    |gramMat f a b| ≤ 1 := by
  have h := gram_abs_le f a b
  rwa [ha, hb, Real.sqrt_one, one_mul] at h

theorem gram_eq_one_iff (f : Fin n → E) (a b : Fin n) (ha : gramMat f a a = 1) (hb : gramMat f b b = 1) :
    gramMat f a b = 1 ↔ f a = f b := by
  have na : ‖f a‖ = 1 := by rw [← sqrt_gram_diag, ha, Real.sqrt_one]
  have nb : ‖f b‖ = 1 := by rw [← sqrt_gram_diag, hb, Real.sqrt_one]
  exact inner_eq_one_iff_of_norm_eq_one na nb

/-- `V` has the shape of the point-charge matrix of a charge `q ≥ 0` (head comment). -/
theorem neg_gram_nsd (f : Fin n → E) (q : ℝ) (hq : 0 ≤ q) (V : Fin n → Fin n → ℝ)
    (hV : ∀ a b, V a b = -(q * gramMat f a b)) (x : Fin n → ℝ) :
    ∑ a, ∑ b, x a * V a b * x b ≤ 0 := by
  obtain rfl : V = fun a b => -(q * gramMat f a b) := funext₂ hV
  have h := quadForm_neg (fun a b => q * gramMat f a b) x
  rw [quadForm_const_mul] at h
  exact h.trans_le (neg_nonpos.mpr (mul_nonneg hq (gram_psd f x)))

/-- `T` has the shape of the kinetic-energy matrix, `f a = ∇φ_a` (head comment). -/
theorem half_gram_psd (f : Fin n → E) (T : Fin n → Fin n → ℝ)
    (hT : ∀ a b, T a b = 1 / 2 * gramMat f a b) (x : Fin n → ℝ) :
    0 ≤ ∑ a, ∑ b, x a * T a b * x b := by
  obtain rfl : T = fun a b => 1 / 2 * gramMat f a b := funext₂ hT
  exact (mul_nonneg one_half_pos.le (gram_psd f x)).trans_eq (quadForm_const_mul _ _ x).symm

end Gram

end GB
