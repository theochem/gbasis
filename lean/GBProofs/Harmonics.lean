import GBProofs.Harmonics.Defs
import GBProofs.Harmonics.Sound
import GBProofs.Harmonics.Laplace
import GBProofs.Harmonics.Ortho
import GBProofs.Harmonics.OrthoReal
import GBProofs.Harmonics.Phase
import GBProofs.Harmonics.Labels
/-!
# The functions the model generates are the real regular solid harmonics (`l ≤ 10`, every `m`)

The finite parts are complete enumerations evaluated by the kernel (`decide +kernel`), the rest are general proofs.
The Boolean tables are defined in `Harmonics/Defs.lean` (no Mathlib) and evaluated in `Harmonics/Check/Ortho.lean`
(orthonormality, in the form `orthoFast`) and `Harmonics/Check/Tables.lean` (Laplacian, azimuthal form, binomial form of `(x+iy)^m`, in one
evaluation; homogeneity is a general theorem); `Sound`, `Laplace`, `Ortho`, `OrthoReal`, `Phase` read the tables as statements about `ℚ[x,y,z]` and about the
real transformation matrix, `Labels` is the validation of the user's order and sign conventions.
-/
