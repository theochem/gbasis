import GBProofs.FormsProofs
import GBProofs.PointChargeBlock
import GBProofs.Block3D
import Mathlib.Analysis.Calculus.FDeriv.Symmetric
import Mathlib.Analysis.Calculus.ContDiff.Basic
import Mathlib.Analysis.Calculus.ContDiff.Operations
import Mathlib.Analysis.Calculus.FDeriv.Mul
import Mathlib.Analysis.Calculus.FDeriv.Add
import Mathlib.Analysis.Calculus.IteratedDeriv.Lemmas
import Mathlib.Analysis.InnerProductSpace.Calculus
import Mathlib.Analysis.InnerProductSpace.Laplacian
import Mathlib.Analysis.Calculus.FDeriv.CompCLM
import Mathlib.Analysis.SpecialFunctions.ExpDeriv

/-!
# The instance of the abstract set-up of `FormsProofs.lean`: smooth functions on `ℝ³`

`Smooth3` is the `ℝ`-subalgebra of the `C^∞` functions `E3 → ℝ`; the partial derivatives `pd i`
are commuting derivations of it, so the C06 / C15 identities of `FormsProofs` hold pointwise with
`fderiv` of the density `Σ_ab γ_ab φ_a(x) φ_b(x)`.  The model's contracted shell functions `shellFnE` lie
in `Smooth3`, and their mixed partial derivatives are the products of per-axis values that the
evaluation model computes.

`C^∞` is `ContDiff ℝ ∞` with `∞ = ((⊤ : ℕ∞) : WithTop ℕ∞)`; in this Mathlib `ContDiff ℝ ⊤` would mean
analytic.
-/

open Finset
open scoped ContDiff

namespace GB

noncomputable section

/-! ## 1. The algebra of smooth functions and its three partial derivatives -/

def Smooth3 : Subalgebra ℝ (E3 → ℝ) where
  carrier := {f | ContDiff ℝ ∞ f}
  mul_mem' := fun {f g} (hf : ContDiff ℝ ∞ f) (hg : ContDiff ℝ ∞ g) => hf.mul hg
  add_mem' := fun {f g} (hf : ContDiff ℝ ∞ f) (hg : ContDiff ℝ ∞ g) => hf.add hg
  algebraMap_mem' := fun c => (contDiff_const : ContDiff ℝ ∞ (fun _ : E3 => c))

theorem mem_Smooth3 {f : E3 → ℝ} : f ∈ Smooth3 ↔ ContDiff ℝ ∞ f := Iff.rfl

def ei (i : Fin 3) : E3 := EuclideanSpace.single i 1

def dirD (v : E3) (f : E3 → ℝ) : E3 → ℝ := fun x => fderiv ℝ f x v

def pdFun (i : Fin 3) (f : E3 → ℝ) : E3 → ℝ := fun x => fderiv ℝ f x (ei i)

theorem smooth_diff {E : Type*} [NormedAddCommGroup E] [NormedSpace ℝ E] {f : E → ℝ}
    (hf : ContDiff ℝ ∞ f) : Differentiable ℝ f :=
  hf.differentiable (by simp)

theorem contDiff_dirD {f : E3 → ℝ} (hf : ContDiff ℝ ∞ f) (v : E3) : ContDiff ℝ ∞ (dirD v f) :=
  (hf.fderiv_right (m := ∞) (by simp)).clm_apply contDiff_const

theorem contDiff_pdFun {f : E3 → ℝ} (hf : ContDiff ℝ ∞ f) (i : Fin 3) :
    ContDiff ℝ ∞ (pdFun i f) :=
  contDiff_dirD hf (ei i)

theorem smooth_contDiff (f : Smooth3) : ContDiff ℝ ∞ (f.1 : E3 → ℝ) := mem_Smooth3.1 f.2

theorem smooth_differentiable (f : Smooth3) : Differentiable ℝ (f.1 : E3 → ℝ) :=
  smooth_diff (smooth_contDiff f)

def pdLin (i : Fin 3) : Smooth3 →ₗ[ℝ] Smooth3 where
  toFun f := ⟨pdFun i f.1, contDiff_pdFun (smooth_contDiff f) i⟩
  map_add' f g := by
    apply Subtype.ext
    funext x
    show fderiv ℝ (f.1 + g.1) x (ei i) = fderiv ℝ f.1 x (ei i) + fderiv ℝ g.1 x (ei i)
    rw [fderiv_add (smooth_differentiable f x) (smooth_differentiable g x)]
    rfl
  map_smul' c f := by
    apply Subtype.ext
    funext x
    show fderiv ℝ (c • f.1) x (ei i) = c • fderiv ℝ f.1 x (ei i)
    rw [fderiv_const_smul (smooth_differentiable f x)]
    rfl

def pd (i : Fin 3) : Derivation ℝ Smooth3 Smooth3 :=
  Derivation.mk' (pdLin i) (by
    intro f g
    apply Subtype.ext
    funext x
    show fderiv ℝ (f.1 * g.1) x (ei i)
      = f.1 x * fderiv ℝ g.1 x (ei i) + g.1 x * fderiv ℝ f.1 x (ei i)
    rw [fderiv_mul (smooth_differentiable f x) (smooth_differentiable g x)]
    rfl)

@[simp] theorem pd_apply (i : Fin 3) (f : Smooth3) (x : E3) :
    (pd i f).1 x = fderiv ℝ f.1 x (ei i) := rfl

theorem pd_coe (i : Fin 3) (f : Smooth3) : (pd i f).1 = pdFun i f.1 := rfl

theorem dirD_dirD_apply {f : E3 → ℝ} (hf : ContDiff ℝ ∞ f) (u v x : E3) :
    dirD u (dirD v f) x = fderiv ℝ (fderiv ℝ f) x u v := by
  have hd : DifferentiableAt ℝ (fderiv ℝ f) x :=
    (contDiff_infty_iff_fderiv.1 (contDiff_infty_iff_fderiv.1 hf).2).1 x
  unfold dirD
  rw [fderiv_clm_apply hd (differentiableAt_const _), fderiv_fun_const]
  simp only [Pi.zero_apply, ContinuousLinearMap.comp_zero, zero_add, ContinuousLinearMap.flip_apply]

theorem pdFun_pdFun_apply {f : E3 → ℝ} (hf : ContDiff ℝ ∞ f) (i j : Fin 3) (x : E3) :
    pdFun i (pdFun j f) x = fderiv ℝ (fderiv ℝ f) x (ei i) (ei j) :=
  dirD_dirD_apply hf (ei i) (ei j) x

theorem pd_pd_apply (i j : Fin 3) (f : Smooth3) (x : E3) :
    (pd i (pd j f)).1 x = fderiv ℝ (fderiv ℝ f.1) x (ei i) (ei j) :=
  pdFun_pdFun_apply (smooth_contDiff f) i j x

theorem pdFun_comm {f : E3 → ℝ} (hf : ContDiff ℝ ∞ f) (i j : Fin 3) :
    pdFun i (pdFun j f) = pdFun j (pdFun i f) := by
  funext x
  rw [pdFun_pdFun_apply hf, pdFun_pdFun_apply hf]
  exact (hf.contDiffAt.isSymmSndFDerivAt (by
    simp only [minSmoothness_of_isRCLikeNormedField]
    exact WithTop.coe_le_coe.2 (le_top : (2 : ℕ∞) ≤ ⊤))).eq _ _

theorem pd_comm : CommD pd := fun i j f => Subtype.ext (pdFun_comm (smooth_contDiff f) i j)

open Laplacian in
theorem laplacian_eq_sum_ei (f : E3 → ℝ) (x : E3) :
    (Δ f) x = ∑ i : Fin 3, fderiv ℝ (fderiv ℝ f) x (ei i) (ei i) := by
  rw [InnerProductSpace.laplacian_eq_iteratedFDeriv_orthonormalBasis _
    (EuclideanSpace.basisFun (Fin 3) ℝ)]
  refine Finset.sum_congr rfl fun i _ => ?_
  rw [iteratedFDeriv_two_apply, EuclideanSpace.basisFun_apply]
  rfl

/-! ## 2. Pointwise reading of the abstract theorems

Reading an element of `Smooth3` at a point commutes with the ring operations (the lemmas
`smooth_…_apply`, all by `rfl`) and with the derivations (`pd_coe`, `dpow_coe`, `Dsym_coe`, `rho_coe`,
`lap_apply`): applied to an identity of `FormsProofs` they give its pointwise form. -/

def evalAt (x : E3) : Smooth3 →ₐ[ℝ] ℝ :=
  (Pi.evalAlgHom ℝ (fun _ : E3 => ℝ) x).comp Smooth3.val

theorem smooth_add_apply (f g : Smooth3) (x : E3) : (f + g).1 x = f.1 x + g.1 x := rfl

theorem smooth_sub_apply (f g : Smooth3) (x : E3) : (f - g).1 x = f.1 x - g.1 x := rfl

theorem smooth_mul_apply (f g : Smooth3) (x : E3) : (f * g).1 x = f.1 x * g.1 x := rfl

theorem smooth_smul_apply (c : ℝ) (f : Smooth3) (x : E3) : (c • f).1 x = c * f.1 x := rfl

theorem smooth_sum_apply {κ : Type*} (s : Finset κ) (f : κ → Smooth3) (x : E3) :
    (∑ k ∈ s, f k).1 x = ∑ k ∈ s, (f k).1 x :=
  map_sum (evalAt x) f s

def dpowFun (p : Comp) (f : E3 → ℝ) : E3 → ℝ :=
  (pdFun 0)^[p.1] ((pdFun 1)^[p.2.1] ((pdFun 2)^[p.2.2] f))

theorem iterate_pd_coe (i : Fin 3) (n : ℕ) (f : Smooth3) :
    (((pd i)^[n] f : Smooth3) : E3 → ℝ) = (pdFun i)^[n] f.1 := by
  induction n with
  | zero => rfl
  | succ n ih => rw [Function.iterate_succ_apply', Function.iterate_succ_apply', pd_coe, ih]

theorem dpow_coe (p : Comp) (f : Smooth3) : (dpow pd p f).1 = dpowFun p f.1 :=
  (iterate_pd_coe 0 _ _).trans (congrArg _ ((iterate_pd_coe 1 _ _).trans
    (congrArg _ (iterate_pd_coe 2 _ _))))

@[simp] theorem dpowFun_zero (f : E3 → ℝ) : dpowFun 0 f = f := rfl

theorem dpowFun_e (i : Fin 3) (f : E3 → ℝ) : dpowFun (e i) f = pdFun i f := by
  fin_cases i <;> rfl

theorem pdFun_dpowFun {f : E3 → ℝ} (hf : ContDiff ℝ ∞ f) (i : Fin 3) (p : Comp) :
    pdFun i (dpowFun p f) = dpowFun (p + e i) f := by
  have h := congrArg Subtype.val (d_dpow pd_comm i p (⟨f, hf⟩ : Smooth3))
  exact ((congrArg (pdFun i) (dpow_coe p _)).symm.trans h).trans (dpow_coe _ _)

theorem dpowFun_lincomb {κ : Type*} (s : Finset κ) (c : κ → ℝ) (f : κ → E3 → ℝ)
    (hf : ∀ k, ContDiff ℝ ∞ (f k)) (p : Comp) (x : E3) :
    dpowFun p (fun r => ∑ k ∈ s, c k * f k r) x = ∑ k ∈ s, c k * dpowFun p (f k) x := by
  have e : (fun r => ∑ k ∈ s, c k * f k r) = (∑ k ∈ s, c k • (⟨f k, hf k⟩ : Smooth3)).1 :=
    funext fun r => (smooth_sum_apply s (fun k => c k • (⟨f k, hf k⟩ : Smooth3)) r).symm
  rw [e, ← dpow_coe, dpow_sum_map, smooth_sum_apply]
  refine Finset.sum_congr rfl fun k _ => ?_
  rw [dpow_smul_map, smooth_smul_apply, dpow_coe]

/-! ### `dpowFun` in terms of Mathlib's iterated Fréchet derivative -/

/-- how often each axis occurs in `l` -/
def cntComp : ∀ {n : ℕ}, (Fin n → Fin 3) → Comp
  | 0, _ => 0
  | _ + 1, l => cntComp (Fin.tail l) + e (l 0)

theorem cntComp_eq_card : ∀ {n : ℕ} (l : Fin n → Fin 3),
    cntComp l = ((univ.filter fun i => l i = 0).card, (univ.filter fun i => l i = 1).card,
      (univ.filter fun i => l i = 2).card)
  | 0, l => rfl
  | n + 1, l => by
    rw [cntComp, cntComp_eq_card (Fin.tail l), Fin.card_filter_univ_succ,
      Fin.card_filter_univ_succ, Fin.card_filter_univ_succ]
    simp only [Fin.tail, e, Comp.e]
    generalize l 0 = a
    fin_cases a <;> rfl

theorem iteratedFDeriv_ei_eq_dpowFun {f : E3 → ℝ} (hf : ContDiff ℝ ∞ f) :
    ∀ {n : ℕ} (l : Fin n → Fin 3) (x : E3),
      iteratedFDeriv ℝ n f x (fun i => ei (l i)) = dpowFun (cntComp l) f x
  | 0, l, x => by rw [iteratedFDeriv_zero_apply]; rfl
  | n + 1, l, x => by
    have hd : DifferentiableAt ℝ (iteratedFDeriv ℝ n f) x :=
      hf.differentiable_iteratedFDeriv (WithTop.coe_lt_coe.2 (ENat.natCast_lt_top n)) x
    have ih : dpowFun (cntComp (Fin.tail l)) f
        = fun y => iteratedFDeriv ℝ n f y fun i => ei (Fin.tail l i) :=
      funext fun y => (iteratedFDeriv_ei_eq_dpowFun hf (Fin.tail l) y).symm
    rw [cntComp, ← pdFun_dpowFun hf, ih, pdFun, fderiv_continuousMultilinear_apply_const hd,
      iteratedFDeriv_succ_apply_left]
    rfl

theorem cntComp_list : ∀ (l : List (Fin 3)),
    cntComp (fun i => l.get i) = (l.count 0, l.count 1, l.count 2)
  | [] => rfl
  | a :: l => by
    show cntComp (fun i => l.get i) + e a = _
    rw [cntComp_list l]
    simp only [List.count_cons, e, Comp.e]
    fin_cases a <;> rfl

def axesList (p : Comp) : List (Fin 3) :=
  List.replicate p.1 0 ++ (List.replicate p.2.1 1 ++ List.replicate p.2.2 2)

theorem length_axesList (p : Comp) : (axesList p).length = p.1 + (p.2.1 + p.2.2) := by
  simp [axesList]

theorem cntComp_axesList (L : Comp) : cntComp (fun i => (axesList L).get i) = L := by
  rw [cntComp_list]
  obtain ⟨a, b, c⟩ := L
  simp [axesList, List.count_replicate]

theorem dpowFun_eq_iteratedFDeriv {f : E3 → ℝ} (hf : ContDiff ℝ ∞ f) (p : Comp) (x : E3) :
    dpowFun p f x
      = iteratedFDeriv ℝ (axesList p).length f x (fun k => ei ((axesList p).get k)) := by
  rw [iteratedFDeriv_ei_eq_dpowFun hf, cntComp_axesList]

section Pointwise

variable {ι : Type*} [Fintype ι] (φ : ι → Smooth3) (γ : ι → ι → ℝ)

def DFun (p q : Comp) : E3 → ℝ :=
  fun x => ∑ a, ∑ b, γ a b * dpowFun p (φ a).1 x * dpowFun q (φ b).1 x

def rhoFun : E3 → ℝ := fun x => ∑ a, ∑ b, γ a b * (φ a).1 x * (φ b).1 x

theorem Dsym_coe (p q : Comp) : (Dsym pd φ γ p q).1 = DFun φ γ p q := by
  funext x
  simp only [Dsym, DFun, smooth_sum_apply, smooth_smul_apply, smooth_mul_apply, dpow_coe, mul_assoc]

theorem rho_apply (x : E3) :
    (rho pd φ γ).1 x = ∑ a, ∑ b, γ a b * (φ a).1 x * (φ b).1 x :=
  congrFun (Dsym_coe φ γ 0 0) x

theorem rho_coe : (rho pd φ γ).1 = rhoFun φ γ := funext fun x => rho_apply φ γ x

variable {φ γ}

theorem contDiff_rhoFun : ContDiff ℝ ∞ (rhoFun φ γ) := by
  rw [← rho_coe]; exact smooth_contDiff _

theorem lap_apply (x : E3) :
    (lap pd φ γ).1 x = ∑ k : Fin 3, pdFun k (pdFun k (rhoFun φ γ)) x := by
  rw [← rho_coe]
  exact smooth_sum_apply _ _ x

/-- C06: `evaluate_density_gradient` returns the partial derivative of the density -/
theorem gradient_pointwise (hγ : SymmG γ) (i : Fin 3) (x : E3) :
    (Form.evalA pd φ γ (gradientForm i)).1 x
      = fderiv ℝ (fun y => ∑ a, ∑ b, γ a b * (φ a).1 y * (φ b).1 y) x (ei i) := by
  rw [gradient_eq pd_comm hγ i]
  exact congrArg (fun f => fderiv ℝ f x (ei i)) (rho_coe φ γ)

/-- C06: `evaluate_density_hessian` returns the second partial derivatives of the density -/
theorem hessian_pointwise (hγ : SymmG γ) (r c : Fin 3) (x : E3) :
    (Form.evalA pd φ γ (hessianForm r c)).1 x
      = fderiv ℝ (fun y => fderiv ℝ
          (fun z => ∑ a, ∑ b, γ a b * (φ a).1 z * (φ b).1 z) y (ei c)) x (ei r) := by
  rw [hessian_eq pd_comm hγ r c]
  exact congrArg (fun f => fderiv ℝ (pdFun c f) x (ei r)) (rho_coe φ γ)

/-- the same, as the second Fréchet derivative -/
theorem hessian_pointwise' (hγ : SymmG γ) (r c : Fin 3) (x : E3) :
    (Form.evalA pd φ γ (hessianForm r c)).1 x
      = fderiv ℝ (fderiv ℝ (rhoFun φ γ)) x (ei r) (ei c) :=
  (hessian_pointwise hγ r c x).trans (pdFun_pdFun_apply contDiff_rhoFun r c x)

/-- C06: `evaluate_density_laplacian` returns the sum of the three second partial derivatives -/
theorem laplacian_pointwise (hγ : SymmG γ) (x : E3) :
    (Form.evalA pd φ γ laplacianForm).1 x
      = ∑ i : Fin 3, fderiv ℝ (fun y => fderiv ℝ
          (fun z => ∑ a, ∑ b, γ a b * (φ a).1 z * (φ b).1 z) y (ei i)) x (ei i) := by
  rw [laplacian_eq pd_comm hγ]
  exact lap_apply x

open Laplacian in
/-- the same with Mathlib's Laplacian `Δ` of the density function -/
theorem laplacian_pointwise' (hγ : SymmG γ) (x : E3) :
    (Form.evalA pd φ γ laplacianForm).1 x = (Δ (rhoFun φ γ)) x := by
  rw [laplacian_pointwise hγ, laplacian_eq_sum_ei]
  exact Finset.sum_congr rfl fun i _ => pdFun_pdFun_apply contDiff_rhoFun i i x

/-- C06: `evaluate_deriv_density` returns the iterated partial derivative `∂^L ρ`, any order -/
theorem derivDensity_pointwise (hγ : SymmG γ) (L : Comp) (x : E3) :
    (Form.evalA pd φ γ (derivDensityForm L)).1 x
      = dpowFun L (fun y => ∑ a, ∑ b, γ a b * (φ a).1 y * (φ b).1 y) x := by
  rw [derivDensity_eq pd_comm hγ L, dpow_coe, rho_coe]; rfl

/-- the same with Mathlib's iterated Fréchet derivative of the density function -/
theorem derivDensity_pointwise' (hγ : SymmG γ) (L : Comp) (x : E3) :
    (Form.evalA pd φ γ (derivDensityForm L)).1 x
      = iteratedFDeriv ℝ (axesList L).length (rhoFun φ γ) x
          (fun k => ei ((axesList L).get k)) :=
  (derivDensity_pointwise hγ L x).trans (dpowFun_eq_iteratedFDeriv contDiff_rhoFun L x)

/-- C06: `evaluate_posdef_kinetic_energy_density` (before clipping) -/
theorem posdefKE_pointwise (x : E3) :
    (Form.evalA pd φ γ posdefForm).1 x
      = 1 / 2 * ∑ k : Fin 3, ∑ a, ∑ b,
          γ a b * fderiv ℝ (φ a).1 x (ei k) * fderiv ℝ (φ b).1 x (ei k) := by
  simp only [posdef_eval, smooth_smul_apply, smooth_sum_apply, Dsym_coe, DFun, dpowFun_e]
  rfl

/-- C06: `evaluate_general_kinetic_energy_density` -/
theorem generalKE_pointwise (hγ : SymmG γ) (α : ℚ) (x : E3) :
    (Form.evalA pd φ γ (generalKEForm α)).1 x
      = (Form.evalA pd φ γ posdefForm).1 x
        + (α : ℝ) * ∑ k : Fin 3, pdFun k (pdFun k (rhoFun φ γ)) x := by
  simp only [generalKE_eq, laplacian_eq pd_comm hγ, smooth_add_apply, smooth_smul_apply, lap_apply]

/-- C15: `evaluate_stress_tensor` returns the expression of its docstring, for all `α`, `β` -/
theorem stress_pointwise (hγ : SymmG γ) (α β : ℚ) (i j : Fin 3) (x : E3) :
    (Form.evalA pd φ γ (stressForm α β i j)).1 x
      = -(1 / 2 : ℝ) * ((α : ℝ) * (DFun φ γ (e i) (e j) x + DFun φ γ (e j) (e i) x)
          - (1 - (α : ℝ)) * (DFun φ γ (e i + e j) 0 x + DFun φ γ 0 (e i + e j) x))
        - (1 / 2 : ℝ) * ((if i = j then (1 : ℝ) else 0) * (β : ℝ))
            * ∑ k : Fin 3, pdFun k (pdFun k (rhoFun φ γ)) x := by
  simp only [stress_doc pd_comm hγ, smooth_add_apply, smooth_sub_apply, smooth_smul_apply, lap_apply,
    Dsym_coe, mul_assoc]

/-- C15: `evaluate_ehrenfest_force` is minus the divergence of the stress tensor, as functions on `E3` -/
theorem force_pointwise (hγ : SymmG γ) (α β : ℚ) (i : Fin 3) (x : E3) :
    (Form.evalA pd φ γ (forceForm α β i)).1 x
      = -∑ j : Fin 3, fderiv ℝ (Form.evalA pd φ γ (stressForm α β i j)).1 x (ei j) := by
  rw [force_eq_neg_div_stress pd_comm hγ]
  exact congrArg Neg.neg (smooth_sum_apply _ _ x)

/-- C15: `evaluate_ehrenfest_hessian` (before symmetrisation) is the Jacobian of the force, as functions
on `E3` -/
theorem ehrenfestHessian_pointwise (hγ : SymmG γ) (α β : ℚ) (i j : Fin 3) (x : E3) :
    (Form.evalA pd φ γ (ehrenfestHessianRaw α β i j)).1 x
      = fderiv ℝ (Form.evalA pd φ γ (forceForm α β i)).1 x (ei j) :=
  congrArg (fun f : Smooth3 => f.1 x) (ehrenfest_hessian_eq_jacobian pd_comm hγ α β i j)

theorem stress_doc_smooth (hγ : SymmG γ) (α β : ℚ) (i j : Fin 3) :
    Form.evalA pd φ γ (stressForm α β i j) =
      -(1 / 2 : ℝ) • ((α : ℝ) • (Dsym pd φ γ (e i) (e j) + Dsym pd φ γ (e j) (e i))
          - (1 - (α : ℝ)) • (Dsym pd φ γ (e i + e j) 0 + Dsym pd φ γ 0 (e i + e j)))
        - (1 / 2 : ℝ) • ((if i = j then (1 : ℝ) else 0) * (β : ℝ)) • lap pd φ γ :=
  stress_doc pd_comm hγ α β i j

theorem force_eq_neg_div_stress_smooth (hγ : SymmG γ) (α β : ℚ) (i : Fin 3) :
    Form.evalA pd φ γ (forceForm α β i)
      = -∑ j : Fin 3, pd j (Form.evalA pd φ γ (stressForm α β i j)) :=
  force_eq_neg_div_stress pd_comm hγ α β i

theorem ehrenfest_hessian_eq_jacobian_smooth (hγ : SymmG γ) (α β : ℚ) (i j : Fin 3) :
    Form.evalA pd φ γ (ehrenfestHessianRaw α β i j)
      = pd j (Form.evalA pd φ γ (forceForm α β i)) :=
  ehrenfest_hessian_eq_jacobian pd_comm hγ α β i j

end Pointwise

/-! ## 3. The model's basis functions are smooth, and their derivatives are what the model computes -/

def coordL (u : Fin 3) : E3 →L[ℝ] ℝ := EuclideanSpace.proj u

@[simp] theorem coordL_apply (u : Fin 3) (r : E3) : coordL u r = r u := rfl

theorem contDiff_coord (u : Fin 3) : ContDiff ℝ ∞ (fun r : E3 => r u) :=
  (coordL u).contDiff

theorem hasFDerivAt_coord_comp {g : ℝ → ℝ} (hg : Differentiable ℝ g) (u : Fin 3) (x : E3) :
    HasFDerivAt (fun r : E3 => g (r u))
      (deriv g (x u) • coordL u) x :=
  HasDerivAt.comp_hasFDerivAt (f := coordL u) x (hg (x u)).hasDerivAt (coordL u).hasFDerivAt

def prodFn (g : Fin 3 → ℝ → ℝ) : E3 → ℝ := fun r => g 0 (r 0) * g 1 (r 1) * g 2 (r 2)

theorem contDiff_prodFn {g : Fin 3 → ℝ → ℝ} (hg : ∀ u, ContDiff ℝ ∞ (g u)) :
    ContDiff ℝ ∞ (prodFn g) :=
  (((hg 0).comp (contDiff_coord 0)).mul ((hg 1).comp (contDiff_coord 1))).mul
    ((hg 2).comp (contDiff_coord 2))

theorem pdFun_prodFn {g : Fin 3 → ℝ → ℝ} (hg : ∀ u, Differentiable ℝ (g u)) (i : Fin 3) :
    pdFun i (prodFn g) = prodFn (Function.update g i (deriv (g i))) := by
  funext x
  have h := ((hasFDerivAt_coord_comp (hg 0) 0 x).mul (hasFDerivAt_coord_comp (hg 1) 1 x)).mul
    (hasFDerivAt_coord_comp (hg 2) 2 x)
  refine (congrArg (· (ei i)) h.fderiv).trans ?_
  simp only [ei, add_apply, smul_apply, coordL_apply, PiLp.single_apply, smul_eq_mul, prodFn]
  fin_cases i <;> simp <;> ring

theorem contDiff_update {g : Fin 3 → ℝ → ℝ} (hg : ∀ u, ContDiff ℝ ∞ (g u)) (i : Fin 3) {h : ℝ → ℝ}
    (hh : ContDiff ℝ ∞ h) (u : Fin 3) : ContDiff ℝ ∞ (Function.update g i h u) := by
  rcases eq_or_ne u i with rfl | hu
  · rwa [Function.update_self]
  · rw [Function.update_of_ne hu]; exact hg u

theorem iterate_pdFun_prodFn (i : Fin 3) (n : ℕ) :
    ∀ {g : Fin 3 → ℝ → ℝ}, (∀ u, ContDiff ℝ ∞ (g u)) →
      (pdFun i)^[n] (prodFn g) = prodFn (Function.update g i (deriv^[n] (g i))) := by
  induction n with
  | zero =>
    intro g _
    rw [Function.iterate_zero, id, Function.iterate_zero, id, Function.update_eq_self]
  | succ n ih =>
    intro g hg
    rw [Function.iterate_succ_apply, pdFun_prodFn (fun u => smooth_diff (hg u)),
      ih (contDiff_update hg i (contDiff_infty_iff_deriv.1 (hg i)).2),
      Function.update_idem, Function.update_self, Function.iterate_succ_apply]

theorem dpowFun_prodFn (p : Comp) {g : Fin 3 → ℝ → ℝ} (hg : ∀ u, ContDiff ℝ ∞ (g u)) (r : E3) :
    dpowFun p (prodFn g) r = iteratedDeriv p.1 (g 0) (r 0) * iteratedDeriv p.2.1 (g 1) (r 1)
      * iteratedDeriv p.2.2 (g 2) (r 2) := by
  have h2 := contDiff_update hg 2 ((hg 2).iterate_deriv p.2.2)
  have h1 := contDiff_update h2 1 ((h2 1).iterate_deriv p.2.1)
  rw [dpowFun, iterate_pdFun_prodFn 2 _ hg, iterate_pdFun_prodFn 1 _ h2, iterate_pdFun_prodFn 0 _ h1]
  simp [prodFn, iteratedDeriv_eq_iterate]

/-! ### Primitives and contracted shells -/

theorem contDiff_prim1 (α A : ℝ) (n : ℕ) : ContDiff ℝ ∞ (prim1 α A n) := by
  unfold prim1; fun_prop

theorem primFnE_eq_prodFn (α : ℝ) (A : E3) (c : Comp) :
    primFnE α A c
      = prodFn ![prim1 α (A 0) c.1, prim1 α (A 1) c.2.1, prim1 α (A 2) c.2.2] := by
  funext r
  have hn : ‖r - A‖ ^ 2 = (r 0 - A 0) ^ 2 + (r 1 - A 1) ^ 2 + (r 2 - A 2) ^ 2 := by
    rw [EuclideanSpace.real_norm_sq_eq]
    simp [Fin.sum_univ_three]
  simp only [primFnE, prodFn, prim1, Matrix.cons_val_zero, Matrix.cons_val_one, Matrix.cons_val]
  rw [hn, exp_neg_mul_add3]
  ring

theorem contDiff_prim3 (α : ℝ) (A : E3) (c : Comp) (u : Fin 3) :
    ContDiff ℝ ∞ (![prim1 α (A 0) c.1, prim1 α (A 1) c.2.1, prim1 α (A 2) c.2.2] u) := by
  fin_cases u <;> exact contDiff_prim1 _ _ _

theorem contDiff_primFnE (α : ℝ) (A : E3) (c : Comp) : ContDiff ℝ ∞ (primFnE α A c) := by
  rw [primFnE_eq_prodFn]
  exact contDiff_prodFn (contDiff_prim3 α A c)

theorem contDiff_shellFnE (s : Shell ℝ) (m c : ℕ) : ContDiff ℝ ∞ (shellFnE s m c) := by
  unfold shellFnE
  exact ContDiff.sum fun k _ => contDiff_const.mul (contDiff_primFnE _ _ _)

def shellSmooth (s : Shell ℝ) (m c : ℕ) : Smooth3 := ⟨shellFnE s m c, contDiff_shellFnE s m c⟩

@[simp] theorem shellSmooth_coe (s : Shell ℝ) (m c : ℕ) :
    ((shellSmooth s m c : Smooth3) : E3 → ℝ) = shellFnE s m c := rfl

theorem dpowFun_primFnE (α : ℝ) (A : E3) (c p : Comp) (r : E3) :
    dpowFun p (primFnE α A c) r
      = iteratedDeriv p.1 (prim1 α (A 0) c.1) (r 0) * iteratedDeriv p.2.1 (prim1 α (A 1) c.2.1) (r 1)
          * iteratedDeriv p.2.2 (prim1 α (A 2) c.2.2) (r 2) := by
  rw [primFnE_eq_prodFn, dpowFun_prodFn p (contDiff_prim3 α A c)]
  rfl

theorem dpowFun_shellFnE (s : Shell ℝ) (m c : ℕ) (p : Comp) (r : E3) :
    dpowFun p (shellFnE s m c) r = shellDerivFn s m c p (r 0, r 1, r 2) := by
  unfold shellFnE
  rw [dpowFun_lincomb _ _ _ (fun k => contDiff_primFnE _ _ _)]
  exact Finset.sum_congr rfl fun k _ => congrArg _ (dpowFun_primFnE _ _ _ _ r)

theorem dpow_shellSmooth_apply (s : Shell ℝ) (m c : ℕ) (p : Comp) (r : E3) :
    (dpow pd p (shellSmooth s m c)).1 r = shellDerivFn s m c p (r 0, r 1, r 2) := by
  rw [dpow_coe]
  exact dpowFun_shellFnE s m c p r

theorem pd_shellSmooth_apply (s : Shell ℝ) (m c : ℕ) (i : Fin 3) (r : E3) :
    fderiv ℝ (shellFnE s m c) r (ei i) = shellDerivFn s m c (e i) (r 0, r 1, r 2) := by
  rw [← dpowFun_shellFnE, dpowFun_e]
  rfl

/-- `axisGeneral` is one axis of the evaluation model's general back-end -/
theorem dpow_shellSmooth_eq_axisGeneral (s : Shell ℝ) (m c : ℕ) (p : Comp) (r : E3)
    (hs : ∀ k < s.nprim, 0 ≤ s.exp! k) :
    (dpow pd p (shellSmooth s m c)).1 r
      = ∑ k ∈ range s.nprim, s.coef! k m * normPrim (s.exp! k) s.l (s.comp! c)
          * (axisGeneral (s.exp! k) (r 0 - s.ctr 0) (s.comp! c).1 p.1
            * axisGeneral (s.exp! k) (r 1 - s.ctr 1) (s.comp! c).2.1 p.2.1
            * axisGeneral (s.exp! k) (r 2 - s.ctr 2) (s.comp! c).2.2 p.2.2) := by
  rw [dpow_shellSmooth_apply]
  refine Finset.sum_congr rfl fun k hk => ?_
  have hk' := hs k (Finset.mem_range.mp hk)
  rw [axisGeneral_eq_prim1 _ _ _ hk', axisGeneral_eq_prim1 _ _ _ hk',
    axisGeneral_eq_prim1 _ _ _ hk']
  rfl

/-- the `"general"` back-end of `EvalDeriv.construct_array_contraction` returns the mixed partial
derivative `∂^o` of the shell function at the grid point -/
theorem evalBlock_general_eq_dpow (s : Shell ℝ) (o : Comp) (pts : Array (ℕ → ℝ)) (m c p : ℕ)
    (hs : ∀ k < s.nprim, 0 < s.exp! k) (hp : p < pts.size) :
    (evalBlock s .general o pts).get3 m c p
      = (dpow pd o (shellSmooth s m c)).1 (toE3 pts[p]) := by
  rw [dpow_shellSmooth_apply,
    evalBlock_general_eq_shellDerivFn s o pts m c p (pts[p] 0, pts[p] 1, pts[p] 2) hs hp rfl rfl rfl]
  rfl

theorem evalBlock_general_eq_fderiv (s : Shell ℝ) (i : Fin 3) (pts : Array (ℕ → ℝ)) (m c p : ℕ)
    (hs : ∀ k < s.nprim, 0 < s.exp! k) (hp : p < pts.size) :
    (evalBlock s .general (e i) pts).get3 m c p
      = fderiv ℝ (shellFnE s m c) (toE3 pts[p]) (ei i) := by
  rw [evalBlock_general_eq_dpow s (e i) pts m c p hs hp, dpow_shellSmooth_apply,
    pd_shellSmooth_apply]

/-! ### A basis of contracted shell functions -/

section ShellBasis

variable {ι : Type*} [Fintype ι] (sh : ι → Shell ℝ) (mm cc : ι → ℕ) (γ : ι → ι → ℝ)

theorem Dsym_shell_apply (p q : Comp) (r : E3) :
    (Dsym pd (fun a => shellSmooth (sh a) (mm a) (cc a)) γ p q).1 r
      = ∑ a, ∑ b, γ a b * shellDerivFn (sh a) (mm a) (cc a) p (r 0, r 1, r 2)
          * shellDerivFn (sh b) (mm b) (cc b) q (r 0, r 1, r 2) := by
  rw [Dsym_coe]
  simp only [DFun, shellSmooth_coe, dpowFun_shellFnE]

theorem rho_shell_apply (r : E3) :
    (rho pd (fun a => shellSmooth (sh a) (mm a) (cc a)) γ).1 r
      = ∑ a, ∑ b, γ a b * shellFnE (sh a) (mm a) (cc a) r * shellFnE (sh b) (mm b) (cc b) r := by
  rw [rho_apply]; rfl

end ShellBasis

end

end GB

