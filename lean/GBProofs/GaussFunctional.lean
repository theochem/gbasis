import GBProofs.Basic
import Mathlib.Algebra.Polynomial.Derivative
import Mathlib.Algebra.Polynomial.Eval.Defs
import Mathlib.Tactic.LinearCombination

/-!
# The normalised Gaussian functional on polynomials

`G p q` is the algebraic stand-in for `(∫ q(t) e^{-p t²} dt) / (∫ e^{-p t²} dt)`:
the linear functional with moments `gmom p`.  `GaussIntegral.lean` proves that it
is that quotient of integrals over ℝ.  `S3` is the one-dimensional three-centre
factor of every separable Gaussian integral of the library.
-/
open Polynomial
namespace GB
variable {K : Type} [Field K] [CharZero K]

/-- `∫ tⁿ e^{-p t²} dt / ∫ e^{-p t²} dt`, given by its recursion (factor `(n+1)/(2p)`, from integration by
parts) so that it makes sense in any field -/
def gmom (p : K) : ℕ → K
  | 0 => 1
  | 1 => 0
  | (n+2) => ((n : K) + 1) / (2 * p) * gmom p n

noncomputable def G (p : K) : K[X] →ₗ[K] K :=
  Polynomial.lsum (fun n => (LinearMap.id : K →ₗ[K] K).smulRight (gmom p n))

lemma G_monomial (p : K) (n : ℕ) (a : K) : G p (monomial n a) = a * gmom p n := by
  simp [G, Polynomial.lsum_apply, Polynomial.sum_monomial_index]

lemma G_X_pow (p : K) (n : ℕ) : G p (X ^ n) = gmom p n := by
  rw [← monomial_one_right_eq_X_pow, G_monomial, one_mul]

lemma G_C_mul (p c : K) (q : K[X]) : G p (C c * q) = c * G p q := by
  rw [← smul_eq_C_mul, map_smul, smul_eq_mul]

/-- integration by parts against `e^{-p t²}`; on monomials it is the recursion of `gmom` -/
theorem G_derivative (p : K) (hp : p ≠ 0) (q : K[X]) :
    G p (derivative q) = 2 * p * G p (X * q) := by
  induction q using Polynomial.induction_on' with
  | add a b ha hb => rw [derivative_add, mul_add, map_add, map_add, ha, hb, mul_add]
  | monomial n a =>
    rw [derivative_monomial, X_mul_monomial, G_monomial, G_monomial]
    cases n with
    | zero => simp [gmom]
    | succ m =>
      rw [Nat.add_sub_cancel, gmom]
      push_cast
      field_simp

lemma G_X_add_C_mul (p : K) (hp : p ≠ 0) (c : K) (q : K[X]) :
    G p ((X + C c) * q) = c * G p q + 1 / (2 * p) * G p (derivative q) := by
  rw [add_mul, map_add, G_C_mul, G_derivative p hp]
  field_simp
  ring

/-- the normalised integral of `(x-A)^i (x-B)^j (x-C)^k` against the product Gaussian centred at `P`,
in the variable `x - P`: `PA = P - A` etc. -/
noncomputable def S3 (p PA PB PC : K) (i j k : ℕ) : K :=
  G p ((X + C PA)^i * (X + C PB)^j * (X + C PC)^k)

theorem S3_succ_i (p PA PB PC : K) (hp : p ≠ 0) (i j k : ℕ) :
    S3 p PA PB PC (i+1) j k = PA * S3 p PA PB PC i j k
      + (1 / (2*p)) * ((i:K) * S3 p PA PB PC (i-1) j k + (j:K) * S3 p PA PB PC i (j-1) k
          + (k:K) * S3 p PA PB PC i j (k-1)) := by
  unfold S3
  -- `(X + PA)·Q`, then the Leibniz rule on the three factors of `Q`, constants pulled out of `G`
  rw [pow_succ', mul_assoc, mul_assoc, G_X_add_C_mul p hp, ← mul_assoc, derivative_mul, derivative_mul,
    add_mul, derivative_X_add_C_pow, derivative_X_add_C_pow, derivative_X_add_C_pow,
    mul_assoc (C _), mul_assoc (C _), mul_left_comm _ (C _), mul_assoc (C _), mul_left_comm _ (C _),
    map_add, map_add, G_C_mul, G_C_mul, G_C_mul]

lemma S3_perm_ij (p PA PB PC : K) (i j k : ℕ) : S3 p PA PB PC i j k = S3 p PB PA PC j i k := by
  rw [S3, S3, mul_comm ((X + C PA)^i)]

lemma S3_perm_ik (p PA PB PC : K) (i j k : ℕ) : S3 p PA PB PC i j k = S3 p PC PB PA k j i := by
  rw [S3, S3, mul_comm _ ((X + C PC)^k), mul_comm ((X + C PA)^i), mul_assoc]

theorem S3_succ_j (p PA PB PC : K) (hp : p ≠ 0) (i j k : ℕ) :
    S3 p PA PB PC i (j+1) k = PB * S3 p PA PB PC i j k
      + (1 / (2*p)) * ((i:K) * S3 p PA PB PC (i-1) j k + (j:K) * S3 p PA PB PC i (j-1) k
          + (k:K) * S3 p PA PB PC i j (k-1)) := by
  rw [S3_perm_ij, S3_succ_i p PB PA PC hp j i k]
  simp only [S3_perm_ij p PA PB PC]
  ring

theorem S3_succ_k (p PA PB PC : K) (hp : p ≠ 0) (i j k : ℕ) :
    S3 p PA PB PC i j (k+1) = PC * S3 p PA PB PC i j k
      + (1 / (2*p)) * ((i:K) * S3 p PA PB PC (i-1) j k + (j:K) * S3 p PA PB PC i (j-1) k
          + (k:K) * S3 p PA PB PC i j (k-1)) := by
  rw [S3_perm_ik, S3_succ_i p PC PB PA hp k j i]
  simp only [S3_perm_ik p PA PB PC]
  ring

lemma S3_zero (p PA PB PC : K) : S3 p PA PB PC 0 0 0 = 1 := by
  rw [S3, pow_zero, pow_zero, pow_zero, mul_one, mul_one, ← pow_zero X, G_X_pow, gmom]

lemma S3_k0 (p PA PB PC PC' : K) (i j : ℕ) : S3 p PA PB PC i j 0 = S3 p PA PB PC' i j 0 := by
  rw [S3, S3, pow_zero, pow_zero]

/-- from `(x-B) = (x-A) + (A-B)`; here `PB - PA = A - B` -/
theorem S3_horizontal (p PA PB PC : K) (i j k : ℕ) :
    S3 p PA PB PC i (j+1) k = S3 p PA PB PC (i+1) j k + (PB - PA) * S3 p PA PB PC i j k := by
  unfold S3
  rw [← G_C_mul, ← map_add, map_sub]
  congr 1
  ring

end GB
