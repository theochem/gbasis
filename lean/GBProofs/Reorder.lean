import GBModel.Assemble
import GBModel.TwoElec
import GBProofs.Layout
import GBProofs.Layout14
import GBProofs.ContractionLaws
import GBProofs.EriIntegral
import Mathlib.Logic.Equiv.Defs
import Mathlib.Data.Fintype.Card
import Mathlib.Tactic.Ring

/-!
# C11: reordering the shells of a basis, and filling by symmetry

`Reordered b' b σ` says that `b'` lists shells of `b` in the order `σ`; `Basis.reindex` is the induced map of basis-function
indices (`offset' k + x ↦ offset (σ k) + x`).  Listing the shells in another order changes every assembled array only by that
index map (`entry1_reorder`, `entry2_reorder`, `entry4_reorder`; for an `Equiv.Perm` of the shells `entry2_permute` …).
Block (anti)symmetry gives array (anti)symmetry through the contraction norms and the spherical matrices (`entry2_transpose`),
and the three generators of the eight-fold symmetry pass from the blocks to the four-index array (`entry4_eightfold`).
-/
namespace GB
variable {K : Type}

/-! ## reordered bases and the induced index map -/

def Reordered (b' b : Basis K) (σ : Nat → Nat) : Prop :=
  ∀ k (hk : k < b'.size), ∃ h : σ k < b.size, b'[k] = b[σ k]

/-- the induced map on basis-function indices: position `x` inside shell `k` of `b'` goes to
position `x` inside shell `σ k` of `b` -/
def Basis.reindex (b' b : Basis K) (σ : Nat → Nat) (r : Nat) : Nat :=
  b.offset (σ (b'.locate r).1) + (r - b'.offset (b'.locate r).1)

theorem reindex_offset (b' b : Basis K) (σ : Nat → Nat) (k : Nat) (hk : k < b'.size) (m f : Nat)
    (hm : m < b'[k].nseg) (hf : f < b'[k].nfun) :
    Basis.reindex b' b σ (b'.offset k + m * b'[k].nfun + f)
      = b.offset (σ k) + m * b'[k].nfun + f := by
  unfold Basis.reindex
  rw [locate_offset b' k hk m f hm hf]
  simp only
  rw [Nat.add_assoc (b'.offset k), Nat.add_sub_cancel_left, Nat.add_assoc]

theorem reindex_offset' (b' b : Basis K) (σ : Nat → Nat) (hσ : Reordered b' b σ)
    (k : Nat) (hk : k < b'.size) (m f : Nat) (hm : m < b'[k].nseg) (hf : f < b'[k].nfun) :
    Basis.reindex b' b σ (b'.offset k + m * b'[k].nfun + f)
      = b.offset (σ k) + m * (b[σ k]'(hσ k hk).1).nfun + f := by
  rw [reindex_offset b' b σ k hk m f hm hf]
  obtain ⟨h, heq⟩ := hσ k hk
  exact congrArg (fun s : Shell K => b.offset (σ k) + m * s.nfun + f) heq

theorem reindex_lt (b' b : Basis K) (σ : Nat → Nat) (hσ : Reordered b' b σ) (r : Nat)
    (hr : r < b'.total) : Basis.reindex b' b σ r < b.total := by
  obtain ⟨i, hi, m, f, hm, hf, rfl, -⟩ := locate_cases b' r hr
  rw [reindex_offset b' b σ i hi m f hm hf]
  obtain ⟨h, heq⟩ := hσ i hi
  rw [heq] at hm hf ⊢
  exact offset_index_lt b (σ i) h hm hf

theorem locate_reindex (b' b : Basis K) (σ : Nat → Nat) (hσ : Reordered b' b σ) (r : Nat)
    (hr : r < b'.total) :
    b.locate (Basis.reindex b' b σ r)
      = (σ (b'.locate r).1, (b'.locate r).2.1, (b'.locate r).2.2) := by
  obtain ⟨i, hi, m, f, hm, hf, rfl, hloc⟩ := locate_cases b' r hr
  rw [hloc, reindex_offset b' b σ i hi m f hm hf]
  obtain ⟨h, heq⟩ := hσ i hi
  rw [heq] at hm hf ⊢
  exact locate_offset b (σ i) h m f hm hf

theorem Reordered.symm {b' b : Basis K} {σ τ : Nat → Nat} (hσ : Reordered b' b σ)
    (hτ : ∀ j, j < b.size → τ j < b'.size) (hστ : ∀ j, j < b.size → σ (τ j) = j) :
    Reordered b b' τ := by
  intro j hj
  refine ⟨hτ j hj, ?_⟩
  obtain ⟨h, heq⟩ := hσ (τ j) (hτ j hj)
  rw [heq]
  simp only [hστ j hj]

theorem reindex_reindex (b' b : Basis K) (σ τ : Nat → Nat) (hσ : Reordered b' b σ)
    (hτσ : ∀ k, k < b'.size → τ (σ k) = k) (r : Nat) (hr : r < b'.total) :
    Basis.reindex b b' τ (Basis.reindex b' b σ r) = r := by
  obtain ⟨i, hi, m, f, hm, hf, rfl, -⟩ := locate_cases b' r hr
  rw [reindex_offset b' b σ i hi m f hm hf]
  obtain ⟨h, heq⟩ := hσ i hi
  rw [heq] at hm hf ⊢
  rw [reindex_offset b b' τ (σ i) h m f hm hf, hτσ i hi]

theorem reindex_injOn (b' b : Basis K) (σ τ : Nat → Nat) (hσ : Reordered b' b σ)
    (hτσ : ∀ k, k < b'.size → τ (σ k) = k) (r r' : Nat)
    (hr : r < b'.total) (hr' : r' < b'.total)
    (h : Basis.reindex b' b σ r = Basis.reindex b' b σ r') : r = r' := by
  rw [← reindex_reindex b' b σ τ hσ hτσ r hr, h, reindex_reindex b' b σ τ hσ hτσ r' hr']

theorem reindex_surjOn (b' b : Basis K) (σ τ : Nat → Nat)
    (hτ : Reordered b b' τ) (hστ : ∀ j, j < b.size → σ (τ j) = j) (s : Nat) (hs : s < b.total) :
    ∃ r, r < b'.total ∧ Basis.reindex b' b σ r = s :=
  ⟨Basis.reindex b b' τ s, reindex_lt b b' τ hτ s hs, reindex_reindex b b' τ σ hτ hστ s hs⟩

def reindexEquiv (b' b : Basis K) (σ τ : Nat → Nat) (hσ : Reordered b' b σ)
    (hτ : Reordered b b' τ) (hτσ : ∀ k, k < b'.size → τ (σ k) = k)
    (hστ : ∀ j, j < b.size → σ (τ j) = j) : Fin b'.total ≃ Fin b.total where
  toFun r := ⟨Basis.reindex b' b σ r.1, reindex_lt b' b σ hσ r.1 r.2⟩
  invFun s := ⟨Basis.reindex b b' τ s.1, reindex_lt b b' τ hτ s.1 s.2⟩
  left_inv r := Fin.ext (reindex_reindex b' b σ τ hσ hτσ r.1 r.2)
  right_inv s := Fin.ext (reindex_reindex b b' τ σ hτ hστ s.1 s.2)

theorem total_eq_of_reordered (b' b : Basis K) (σ τ : Nat → Nat) (hσ : Reordered b' b σ)
    (hτ : Reordered b b' τ) (hτσ : ∀ k, k < b'.size → τ (σ k) = k)
    (hστ : ∀ j, j < b.size → σ (τ j) = j) : b'.total = b.total :=
  Fin.equiv_iff_eq.1 ⟨reindexEquiv b' b σ τ hσ hτ hτσ hστ⟩


/-! ## the reordering law -/

section
variable [Transc K]

theorem Reordered.getElem! {b' b : Basis K} {σ : Nat → Nat} (hσ : Reordered b' b σ) {k : Nat}
    (hk : k < b'.size) : b'[k]! = b[σ k]! := by
  obtain ⟨h, e⟩ := hσ k hk
  rw [getElem!_pos b' k hk, getElem!_pos b (σ k) h, e]

/-! ### two indices -/

/-- C11 for two-index arrays: `A'[r, c, e] = A[perm r, perm' c, e]` with the induced index maps, the rows listing the shells
of `b1` in the order `σ`, the columns those of `b2` in the order `τ` -/
theorem entry2_reorder (b1' b2' b1 b2 : Basis K) (σ τ : Nat → Nat)
    (hσ : Reordered b1' b1 σ) (hτ : Reordered b2' b2 τ) (nextra : Nat)
    (blk' blk : Nat → Nat → Tab (Tab4 K))
    (hblk : ∀ k l, k < b1'.size → l < b2'.size → blk' k l = blk (σ k) (τ l))
    (r c e : Nat) (hr : r < b1'.total) (hc : c < b2'.total) :
    entry2 b1' b2' (pairBlocks b1' b2' nextra blk') r c e
      = entry2 b1 b2 (pairBlocks b1 b2 nextra blk)
          (Basis.reindex b1' b1 σ r) (Basis.reindex b2' b2 τ c) e := by
  obtain ⟨i, hi, m, f, -, -, -, hlr⟩ := locate_cases b1' r hr
  obtain ⟨j, hj, n, g, -, -, -, hlc⟩ := locate_cases b2' c hc
  obtain ⟨h1, e1⟩ := hσ i hi
  obtain ⟨h2, e2⟩ := hτ j hj
  rw [entry2_of_locate b1' b2' nextra blk' e hlr hlc hi hj,
    entry2_of_locate b1 b2 nextra blk e ((locate_reindex b1' b1 σ hσ r hr).trans (by rw [hlr]))
      ((locate_reindex b2' b2 τ hτ c hc).trans (by rw [hlc])) h1 h2,
    hblk i j hi hj, e1, e2]

theorem assemble2_reorder [Inhabited K] (b1' b2' b1 b2 : Basis K) (σ τ : Nat → Nat)
    (hσ : Reordered b1' b1 σ) (hτ : Reordered b2' b2 τ) (nextra : Nat)
    (blk' blk : Nat → Nat → Tab (Tab4 K))
    (hblk : ∀ k l, k < b1'.size → l < b2'.size → blk' k l = blk (σ k) (τ l))
    (r c e : Nat) (hr : r < b1'.total) (hc : c < b2'.total) (he : e < nextra) :
    (assemble2 b1' b2' nextra blk')[(r * b2'.total + c) * nextra + e]!
      = (assemble2 b1 b2 nextra blk)[(Basis.reindex b1' b1 σ r * b2.total
          + Basis.reindex b2' b2 τ c) * nextra + e]! := by
  rw [assemble2_get b1' b2' nextra blk' r c e hr hc he,
    assemble2_get b1 b2 nextra blk _ _ e (reindex_lt b1' b1 σ hσ r hr)
      (reindex_lt b2' b2 τ hτ c hc) he]
  exact entry2_reorder b1' b2' b1 b2 σ τ hσ hτ nextra blk' blk hblk r c e hr hc

/-- one basis, blocks that depend only on the shells (every `blk` argument of the driver is of this kind) -/
theorem entry2_reorder_shells (b' b : Basis K) (σ : Nat → Nat) (hσ : Reordered b' b σ)
    (nextra : Nat) (B : Shell K → Shell K → Tab (Tab4 K))
    (r c e : Nat) (hr : r < b'.total) (hc : c < b'.total) :
    entry2 b' b' (pairBlocks b' b' nextra fun i j => B b'[i]! b'[j]!) r c e
      = entry2 b b (pairBlocks b b nextra fun i j => B b[i]! b[j]!)
          (Basis.reindex b' b σ r) (Basis.reindex b' b σ c) e :=
  entry2_reorder b' b' b b σ σ hσ hσ nextra _ _
    (fun k l hk hl => by simp only [hσ.getElem! hk, hσ.getElem! hl]) r c e hr hc

/-! ### one index -/

theorem entry1_reorder (b' b : Basis K) (σ : Nat → Nat) (hσ : Reordered b' b σ)
    (nextra : Nat) (blk' blk : Nat → Tab3 K) (hblk : ∀ k, k < b'.size → blk' k = blk (σ k))
    (r e : Nat) (hr : r < b'.total) :
    entry1 b' (oneBlocks b' nextra blk') r e
      = entry1 b (oneBlocks b nextra blk) (Basis.reindex b' b σ r) e := by
  obtain ⟨i, hi, m, f, -, -, -, hl⟩ := locate_cases b' r hr
  obtain ⟨h1, e1⟩ := hσ i hi
  rw [entry1_of_locate b' nextra blk' e hl hi,
    entry1_of_locate b nextra blk e ((locate_reindex b' b σ hσ r hr).trans (by rw [hl])) h1,
    hblk i hi, e1]

theorem assemble1_reorder [Inhabited K] (b' b : Basis K) (σ : Nat → Nat) (hσ : Reordered b' b σ)
    (nextra : Nat) (blk' blk : Nat → Tab3 K) (hblk : ∀ k, k < b'.size → blk' k = blk (σ k))
    (r e : Nat) (hr : r < b'.total) (he : e < nextra) :
    (assemble1 b' nextra blk')[r * nextra + e]!
      = (assemble1 b nextra blk)[Basis.reindex b' b σ r * nextra + e]! := by
  rw [assemble1_get b' nextra blk' r e hr he,
    assemble1_get b nextra blk _ e (reindex_lt b' b σ hσ r hr) he]
  exact entry1_reorder b' b σ hσ nextra blk' blk hblk r e hr

theorem entry1_reorder_shells (b' b : Basis K) (σ : Nat → Nat) (hσ : Reordered b' b σ)
    (nextra : Nat) (B : Shell K → Tab3 K) (r e : Nat) (hr : r < b'.total) :
    entry1 b' (oneBlocks b' nextra fun i => B b'[i]!) r e
      = entry1 b (oneBlocks b nextra fun i => B b[i]!) (Basis.reindex b' b σ r) e :=
  entry1_reorder b' b σ hσ nextra _ _ (fun k hk => by simp only [hσ.getElem! hk]) r e hr

/-! ### four indices -/

theorem entry4_reorder (b1' b2' b3' b4' b1 b2 b3 b4 : Basis K) (σ1 σ2 σ3 σ4 : Nat → Nat)
    (hσ1 : Reordered b1' b1 σ1) (hσ2 : Reordered b2' b2 σ2) (hσ3 : Reordered b3' b3 σ3)
    (hσ4 : Reordered b4' b4 σ4) (blk' blk : Nat → Nat → Nat → Nat → Tab8 K)
    (hblk : ∀ i j k l, i < b1'.size → j < b2'.size → k < b3'.size → l < b4'.size →
      blk' i j k l = blk (σ1 i) (σ2 j) (σ3 k) (σ4 l))
    (r1 r2 r3 r4 : Nat) (hr1 : r1 < b1'.total) (hr2 : r2 < b2'.total) (hr3 : r3 < b3'.total)
    (hr4 : r4 < b4'.total) :
    entry4 b1' b2' b3' b4' (quartetBlocks b1' b2' b3' b4' blk') r1 r2 r3 r4
      = entry4 b1 b2 b3 b4 (quartetBlocks b1 b2 b3 b4 blk)
          (Basis.reindex b1' b1 σ1 r1) (Basis.reindex b2' b2 σ2 r2)
          (Basis.reindex b3' b3 σ3 r3) (Basis.reindex b4' b4 σ4 r4) := by
  obtain ⟨i1, h1, m1, f1, -, -, -, hl1⟩ := locate_cases b1' r1 hr1
  obtain ⟨i2, h2, m2, f2, -, -, -, hl2⟩ := locate_cases b2' r2 hr2
  obtain ⟨i3, h3, m3, f3, -, -, -, hl3⟩ := locate_cases b3' r3 hr3
  obtain ⟨i4, h4, m4, f4, -, -, -, hl4⟩ := locate_cases b4' r4 hr4
  obtain ⟨g1, e1⟩ := hσ1 i1 h1
  obtain ⟨g2, e2⟩ := hσ2 i2 h2
  obtain ⟨g3, e3⟩ := hσ3 i3 h3
  obtain ⟨g4, e4⟩ := hσ4 i4 h4
  rw [entry4_of_locate b1' b2' b3' b4' blk' hl1 hl2 hl3 hl4 h1 h2 h3 h4,
    entry4_of_locate b1 b2 b3 b4 blk
      ((locate_reindex b1' b1 σ1 hσ1 r1 hr1).trans (by rw [hl1]))
      ((locate_reindex b2' b2 σ2 hσ2 r2 hr2).trans (by rw [hl2]))
      ((locate_reindex b3' b3 σ3 hσ3 r3 hr3).trans (by rw [hl3]))
      ((locate_reindex b4' b4 σ4 hσ4 r4 hr4).trans (by rw [hl4])) g1 g2 g3 g4,
    hblk i1 i2 i3 i4 h1 h2 h3 h4, e1, e2, e3, e4]

theorem assemble4g_reorder [Inhabited K] (b1' b2' b3' b4' b1 b2 b3 b4 : Basis K)
    (σ1 σ2 σ3 σ4 : Nat → Nat)
    (hσ1 : Reordered b1' b1 σ1) (hσ2 : Reordered b2' b2 σ2) (hσ3 : Reordered b3' b3 σ3)
    (hσ4 : Reordered b4' b4 σ4) (blk' blk : Nat → Nat → Nat → Nat → Tab8 K)
    (hblk : ∀ i j k l, i < b1'.size → j < b2'.size → k < b3'.size → l < b4'.size →
      blk' i j k l = blk (σ1 i) (σ2 j) (σ3 k) (σ4 l))
    (r1 r2 r3 r4 : Nat) (hr1 : r1 < b1'.total) (hr2 : r2 < b2'.total) (hr3 : r3 < b3'.total)
    (hr4 : r4 < b4'.total) :
    (assemble4g b1' b2' b3' b4' blk')[((r1 * b2'.total + r2) * b3'.total + r3) * b4'.total + r4]!
      = (assemble4g b1 b2 b3 b4 blk)[((Basis.reindex b1' b1 σ1 r1 * b2.total
          + Basis.reindex b2' b2 σ2 r2) * b3.total + Basis.reindex b3' b3 σ3 r3) * b4.total
          + Basis.reindex b4' b4 σ4 r4]! := by
  rw [assemble4g_get b1' b2' b3' b4' blk' r1 r2 r3 r4 hr1 hr2 hr3 hr4,
    assemble4g_get b1 b2 b3 b4 blk _ _ _ _ (reindex_lt b1' b1 σ1 hσ1 r1 hr1)
      (reindex_lt b2' b2 σ2 hσ2 r2 hr2) (reindex_lt b3' b3 σ3 hσ3 r3 hr3)
      (reindex_lt b4' b4 σ4 hσ4 r4 hr4)]
  exact entry4_reorder b1' b2' b3' b4' b1 b2 b3 b4 σ1 σ2 σ3 σ4 hσ1 hσ2 hσ3 hσ4 blk' blk hblk
    r1 r2 r3 r4 hr1 hr2 hr3 hr4

theorem entry4_reorder_shells (b' b : Basis K) (σ : Nat → Nat) (hσ : Reordered b' b σ)
    (B : Shell K → Shell K → Shell K → Shell K → Tab8 K)
    (r1 r2 r3 r4 : Nat) (hr1 : r1 < b'.total) (hr2 : r2 < b'.total) (hr3 : r3 < b'.total)
    (hr4 : r4 < b'.total) :
    entry4 b' b' b' b' (quartetBlocks b' b' b' b' fun i j k l => B b'[i]! b'[j]! b'[k]! b'[l]!)
        r1 r2 r3 r4
      = entry4 b b b b (quartetBlocks b b b b fun i j k l => B b[i]! b[j]! b[k]! b[l]!)
          (Basis.reindex b' b σ r1) (Basis.reindex b' b σ r2)
          (Basis.reindex b' b σ r3) (Basis.reindex b' b σ r4) :=
  entry4_reorder b' b' b' b' b b b b σ σ σ σ hσ hσ hσ hσ _ _
    (fun i j k l hi hj hk hl => by
      simp only [hσ.getElem! hi, hσ.getElem! hj, hσ.getElem! hk, hσ.getElem! hl])
    r1 r2 r3 r4 hr1 hr2 hr3 hr4

end


/-! ## permutations of the shells: the hypotheses are met -/

def Basis.permute (b : Basis K) (σ : Equiv.Perm (Fin b.size)) : Basis K :=
  Array.ofFn fun k => b[σ k]

def permFn (n : Nat) (σ : Fin n → Fin n) (k : Nat) : Nat := if h : k < n then σ ⟨k, h⟩ else k

theorem permute_size (b : Basis K) (σ : Equiv.Perm (Fin b.size)) : (b.permute σ).size = b.size := by
  simp [Basis.permute]

theorem reordered_permute (b : Basis K) (σ : Equiv.Perm (Fin b.size)) :
    Reordered (b.permute σ) b (permFn b.size σ) := by
  intro k hk
  have hk' : k < b.size := by rw [permute_size] at hk; exact hk
  have hp : permFn b.size σ k = σ ⟨k, hk'⟩ := by simp [permFn, hk']
  refine ⟨by rw [hp]; exact (σ ⟨k, hk'⟩).isLt, ?_⟩
  simp only [hp]
  simp [Basis.permute]

theorem reordered_permute_symm (b : Basis K) (σ : Equiv.Perm (Fin b.size)) :
    Reordered b (b.permute σ) (permFn b.size σ.symm) := by
  intro j hj
  have hp : permFn b.size σ.symm j = σ.symm ⟨j, hj⟩ := by simp [permFn, hj]
  refine ⟨by rw [hp, permute_size]; exact (σ.symm ⟨j, hj⟩).isLt, ?_⟩
  simp only [hp]
  simp [Basis.permute]

theorem permFn_left_inv (b : Basis K) (σ : Equiv.Perm (Fin b.size)) (k : Nat)
    (hk : k < (b.permute σ).size) : permFn b.size σ.symm (permFn b.size σ k) = k := by
  have hk' : k < b.size := by rw [permute_size] at hk; exact hk
  simp [permFn, hk']

theorem permFn_right_inv (b : Basis K) (σ : Equiv.Perm (Fin b.size)) (j : Nat)
    (hj : j < b.size) : permFn b.size σ (permFn b.size σ.symm j) = j := by
  simp [permFn, hj]

theorem total_permute (b : Basis K) (σ : Equiv.Perm (Fin b.size)) :
    (b.permute σ).total = b.total :=
  total_eq_of_reordered _ _ _ _ (reordered_permute b σ) (reordered_permute_symm b σ)
    (permFn_left_inv b σ) (permFn_right_inv b σ)

def permuteEquiv (b : Basis K) (σ : Equiv.Perm (Fin b.size)) :
    Fin (b.permute σ).total ≃ Fin b.total :=
  reindexEquiv _ _ _ _ (reordered_permute b σ) (reordered_permute_symm b σ)
    (permFn_left_inv b σ) (permFn_right_inv b σ)

/-- C11 for a permutation of the shells: `A(permuted basis)[r, c, e] = A(basis)[π r, π c, e]`, `π = permuteEquiv b σ` -/
theorem entry2_permute [Transc K] (b : Basis K) (σ : Equiv.Perm (Fin b.size)) (nextra : Nat)
    (B : Shell K → Shell K → Tab (Tab4 K)) (r c : Fin (b.permute σ).total) (e : Nat) :
    entry2 (b.permute σ) (b.permute σ)
        (pairBlocks (b.permute σ) (b.permute σ) nextra fun i j => B (b.permute σ)[i]! (b.permute σ)[j]!)
        r c e
      = entry2 b b (pairBlocks b b nextra fun i j => B b[i]! b[j]!)
          (permuteEquiv b σ r) (permuteEquiv b σ c) e :=
  entry2_reorder_shells (b.permute σ) b _ (reordered_permute b σ) nextra B r c e r.2 c.2

theorem entry1_permute [Transc K] (b : Basis K) (σ : Equiv.Perm (Fin b.size)) (nextra : Nat)
    (B : Shell K → Tab3 K) (r : Fin (b.permute σ).total) (e : Nat) :
    entry1 (b.permute σ) (oneBlocks (b.permute σ) nextra fun i => B (b.permute σ)[i]!) r e
      = entry1 b (oneBlocks b nextra fun i => B b[i]!) (permuteEquiv b σ r) e :=
  entry1_reorder_shells (b.permute σ) b _ (reordered_permute b σ) nextra B r e r.2

theorem entry4_permute [Transc K] (b : Basis K) (σ : Equiv.Perm (Fin b.size))
    (B : Shell K → Shell K → Shell K → Shell K → Tab8 K) (r1 r2 r3 r4 : Fin (b.permute σ).total) :
    entry4 (b.permute σ) (b.permute σ) (b.permute σ) (b.permute σ)
        (quartetBlocks (b.permute σ) (b.permute σ) (b.permute σ) (b.permute σ)
          fun i j k l => B (b.permute σ)[i]! (b.permute σ)[j]! (b.permute σ)[k]! (b.permute σ)[l]!)
        r1 r2 r3 r4
      = entry4 b b b b (quartetBlocks b b b b fun i j k l => B b[i]! b[j]! b[k]! b[l]!)
          (permuteEquiv b σ r1) (permuteEquiv b σ r2) (permuteEquiv b σ r3) (permuteEquiv b σ r4) :=
  entry4_reorder_shells (b.permute σ) b _ (reordered_permute b σ) B r1 r2 r3 r4 r1.2 r2.2 r3.2 r4.2

/-! ## filling by symmetry

`wBlock2` and `wBlock4` apply the weights of the shells one index pair after the other, so
exchanging two index pairs exchanges two finite summations: that needs commutativity, and the
statements are made over a field with the instance `fieldTransc e sq pi`, as in `Layout14`.

All hypotheses on the raw blocks are asked only for in-range segments and Cartesian components. -/

section
variable [Transc K]

theorem wBlock2_get4 (s t : Shell K) (ws wt : Tab3 K) (X : Tab4 K) (m f n g : Nat) :
    (wBlock2 s t ws wt X).get4 m f n g
      = applyW t wt (fun n b => applyW s ws (fun m a => X.get4 m a n b) m f) n g := by
  simp only [wBlock2, tab4_get, applyW]

end

section Field
variable {F : Type} [Field F] (e sq : F → F) (pi : F)

theorem applyW_congr (s : Shell F) (w : Tab3 F) (G H : ℕ → ℕ → F) (m g : ℕ) (hg : g < s.nfun)
    (h : ∀ a, a < s.ncart → G m a = H m a) :
    letI := fieldTransc e sq pi
    applyW s w G m g = applyW s w H m g := by
  unfold applyW
  cases hs : s.sph
  · have hg' : g < s.ncart := by
      have : s.nfun = s.ncart := by simp [Shell.nfun, Shell.ncart, hs]
      omega
    simp only [Bool.false_eq_true, if_false]
    rw [h g hg']
  · simp only [if_true, sumN_eq_sum]
    exact Finset.sum_congr rfl fun a ha => by rw [h a (Finset.mem_range.mp ha)]

theorem applyW_mul_left (s : Shell F) (w : Tab3 F) (ε : F) (G : ℕ → ℕ → F) (m g : ℕ) :
    letI := fieldTransc e sq pi
    applyW s w (fun m a => ε * G m a) m g = ε * applyW s w G m g := by
  simp only [applyW_eq_finset_sum, Finset.mul_sum]
  exact Finset.sum_congr rfl fun _ _ => mul_left_comm _ _ _

theorem wBlock2_transpose (s t : Shell F) (ws wt : Tab3 F) (X Y : Tab4 F) (ε : F)
    (m f n g : ℕ) (hf : f < s.nfun) (hg : g < t.nfun)
    (hXY : ∀ a c, a < s.ncart → c < t.ncart → Y.get4 n c m a = ε * X.get4 m a n c) :
    letI := fieldTransc e sq pi
    (wBlock2 t s wt ws Y).get4 n g m f = ε * (wBlock2 s t ws wt X).get4 m f n g := by
  let _ := fieldTransc e sq pi
  rw [wBlock2_get4, wBlock2_get4]
  refine (applyW_comm e sq pi t s wt ws (fun n b m a => Y.get4 n b m a) n g m f).trans ?_
  refine (applyW_congr e sq pi t wt _
    (fun n b => ε * applyW s ws (fun m a => X.get4 m a n b) m f) n g hg fun b hb => ?_).trans ?_
  · refine (applyW_congr e sq pi s ws _ (fun m a => ε * X.get4 m a n b) m f hf
      fun a ha => hXY a b ha hb).trans ?_
    exact applyW_mul_left e sq pi s ws ε (fun m a => X.get4 m a n b) m f
  · exact applyW_mul_left e sq pi t wt ε
      (fun n b => applyW s ws (fun m a => X.get4 m a n b) m f) n g

/-- if the raw blocks of the shell pairs `(j, i)` are `ε` times the transposes of those of `(i, j)`, so are the assembled arrays:
what the code's filling of the lower triangle (`ε = 1`, and `ε = -1` for the momentum type) relies on -/
theorem entry2_transpose (b1 b2 : Basis F) (nextra : ℕ) (blk blk' : ℕ → ℕ → Tab (Tab4 F)) (ε : F)
    (x : ℕ)
    (hblk : ∀ i j (hi : i < b1.size) (hj : j < b2.size) m a n c, m < b1[i].nseg →
      a < b1[i].ncart → n < b2[j].nseg → c < b2[j].ncart →
      ((blk' j i).get x).get4 n c m a = ε * ((blk i j).get x).get4 m a n c)
    (r c : ℕ) (hr : r < b1.total) (hc : c < b2.total) :
    letI := fieldTransc e sq pi
    entry2 b2 b1 (pairBlocks b2 b1 nextra blk') c r x
      = ε * entry2 b1 b2 (pairBlocks b1 b2 nextra blk) r c x := by
  let _ := fieldTransc e sq pi
  obtain ⟨i, hi, m, f, hm, hf, -, hlr⟩ := locate_cases b1 r hr
  obtain ⟨j, hj, n, g, hn, hg, -, hlc⟩ := locate_cases b2 c hc
  rw [entry2_of_locate b2 b1 nextra blk' x hlc hlr hj hi,
    entry2_of_locate b1 b2 nextra blk x hlr hlc hi hj]
  exact wBlock2_transpose e sq pi _ _ _ _ _ _ ε _ _ _ _ hf hg
    fun a c ha hc => hblk i j hi hj m a n c hm ha hn hc

theorem entry2_symm (b : Basis F) (nextra : ℕ) (blk : ℕ → ℕ → Tab (Tab4 F)) (x : ℕ)
    (hblk : ∀ i j (hi : i < b.size) (hj : j < b.size) m a n c, m < b[i].nseg →
      a < b[i].ncart → n < b[j].nseg → c < b[j].ncart →
      ((blk j i).get x).get4 n c m a = ((blk i j).get x).get4 m a n c)
    (r c : ℕ) (hr : r < b.total) (hc : c < b.total) :
    letI := fieldTransc e sq pi
    entry2 b b (pairBlocks b b nextra blk) c r x = entry2 b b (pairBlocks b b nextra blk) r c x := by
  have h := entry2_transpose e sq pi b b nextra blk blk 1 x
    (fun i j hi hj m a n c hm ha hn hc => by rw [one_mul]; exact hblk i j hi hj m a n c hm ha hn hc)
    r c hr hc
  rw [one_mul] at h
  exact h

theorem entry2_antisymm (b : Basis F) (nextra : ℕ) (blk : ℕ → ℕ → Tab (Tab4 F)) (x : ℕ)
    (hblk : ∀ i j (hi : i < b.size) (hj : j < b.size) m a n c, m < b[i].nseg →
      a < b[i].ncart → n < b[j].nseg → c < b[j].ncart →
      ((blk j i).get x).get4 n c m a = -((blk i j).get x).get4 m a n c)
    (r c : ℕ) (hr : r < b.total) (hc : c < b.total) :
    letI := fieldTransc e sq pi
    entry2 b b (pairBlocks b b nextra blk) c r x
      = -entry2 b b (pairBlocks b b nextra blk) r c x := by
  have h := entry2_transpose e sq pi b b nextra blk blk (-1) x
    (fun i j hi hj m a n c hm ha hn hc => by
      rw [neg_one_mul]; exact hblk i j hi hj m a n c hm ha hn hc)
    r c hr hc
  rw [neg_one_mul] at h
  exact h

theorem assemble2_symm [Inhabited F] (b : Basis F) (nextra : ℕ) (blk : ℕ → ℕ → Tab (Tab4 F))
    (hblk : ∀ x, x < nextra → ∀ i j (hi : i < b.size) (hj : j < b.size) m a n c, m < b[i].nseg →
      a < b[i].ncart → n < b[j].nseg → c < b[j].ncart →
      ((blk j i).get x).get4 n c m a = ((blk i j).get x).get4 m a n c)
    (r c x : ℕ) (hr : r < b.total) (hc : c < b.total) (hx : x < nextra) :
    letI := fieldTransc e sq pi
    (assemble2 b b nextra blk)[(c * b.total + r) * nextra + x]!
      = (assemble2 b b nextra blk)[(r * b.total + c) * nextra + x]! := by
  let _ := fieldTransc e sq pi
  rw [assemble2_get b b nextra blk c r x hc hr hx, assemble2_get b b nextra blk r c x hr hc hx]
  exact entry2_symm e sq pi b nextra blk x (hblk x hx) r c hr hc

/-! ### four indices: the generators of the eight-fold symmetry -/

theorem nest4_swap_pairs (s1 s2 s3 s4 : Shell F) (w1 w2 w3 w4 : Tab3 F)
    (G : ℕ → ℕ → ℕ → ℕ → ℕ → ℕ → ℕ → ℕ → F) (m1 f1 m2 f2 m3 f3 m4 f4 : ℕ) :
    letI := fieldTransc e sq pi
    nest4 s1 s2 s3 s4 w1 w2 w3 w4 G m1 f1 m2 f2 m3 f3 m4 f4
      = nest4 s3 s4 s1 s2 w3 w4 w1 w2
          (fun x3 a3 x4 a4 x1 a1 x2 a2 => G x1 a1 x2 a2 x3 a3 x4 a4) m3 f3 m4 f4 m1 f1 m2 f2 := by
  let _ := fieldTransc e sq pi
  rw [nest4_swap23 e sq pi s1 s2 s3 s4, nest4_swap12 e sq pi s1 s3 s2 s4,
    nest4_swap34 e sq pi s3 s1 s2 s4, nest4_swap23 e sq pi s3 s1 s4 s2]

theorem nest4_congr (s1 s2 s3 s4 : Shell F) (w1 w2 w3 w4 : Tab3 F)
    (G H : ℕ → ℕ → ℕ → ℕ → ℕ → ℕ → ℕ → ℕ → F) (m1 f1 m2 f2 m3 f3 m4 f4 : ℕ)
    (hf1 : f1 < s1.nfun) (hf2 : f2 < s2.nfun) (hf3 : f3 < s3.nfun) (hf4 : f4 < s4.nfun)
    (h : ∀ a1 a2 a3 a4, a1 < s1.ncart → a2 < s2.ncart → a3 < s3.ncart → a4 < s4.ncart →
      G m1 a1 m2 a2 m3 a3 m4 a4 = H m1 a1 m2 a2 m3 a3 m4 a4) :
    letI := fieldTransc e sq pi
    nest4 s1 s2 s3 s4 w1 w2 w3 w4 G m1 f1 m2 f2 m3 f3 m4 f4
      = nest4 s1 s2 s3 s4 w1 w2 w3 w4 H m1 f1 m2 f2 m3 f3 m4 f4 := by
  let _ := fieldTransc e sq pi
  unfold nest4
  refine applyW_congr e sq pi s4 w4 _ _ m4 f4 hf4 fun a4 h4 => ?_
  refine applyW_congr e sq pi s3 w3 _ _ m3 f3 hf3 fun a3 h3 => ?_
  refine applyW_congr e sq pi s2 w2 _ _ m2 f2 hf2 fun a2 h2 => ?_
  exact applyW_congr e sq pi s1 w1 _ _ m1 f1 hf1 fun a1 h1 => h a1 a2 a3 a4 h1 h2 h3 h4

/-- `(ab|cd) = (ba|cd)` -/
theorem entry4_swap12 (b1 b2 b3 b4 : Basis F) (blk blk' : ℕ → ℕ → ℕ → ℕ → Tab8 F)
    (hblk : ∀ i j k l (hi : i < b1.size) (hj : j < b2.size) (hk : k < b3.size) (hl : l < b4.size)
      m1 a1 m2 a2 m3 a3 m4 a4, m1 < b1[i].nseg → a1 < b1[i].ncart → m2 < b2[j].nseg →
      a2 < b2[j].ncart → m3 < b3[k].nseg → a3 < b3[k].ncart → m4 < b4[l].nseg → a4 < b4[l].ncart →
        (blk' j i k l).get8 m2 a2 m1 a1 m3 a3 m4 a4 = (blk i j k l).get8 m1 a1 m2 a2 m3 a3 m4 a4)
    (r1 r2 r3 r4 : ℕ)
    (h1 : r1 < b1.total) (h2 : r2 < b2.total) (h3 : r3 < b3.total) (h4 : r4 < b4.total) :
    letI := fieldTransc e sq pi
    entry4 b2 b1 b3 b4 (quartetBlocks b2 b1 b3 b4 blk') r2 r1 r3 r4
      = entry4 b1 b2 b3 b4 (quartetBlocks b1 b2 b3 b4 blk) r1 r2 r3 r4 := by
  let _ := fieldTransc e sq pi
  obtain ⟨i, hi, m1, f1, hm1, hf1, -, hl1⟩ := locate_cases b1 r1 h1
  obtain ⟨j, hj, m2, f2, hm2, hf2, -, hl2⟩ := locate_cases b2 r2 h2
  obtain ⟨k, hk, m3, f3, hm3, hf3, -, hl3⟩ := locate_cases b3 r3 h3
  obtain ⟨l, hl, m4, f4, hm4, hf4, -, hl4⟩ := locate_cases b4 r4 h4
  rw [entry4_of_locate b2 b1 b3 b4 blk' hl2 hl1 hl3 hl4 hj hi hk hl,
    entry4_of_locate b1 b2 b3 b4 blk hl1 hl2 hl3 hl4 hi hj hk hl,
    wBlock4_get8_nest, wBlock4_get8_nest, nest4_swap12 e sq pi b1[i] b2[j] b3[k] b4[l]]
  exact nest4_congr e sq pi _ _ _ _ _ _ _ _ _ _ _ _ _ _ _ _ _ _ hf2 hf1 hf3 hf4
    fun a2 a1 a3 a4 g2 g1 g3 g4 =>
      hblk i j k l hi hj hk hl m1 a1 m2 a2 m3 a3 m4 a4 hm1 g1 hm2 g2 hm3 g3 hm4 g4

/-- `(ab|cd) = (ab|dc)` -/
theorem entry4_swap34 (b1 b2 b3 b4 : Basis F) (blk blk' : ℕ → ℕ → ℕ → ℕ → Tab8 F)
    (hblk : ∀ i j k l (hi : i < b1.size) (hj : j < b2.size) (hk : k < b3.size) (hl : l < b4.size)
      m1 a1 m2 a2 m3 a3 m4 a4, m1 < b1[i].nseg → a1 < b1[i].ncart → m2 < b2[j].nseg →
      a2 < b2[j].ncart → m3 < b3[k].nseg → a3 < b3[k].ncart → m4 < b4[l].nseg → a4 < b4[l].ncart →
        (blk' i j l k).get8 m1 a1 m2 a2 m4 a4 m3 a3 = (blk i j k l).get8 m1 a1 m2 a2 m3 a3 m4 a4)
    (r1 r2 r3 r4 : ℕ)
    (h1 : r1 < b1.total) (h2 : r2 < b2.total) (h3 : r3 < b3.total) (h4 : r4 < b4.total) :
    letI := fieldTransc e sq pi
    entry4 b1 b2 b4 b3 (quartetBlocks b1 b2 b4 b3 blk') r1 r2 r4 r3
      = entry4 b1 b2 b3 b4 (quartetBlocks b1 b2 b3 b4 blk) r1 r2 r3 r4 := by
  let _ := fieldTransc e sq pi
  obtain ⟨i, hi, m1, f1, hm1, hf1, -, hl1⟩ := locate_cases b1 r1 h1
  obtain ⟨j, hj, m2, f2, hm2, hf2, -, hl2⟩ := locate_cases b2 r2 h2
  obtain ⟨k, hk, m3, f3, hm3, hf3, -, hl3⟩ := locate_cases b3 r3 h3
  obtain ⟨l, hl, m4, f4, hm4, hf4, -, hl4⟩ := locate_cases b4 r4 h4
  rw [entry4_of_locate b1 b2 b4 b3 blk' hl1 hl2 hl4 hl3 hi hj hl hk,
    entry4_of_locate b1 b2 b3 b4 blk hl1 hl2 hl3 hl4 hi hj hk hl,
    wBlock4_get8_nest, wBlock4_get8_nest, nest4_swap34 e sq pi b1[i] b2[j] b3[k] b4[l]]
  exact nest4_congr e sq pi _ _ _ _ _ _ _ _ _ _ _ _ _ _ _ _ _ _ hf1 hf2 hf4 hf3
    fun a1 a2 a4 a3 g1 g2 g4 g3 =>
      hblk i j k l hi hj hk hl m1 a1 m2 a2 m3 a3 m4 a4 hm1 g1 hm2 g2 hm3 g3 hm4 g4

/-- `(ab|cd) = (cd|ab)` -/
theorem entry4_swap_pairs (b1 b2 b3 b4 : Basis F) (blk blk' : ℕ → ℕ → ℕ → ℕ → Tab8 F)
    (hblk : ∀ i j k l (hi : i < b1.size) (hj : j < b2.size) (hk : k < b3.size) (hl : l < b4.size)
      m1 a1 m2 a2 m3 a3 m4 a4, m1 < b1[i].nseg → a1 < b1[i].ncart → m2 < b2[j].nseg →
      a2 < b2[j].ncart → m3 < b3[k].nseg → a3 < b3[k].ncart → m4 < b4[l].nseg → a4 < b4[l].ncart →
        (blk' k l i j).get8 m3 a3 m4 a4 m1 a1 m2 a2 = (blk i j k l).get8 m1 a1 m2 a2 m3 a3 m4 a4)
    (r1 r2 r3 r4 : ℕ)
    (h1 : r1 < b1.total) (h2 : r2 < b2.total) (h3 : r3 < b3.total) (h4 : r4 < b4.total) :
    letI := fieldTransc e sq pi
    entry4 b3 b4 b1 b2 (quartetBlocks b3 b4 b1 b2 blk') r3 r4 r1 r2
      = entry4 b1 b2 b3 b4 (quartetBlocks b1 b2 b3 b4 blk) r1 r2 r3 r4 := by
  let _ := fieldTransc e sq pi
  obtain ⟨i, hi, m1, f1, hm1, hf1, -, hl1⟩ := locate_cases b1 r1 h1
  obtain ⟨j, hj, m2, f2, hm2, hf2, -, hl2⟩ := locate_cases b2 r2 h2
  obtain ⟨k, hk, m3, f3, hm3, hf3, -, hl3⟩ := locate_cases b3 r3 h3
  obtain ⟨l, hl, m4, f4, hm4, hf4, -, hl4⟩ := locate_cases b4 r4 h4
  rw [entry4_of_locate b3 b4 b1 b2 blk' hl3 hl4 hl1 hl2 hk hl hi hj,
    entry4_of_locate b1 b2 b3 b4 blk hl1 hl2 hl3 hl4 hi hj hk hl,
    wBlock4_get8_nest, wBlock4_get8_nest, nest4_swap_pairs e sq pi b1[i] b2[j] b3[k] b4[l]]
  exact nest4_congr e sq pi _ _ _ _ _ _ _ _ _ _ _ _ _ _ _ _ _ _ hf3 hf4 hf1 hf2
    fun a3 a4 a1 a2 g3 g4 g1 g2 =>
      hblk i j k l hi hj hk hl m1 a1 m2 a2 m3 a3 m4 a4 hm1 g1 hm2 g2 hm3 g3 hm4 g4

structure BlockSymm4 (b : Basis F) (blk : ℕ → ℕ → ℕ → ℕ → Tab8 F) : Prop where
  swap12 : ∀ i j k l (hi : i < b.size) (hj : j < b.size) (hk : k < b.size) (hl : l < b.size)
      m1 a1 m2 a2 m3 a3 m4 a4, m1 < b[i].nseg → a1 < b[i].ncart → m2 < b[j].nseg →
      a2 < b[j].ncart → m3 < b[k].nseg → a3 < b[k].ncart → m4 < b[l].nseg → a4 < b[l].ncart →
        (blk j i k l).get8 m2 a2 m1 a1 m3 a3 m4 a4 = (blk i j k l).get8 m1 a1 m2 a2 m3 a3 m4 a4
  swap34 : ∀ i j k l (hi : i < b.size) (hj : j < b.size) (hk : k < b.size) (hl : l < b.size)
      m1 a1 m2 a2 m3 a3 m4 a4, m1 < b[i].nseg → a1 < b[i].ncart → m2 < b[j].nseg →
      a2 < b[j].ncart → m3 < b[k].nseg → a3 < b[k].ncart → m4 < b[l].nseg → a4 < b[l].ncart →
        (blk i j l k).get8 m1 a1 m2 a2 m4 a4 m3 a3 = (blk i j k l).get8 m1 a1 m2 a2 m3 a3 m4 a4
  swapPairs : ∀ i j k l (hi : i < b.size) (hj : j < b.size) (hk : k < b.size) (hl : l < b.size)
      m1 a1 m2 a2 m3 a3 m4 a4, m1 < b[i].nseg → a1 < b[i].ncart → m2 < b[j].nseg →
      a2 < b[j].ncart → m3 < b[k].nseg → a3 < b[k].ncart → m4 < b[l].nseg → a4 < b[l].ncart →
        (blk k l i j).get8 m3 a3 m4 a4 m1 a1 m2 a2 = (blk i j k l).get8 m1 a1 m2 a2 m3 a3 m4 a4

/-- the three generators give all eight index arrangements `(12|34), (21|34), (12|43), (21|43), (34|12), (43|12), (34|21),
(43|21)` -/
theorem entry4_eightfold (b : Basis F) (blk : ℕ → ℕ → ℕ → ℕ → Tab8 F) (hS : BlockSymm4 b blk)
    (r1 r2 r3 r4 : ℕ)
    (h1 : r1 < b.total) (h2 : r2 < b.total) (h3 : r3 < b.total) (h4 : r4 < b.total) :
    letI := fieldTransc e sq pi
    let A := entry4 b b b b (quartetBlocks b b b b blk)
    A r2 r1 r3 r4 = A r1 r2 r3 r4 ∧ A r1 r2 r4 r3 = A r1 r2 r3 r4 ∧ A r2 r1 r4 r3 = A r1 r2 r3 r4 ∧
    A r3 r4 r1 r2 = A r1 r2 r3 r4 ∧ A r4 r3 r1 r2 = A r1 r2 r3 r4 ∧ A r3 r4 r2 r1 = A r1 r2 r3 r4 ∧
    A r4 r3 r2 r1 = A r1 r2 r3 r4 := by
  let _ := fieldTransc e sq pi
  intro A
  have s12 : ∀ x1 x2 x3 x4, x1 < b.total → x2 < b.total → x3 < b.total → x4 < b.total →
      A x2 x1 x3 x4 = A x1 x2 x3 x4 := fun x1 x2 x3 x4 g1 g2 g3 g4 =>
    entry4_swap12 e sq pi b b b b blk blk hS.swap12 x1 x2 x3 x4 g1 g2 g3 g4
  have s34 : ∀ x1 x2 x3 x4, x1 < b.total → x2 < b.total → x3 < b.total → x4 < b.total →
      A x1 x2 x4 x3 = A x1 x2 x3 x4 := fun x1 x2 x3 x4 g1 g2 g3 g4 =>
    entry4_swap34 e sq pi b b b b blk blk hS.swap34 x1 x2 x3 x4 g1 g2 g3 g4
  have sp : ∀ x1 x2 x3 x4, x1 < b.total → x2 < b.total → x3 < b.total → x4 < b.total →
      A x3 x4 x1 x2 = A x1 x2 x3 x4 := fun x1 x2 x3 x4 g1 g2 g3 g4 =>
    entry4_swap_pairs e sq pi b b b b blk blk hS.swapPairs x1 x2 x3 x4 g1 g2 g3 g4
  refine ⟨s12 _ _ _ _ h1 h2 h3 h4, s34 _ _ _ _ h1 h2 h3 h4, ?_, sp _ _ _ _ h1 h2 h3 h4, ?_, ?_, ?_⟩
  · rw [s12 _ _ _ _ h1 h2 h4 h3, s34 _ _ _ _ h1 h2 h3 h4]
  · rw [s12 _ _ _ _ h3 h4 h1 h2, sp _ _ _ _ h1 h2 h3 h4]
  · rw [s34 _ _ _ _ h3 h4 h1 h2, sp _ _ _ _ h1 h2 h3 h4]
  · rw [s12 _ _ _ _ h3 h4 h2 h1, s34 _ _ _ _ h3 h4 h1 h2, sp _ _ _ _ h1 h2 h3 h4]

theorem assemble4_symm [Inhabited F] (b : Basis F) (blk : ℕ → ℕ → ℕ → ℕ → Tab8 F)
    (hS : BlockSymm4 b blk) (r1 r2 r3 r4 : ℕ)
    (h1 : r1 < b.total) (h2 : r2 < b.total) (h3 : r3 < b.total) (h4 : r4 < b.total) :
    letI := fieldTransc e sq pi
    (assemble4 b blk)[((r2 * b.total + r1) * b.total + r3) * b.total + r4]!
        = (assemble4 b blk)[((r1 * b.total + r2) * b.total + r3) * b.total + r4]! ∧
    (assemble4 b blk)[((r1 * b.total + r2) * b.total + r4) * b.total + r3]!
        = (assemble4 b blk)[((r1 * b.total + r2) * b.total + r3) * b.total + r4]! ∧
    (assemble4 b blk)[((r3 * b.total + r4) * b.total + r1) * b.total + r2]!
        = (assemble4 b blk)[((r1 * b.total + r2) * b.total + r3) * b.total + r4]! := by
  let _ := fieldTransc e sq pi
  obtain ⟨g1, g2, -, g3, -⟩ := entry4_eightfold e sq pi b blk hS r1 r2 r3 r4 h1 h2 h3 h4
  rw [assemble4_get b blk r2 r1 r3 r4 h2 h1 h3 h4, assemble4_get b blk r1 r2 r4 r3 h1 h2 h4 h3,
    assemble4_get b blk r3 r4 r1 r2 h3 h4 h1 h2, assemble4_get b blk r1 r2 r3 r4 h1 h2 h3 h4]
  exact ⟨g1, g2, g3⟩

end Field

/-! ## the model's own blocks over ℝ

The hypotheses of the symmetry theorems hold for the blocks the driver hands to the assembly
(`overlapBlock b[i]! b[j]!`, `eriBlock boys b[i]! b[j]! b[k]! b[l]!`) on every basis with positive
exponents whose Cartesian components have total degree at most `l`. -/

section Real

structure Basis.WellFormed (b : Basis ℝ) : Prop where
  exp_pos : ∀ i (hi : i < b.size) k, k < b[i].nprim → 0 < b[i].exp! k
  comp_le : ∀ i (hi : i < b.size) a, a < b[i].ncart →
    (b[i].comp! a).1 + (b[i].comp! a).2.1 + (b[i].comp! a).2.2 ≤ b[i].l

/-- the `blk` argument of the driver for `"overlap"` -/
noncomputable def overlapBlk' (b : Basis ℝ) (i j : ℕ) : Tab (Tab4 ℝ) :=
  tab 1 fun _ => overlapBlock b[i]! b[j]!

/-- the `blk` argument of the driver for the electron-repulsion array -/
noncomputable def eriBlk (boysT : ℝ → ℕ → Tab ℝ) (b : Basis ℝ) (i j k l : ℕ) : Tab8 ℝ :=
  eriBlock boysT b[i]! b[j]! b[k]! b[l]!

theorem overlap_array_symm_reorder (b : Basis ℝ) (hb : b.WellFormed) (r c x : ℕ)
    (hr : r < b.total) (hc : c < b.total) :
    entry2 b b (pairBlocks b b 1 (overlapBlk' b)) c r x
      = entry2 b b (pairBlocks b b 1 (overlapBlk' b)) r c x := by
  refine entry2_symm Real.exp Real.sqrt Real.pi b 1 (overlapBlk' b) x
    (fun i j hi hj m a n c _ _ _ _ => ?_) r c hr hc
  simp only [overlapBlk', tab_get, getElem!_pos b i hi, getElem!_pos b j hj]
  exact (overlapBlock_symm b[i] b[j] m a n c (fun k hk => hb.exp_pos i hi k hk)
    (fun k hk => hb.exp_pos j hj k hk)).symm

theorem eriBlk_eq (boysT : ℝ → ℕ → Tab ℝ) (b : Basis ℝ) {i j k l : ℕ} (hi : i < b.size)
    (hj : j < b.size) (hk : k < b.size) (hl : l < b.size) :
    eriBlk boysT b i j k l = eriBlock boysT b[i] b[j] b[k] b[l] := by
  rw [eriBlk, getElem!_pos b i hi, getElem!_pos b j hj, getElem!_pos b k hk, getElem!_pos b l hl]

theorem eriBlk_symm (boysT : ℝ → ℕ → Tab ℝ)
    (hboys : ∀ T n m, m < n → (boysT T n).get m = boys T m) (b : Basis ℝ) (hb : b.WellFormed) :
    BlockSymm4 b (eriBlk boysT b) := by
  refine ⟨?_, ?_, ?_⟩ <;>
    intro i j k l hi hj hk hl m1 a1 m2 a2 m3 a3 m4 a4 _ g1 _ g2 _ g3 _ g4
  · rw [eriBlk_eq boysT b hj hi hk hl, eriBlk_eq boysT b hi hj hk hl]
    exact (eriBlock_swap_ab boysT hboys b[i] b[j] b[k] b[l] m1 a1 m2 a2 m3 a3 m4 a4
      (hb.exp_pos i hi) (hb.exp_pos j hj) (hb.exp_pos k hk) (hb.exp_pos l hl)
      (hb.comp_le i hi a1 g1) (hb.comp_le j hj a2 g2) (hb.comp_le k hk a3 g3)
      (hb.comp_le l hl a4 g4)).symm
  · rw [eriBlk_eq boysT b hi hj hl hk, eriBlk_eq boysT b hi hj hk hl]
    exact (eriBlock_swap_cd boysT hboys b[i] b[j] b[k] b[l] m1 a1 m2 a2 m3 a3 m4 a4
      (hb.exp_pos i hi) (hb.exp_pos j hj) (hb.exp_pos k hk) (hb.exp_pos l hl)
      (hb.comp_le i hi a1 g1) (hb.comp_le j hj a2 g2) (hb.comp_le k hk a3 g3)
      (hb.comp_le l hl a4 g4)).symm
  · rw [eriBlk_eq boysT b hk hl hi hj, eriBlk_eq boysT b hi hj hk hl]
    exact (eriBlock_swap_electrons boysT hboys b[i] b[j] b[k] b[l] m1 a1 m2 a2 m3 a3 m4 a4
      (hb.exp_pos i hi) (hb.exp_pos j hj) (hb.exp_pos k hk) (hb.exp_pos l hl)
      (hb.comp_le i hi a1 g1) (hb.comp_le j hj a2 g2) (hb.comp_le k hk a3 g3)
      (hb.comp_le l hl a4 g4)).symm

theorem eri_array_eightfold (boysT : ℝ → ℕ → Tab ℝ)
    (hboys : ∀ T n m, m < n → (boysT T n).get m = boys T m) (b : Basis ℝ) (hb : b.WellFormed)
    (r1 r2 r3 r4 : ℕ)
    (h1 : r1 < b.total) (h2 : r2 < b.total) (h3 : r3 < b.total) (h4 : r4 < b.total) :
    let A := entry4 b b b b (quartetBlocks b b b b (eriBlk boysT b))
    A r2 r1 r3 r4 = A r1 r2 r3 r4 ∧ A r1 r2 r4 r3 = A r1 r2 r3 r4 ∧ A r2 r1 r4 r3 = A r1 r2 r3 r4 ∧
    A r3 r4 r1 r2 = A r1 r2 r3 r4 ∧ A r4 r3 r1 r2 = A r1 r2 r3 r4 ∧ A r3 r4 r2 r1 = A r1 r2 r3 r4 ∧
    A r4 r3 r2 r1 = A r1 r2 r3 r4 :=
  entry4_eightfold Real.exp Real.sqrt Real.pi b (eriBlk boysT b) (eriBlk_symm boysT hboys b hb)
    r1 r2 r3 r4 h1 h2 h3 h4

end Real

end GB
