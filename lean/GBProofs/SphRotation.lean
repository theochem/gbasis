import GBProofs.SphRotation.Laplace
import GBProofs.SphRotation.Dim
import GBProofs.SphRotation.Span
import GBProofs.SphRotation.Model
import GBProofs.SphRotation.Metric
import GBProofs.SphRotation.Rep
/-!
# Pure (spherical) shells are closed under rotation (C12)

The rotated solid harmonics of degree `l` are linear combinations of the solid harmonics of
degree `l`, so arrays over pure shells transform with orthogonal `(2l+1)×(2l+1)` matrices `W`.

The Laplacian commutes with orthogonal substitutions (`Laplace.lean`), so `p ↦ p ∘ M` maps the space
`Harm l` of harmonic homogeneous polynomials of degree `l` into itself.  That space has dimension at most
`2l+1`, a harmonic polynomial being determined by its coefficients with `z`-exponent `0` or `1`
(`Dim.lean`).  For `l ≤ 10` the model's `2l+1` spherical functions lie in it and, having orthonormal
rows in the overlap metric, are linearly independent, hence span it (`Span.lean`).  `Model.lean` and
`Rep.lean` carry this to the shells of the model, with the explicit matrix
`sphRep R l ls = T · D(R) · S · Tᵀ`; it is orthogonal because `D S Dᵀ = S` (`Metric.lean`).
-/
