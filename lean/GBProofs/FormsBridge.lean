import GBProofs.DensityMotion
import GBProofs.ArrayContraction14

/-!
# The forms of the model on the model's computed derivative arrays; derivative tensors of any order

`g : E3 ≃ᵃⁱ[ℝ] E3` a rigid motion, `R = g.linearIsometryEquiv`, `M = matOf (linPart g)`,
`U = basisRep b (linPart g)`, `γ = Uᵀ γ' U` (`CongrBy`), as in `DensityMotion`.

The chain rule of any order for an affine isometry (`iteratedFDeriv_comp_affineIso`) makes
`iterD v` an operator compatible with the motion, so the derivative tensors of every order of the
basis functions, of the density and of the bilinear tensors behind the symbols `D(p; q)` are covariant;
their components along the axes are the mixed partial derivatives `dpowFun`
(`iteratedFDeriv_ei_eq_dpowFun` of `SmoothInstance`), which gives `evaluate_deriv_density` and
`evaluate_deriv_basis` of any order.

The bridge to the computed arrays: `modelD1 b p pts r k` is entry `(r, k)` of the one-index array the
model computes for `∂^p` and equals the genuine mixed partial derivative of `basisFnE b r` at the grid
point (`modelD1_eq_dpowFun`); `modelForm` is the model's own `Form.eval` on the numbers
`D(p;q)(x_k) = Σ γ_rc d^p_r d^q_c` formed from these arrays, and `formVal_eq_modelForm` identifies it
with the smooth form for every form and every `γ`.  The `model*_moved` theorems are C12 for the
computed values.
-/
open Finset
open scoped ContDiff

namespace GB

noncomputable section

/-! ## 1. The chain rule of any order for a rigid motion -/

theorem iteratedFDeriv_comp_affineIso (g : E3 ≃ᵃⁱ[ℝ] E3) {f : E3 → ℝ} (hf : ContDiff ℝ ∞ f) (n : ℕ)
    (x : E3) (v : Fin n → E3) :
    iteratedFDeriv ℝ n (fun y => f (g y)) x v
      = iteratedFDeriv ℝ n f (g x) (fun i => g.linearIsometryEquiv (v i)) := by
  have e : (fun y => f (g y))
      = (fun z => f (z + g 0)) ∘ ((g.linearIsometryEquiv : E3 ≃ₗᵢ[ℝ] E3) : E3 →L[ℝ] E3) := by
    funext y
    simp only [Function.comp_apply]
    rw [affineIso_apply g y]
    rfl
  have hf' : ContDiff ℝ ∞ (fun z => f (z + g 0)) := hf.comp (contDiff_id.add contDiff_const)
  rw [e, ContinuousLinearMap.iteratedFDeriv_comp_right _ hf' x (i := n) (WithTop.coe_le_coe.2 le_top),
    iteratedFDeriv_comp_add_right, ContinuousMultilinearMap.compContinuousLinearMap_apply,
    affineIso_apply g x]
  rfl

theorem contDiff_nat {f : E3 → ℝ} (hf : ContDiff ℝ ∞ f) (n : ℕ) : ContDiff ℝ (n : WithTop ℕ∞) f :=
  hf.of_le (WithTop.coe_le_coe.2 le_top)

theorem iteratedFDeriv_lincomb (S : Finset ℕ) (φ : ℕ → E3 → ℝ) (D : ℕ → ℝ)
    (hφ : ∀ j, ContDiff ℝ ∞ (φ j)) (n : ℕ) (x : E3) (v : Fin n → E3) :
    iteratedFDeriv ℝ n (fun y => ∑ j ∈ S, D j * φ j y) x v
      = ∑ j ∈ S, D j * iteratedFDeriv ℝ n (φ j) x v := by
  rw [iteratedFDeriv_sum (fun j _ => contDiff_const.mul (contDiff_nat (hφ j) n))]
  rw [Finset.sum_apply, _root_.sum_apply]
  refine sum_congr rfl fun j _ => ?_
  have e : (fun y => D j * φ j y) = D j • φ j := rfl
  rw [e, iteratedFDeriv_const_smul_apply (contDiff_nat (hφ j) n).contDiffAt]
  rfl

theorem iteratedFDeriv_moved_of_rel (g : E3 ≃ᵃⁱ[ℝ] E3) (S : Finset ℕ) (ψ : E3 → ℝ)
    (φ : ℕ → E3 → ℝ) (D : ℕ → ℝ) (hψ : ContDiff ℝ ∞ ψ) (hφ : ∀ j, ContDiff ℝ ∞ (φ j))
    (h : ∀ x, ψ (g x) = ∑ j ∈ S, D j * φ j x) (n : ℕ) (x : E3) (v : Fin n → E3) :
    iteratedFDeriv ℝ n ψ (g x) (fun i => g.linearIsometryEquiv (v i))
      = ∑ j ∈ S, D j * iteratedFDeriv ℝ n (φ j) x v := by
  rw [← iteratedFDeriv_comp_affineIso g hψ, funext h, iteratedFDeriv_lincomb S φ D hφ]

def iterD {n : ℕ} (v : Fin n → E3) (f : E3 → ℝ) : E3 → ℝ := fun x => iteratedFDeriv ℝ n f x v

theorem contDiff_iterD {f : E3 → ℝ} (hf : ContDiff ℝ ∞ f) {n : ℕ} (v : Fin n → E3) :
    ContDiff ℝ ∞ (iterD v f) := by
  have h1 : ContDiff ℝ ∞ (iteratedFDeriv ℝ n f) :=
    hf.iteratedFDeriv_right (m := ∞) le_rfl
  exact (ContinuousMultilinearMap.apply ℝ (fun _ : Fin n => E3) ℝ v).contDiff.comp h1

theorem Compat.iterD (g : E3 ≃ᵃⁱ[ℝ] E3) {n : ℕ} (v : Fin n → E3) :
    Compat g (iterD fun i => g.linearIsometryEquiv (v i)) (iterD v) :=
  ⟨fun _ hf => contDiff_iterD hf _, fun _ hf => contDiff_iterD hf _,
    fun S ψ φ D hψ hφ h x => iteratedFDeriv_moved_of_rel g S ψ φ D hψ hφ h n x v⟩

/-! ## 2. The derivative tensors of every order of the basis functions and of the density -/

/-- C12: the derivative tensors of any order of the basis functions transform with the representation
matrix `U = basisRep b (linPart g)` -/
theorem basisFnE_iteratedFDeriv_moved (g : E3 ≃ᵃⁱ[ℝ] E3) (b : Basis ℝ) (hb : b.Movable) (r : ℕ)
    (hr : r < b.total) (n : ℕ) (x : E3) (v : Fin n → E3) :
    iteratedFDeriv ℝ n (basisFnE (b.moved g) r) (g x) (fun i => g.linearIsometryEquiv (v i))
      = ∑ r' ∈ range b.total, basisRep b (linPart g) r r' * iteratedFDeriv ℝ n (basisFnE b r') x v :=
  iteratedFDeriv_moved_of_rel g (range b.total) _ (fun r' => basisFnE b r') _
    (contDiff_basisFnE _ _) (fun _ => contDiff_basisFnE _ _) (basisFnE_moved g b hb r hr) n x v

/-- C12: the rank-`n` tensor of `n`-th derivatives of the density is covariant, with `γ = Uᵀ γ' U` -/
theorem rho_iteratedFDeriv_moved (g : E3 ≃ᵃⁱ[ℝ] E3) (b : Basis ℝ) (hb : b.Movable) (γ γ' : ℕ → ℕ → ℝ)
    (hγ : CongrBy b.total (basisRep b (linPart g)) γ γ') (n : ℕ) (x : E3) (v : Fin n → E3) :
    iteratedFDeriv ℝ n (rhoE (b.moved g) γ') (g x) (fun i => g.linearIsometryEquiv (v i))
      = iteratedFDeriv ℝ n (rhoE b γ) x v :=
  (Compat.iterD g v).apply_single (contDiff_rhoE _ _) (contDiff_rhoE _ _)
    (rho_moved g b hb γ γ' hγ) x

/-- the same as an identity of continuous multilinear maps -/
theorem rho_iteratedFDeriv_moved' (g : E3 ≃ᵃⁱ[ℝ] E3) (b : Basis ℝ) (hb : b.Movable)
    (γ γ' : ℕ → ℕ → ℝ) (hγ : CongrBy b.total (basisRep b (linPart g)) γ γ') (n : ℕ) (x : E3) :
    (iteratedFDeriv ℝ n (rhoE (b.moved g) γ') (g x)).compContinuousLinearMap
        (fun _ => ((g.linearIsometryEquiv : E3 ≃ₗᵢ[ℝ] E3) : E3 →L[ℝ] E3))
      = iteratedFDeriv ℝ n (rhoE b γ) x :=
  ContinuousMultilinearMap.ext fun v => rho_iteratedFDeriv_moved g b hb γ γ' hγ n x v

/-- the bilinear tensor of derivatives of orders `p` and `q` of the basis functions; every symbol `D(p; q)`
of the model is a component of it -/
def Tpq (b : Basis ℝ) (γ : ℕ → ℕ → ℝ) {p q : ℕ} (x : E3) (u : Fin p → E3) (v : Fin q → E3) : ℝ :=
  biFn b γ (iterD u) (iterD v) x

/-- C12: the bilinear derivative tensors of all orders are covariant of rank `p + q` -/
theorem Tpq_moved (g : E3 ≃ᵃⁱ[ℝ] E3) (b : Basis ℝ) (hb : b.Movable) (γ γ' : ℕ → ℕ → ℝ)
    (hγ : CongrBy b.total (basisRep b (linPart g)) γ γ') {p q : ℕ} (x : E3) (u : Fin p → E3)
    (v : Fin q → E3) :
    Tpq (b.moved g) γ' (g x) (fun i => g.linearIsometryEquiv (u i))
        (fun i => g.linearIsometryEquiv (v i))
      = Tpq b γ x u v :=
  biFn_moved g b hb γ γ' hγ (Compat.iterD g u) (Compat.iterD g v) x

/-! ## 3. The bridge: the forms on the model's computed one-index derivative arrays -/

theorem dpowFun_basisFnE (b : Basis ℝ) (r : ℕ) (p : Comp) (x : E3) :
    dpowFun p (basisFnE b r) x = ∑ a ∈ range (shellOf b r).ncart,
      cw b r a * dpowFun p (shellFnE (shellOf b r) (segOf b r) a) x :=
  dpowFun_lincomb (range (shellOf b r).ncart) (cw b r) (fun a => shellFnE (shellOf b r) (segOf b r) a)
    (fun _ => contDiff_shellFnE _ _ _) p x

/-- entry `(r, k)` of the one-index array of `∂^p` of the basis functions at the points `pts` that the
model computes (general back-end; `evalBlk` is the block function with which the driver calls
`assemble1` for `"evalderiv"`, i.e. `evaluate_deriv_basis`) -/
def modelD1 (b : Basis ℝ) (p : Comp) (pts : Array (ℕ → ℝ)) (r k : ℕ) : ℝ :=
  entry1 b (oneBlocks b pts.size (evalBlk b Backend.general p pts)) r k

theorem modelD1_eq_flat (b : Basis ℝ) (p : Comp) (pts : Array (ℕ → ℝ)) (r k : ℕ) (hr : r < b.total)
    (hk : k < pts.size) :
    modelD1 b p pts r k
      = (assemble1 b pts.size (evalBlk b Backend.general p pts))[r * pts.size + k]! :=
  (assemble1_get b pts.size _ r k hr hk).symm

/-- by `entry1_eq_sum` and `evalBlock_general_eq_dpow`; the latter needs positive exponents -/
theorem modelD1_eq_dpowFun (b : Basis ℝ) (hb : b.ExpsPos) (p : Comp) (pts : Array (ℕ → ℝ))
    (r k : ℕ) (hr : r < b.total) (hk : k < pts.size) :
    modelD1 b p pts r k = dpowFun p (basisFnE b r) (toE3 pts[k]) := by
  unfold modelD1
  rw [entry1_eq_sum b pts.size _ r k hr, dpowFun_basisFnE]
  refine sum_congr rfl fun a _ => ?_
  rw [← shellSmooth_coe, ← dpow_coe, ← evalBlock_general_eq_dpow (shellOf b r) p pts (segOf b r) a k
    (shellOf_exps_pos b hb r hr) hk]
  rfl

/-- the same with Mathlib's iterated Fréchet derivative -/
theorem modelD1_eq_iteratedFDeriv (b : Basis ℝ) (hb : b.ExpsPos) (p : Comp) (pts : Array (ℕ → ℝ))
    (r k : ℕ) (hr : r < b.total) (hk : k < pts.size) :
    modelD1 b p pts r k
      = iteratedFDeriv ℝ (axesList p).length (basisFnE b r) (toE3 pts[k])
          (fun j => ei ((axesList p).get j)) := by
  rw [modelD1_eq_dpowFun b hb p pts r k hr hk, dpowFun_eq_iteratedFDeriv (contDiff_basisFnE b r)]

/-- the number `D(p; q)` at point `k` as the driver of the model forms it from the evaluation arrays -/
def modelD (b : Basis ℝ) (γ : ℕ → ℕ → ℝ) (pts : Array (ℕ → ℝ)) (k : ℕ) (p q : Comp) : ℝ :=
  biE b.total γ (fun r => modelD1 b p pts r k) (fun c => modelD1 b q pts c k)

theorem modelD_eq_biFn (b : Basis ℝ) (hb : b.ExpsPos) (γ : ℕ → ℕ → ℝ) (pts : Array (ℕ → ℝ)) (k : ℕ)
    (hk : k < pts.size) (p q : Comp) :
    modelD b γ pts k p q = biFn b γ (dpowFun p) (dpowFun q) (toE3 pts[k]) := by
  unfold modelD biFn biE
  refine sum_congr rfl fun r hr => sum_congr rfl fun c hc => ?_
  beta_reduce
  rw [modelD1_eq_dpowFun b hb p pts r k (mem_range.mp hr) hk,
    modelD1_eq_dpowFun b hb q pts c k (mem_range.mp hc) hk]

theorem modelD_eq_Dsym (b : Basis ℝ) (hb : b.ExpsPos) (γ : ℕ → ℕ → ℝ) (pts : Array (ℕ → ℝ)) (k : ℕ)
    (hk : k < pts.size) (p q : Comp) :
    (Dsym pd (basisFam b b.total) (finMat b.total γ) p q).1 (toE3 pts[k]) = modelD b γ pts k p q := by
  rw [Dsym_coe, DFun_basisFam b b.total rfl, modelD_eq_biFn b hb γ pts k hk]

theorem Form_eval_real (ofRat : ℚ → ℝ) (D : Comp → Comp → ℝ) (f : Form) :
    Form.eval ofRat D f = (f.map fun t => ofRat t.1 * D t.2.1 t.2.2).sum := by
  unfold Form.eval
  rw [sumL_eq_sum]

/-- the value of a form that the model computes at grid point `k`: the model's own `Form.eval` on the
numbers `modelD …` formed from the evaluation arrays -/
def modelForm (b : Basis ℝ) (γ : ℕ → ℕ → ℝ) (pts : Array (ℕ → ℝ)) (k : ℕ) (f : Form) : ℝ :=
  Form.eval (fun r : ℚ => (r : ℝ)) (modelD b γ pts k) f


/-- for every form `f` and every matrix `γ`, symmetric or not.  Positive exponents (`b.ExpsPos`) are
needed by `evalBlock_general_eq_dpow`: the general back-end takes `√α`. -/
theorem formVal_eq_modelForm (b : Basis ℝ) (hb : b.ExpsPos) (γ : ℕ → ℕ → ℝ) (pts : Array (ℕ → ℝ))
    (k : ℕ) (hk : k < pts.size) (f : Form) :
    formVal b γ f (toE3 pts[k]) = modelForm b γ pts k f := by
  have h1 := evalB_eq_sum b b.total rfl γ f (toE3 pts[k])
  have h2 := Form_eval_real (fun r : ℚ => (r : ℝ)) (modelD b γ pts k) f
  unfold formVal modelForm
  rw [h1, h2]
  refine congrArg List.sum (List.map_congr_left fun t _ => ?_)
  rw [modelD_eq_biFn b hb γ pts k hk]

/-- the same through `eval_eq_evalA`, for the model's `Form.eval` in the algebra `Smooth3` -/
theorem eval_smooth_eq_modelForm (b : Basis ℝ) (hb : b.ExpsPos) (γ : ℕ → ℕ → ℝ)
    (pts : Array (ℕ → ℝ)) (k : ℕ) (hk : k < pts.size) (f : Form) :
    (@Form.eval Smooth3 (ringNum Smooth3) (fun r => algebraMap ℝ Smooth3 (r : ℝ))
        (Dsym pd (basisFam b b.total) (finMat b.total γ)) f).1 (toE3 pts[k])
      = modelForm b γ pts k f := by
  rw [eval_eq_evalA]
  exact formVal_eq_modelForm b hb γ pts k hk f

/-! ## 4. C12 for the values the model computes -/

def movedPts (g : E3 → E3) (pts : Array (ℕ → ℝ)) : Array (ℕ → ℝ) := pts.map (movedPt g)

@[simp] theorem movedPts_size (g : E3 → E3) (pts : Array (ℕ → ℝ)) :
    (movedPts g pts).size = pts.size := by
  simp [movedPts]

theorem toE3_movedPts (g : E3 → E3) (pts : Array (ℕ → ℝ)) (k : ℕ) (hk : k < pts.size)
    (hk' : k < (movedPts g pts).size) : toE3 (movedPts g pts)[k] = g (toE3 pts[k]) := by
  simp [movedPts]

theorem modelForm_moved_eq (g : E3 ≃ᵃⁱ[ℝ] E3) (b : Basis ℝ) (hb : b.Movable) (γ' : ℕ → ℕ → ℝ)
    (pts : Array (ℕ → ℝ)) (k : ℕ) (hk : k < pts.size) (f : Form) :
    modelForm (b.moved g) γ' (movedPts g pts) k f = formVal (b.moved g) γ' f (g (toE3 pts[k])) := by
  have hk' : k < (movedPts g pts).size := by rw [movedPts_size]; exact hk
  rw [← formVal_eq_modelForm (b.moved g) (hb.moved g).expsPos γ' (movedPts g pts) k hk' f,
    toE3_movedPts g pts k hk hk']

section ModelMoved

variable (g : E3 ≃ᵃⁱ[ℝ] E3) (b : Basis ℝ) (hb : b.Movable) (γ γ' : ℕ → ℕ → ℝ)
  (hγ : CongrBy b.total (basisRep b (linPart g)) γ γ') (pts : Array (ℕ → ℝ)) (k : ℕ)
  (hk : k < pts.size)

include hb hγ hk

/-- C12, computed `evaluate_density`; arbitrary `γ'`, `γ = Uᵀ γ' U` -/
theorem modelDensity_moved :
    modelForm (b.moved g) γ' (movedPts g pts) k densityForm = modelForm b γ pts k densityForm := by
  rw [modelForm_moved_eq g b hb γ' pts k hk, ← formVal_eq_modelForm b hb.expsPos γ pts k hk]
  exact densityForm_moved g b hb γ γ' hγ _

/-- C12, computed `evaluate_posdef_kinetic_energy_density`; arbitrary `γ'` -/
theorem modelPosdef_moved :
    modelForm (b.moved g) γ' (movedPts g pts) k posdefForm = modelForm b γ pts k posdefForm := by
  rw [modelForm_moved_eq g b hb γ' pts k hk, ← formVal_eq_modelForm b hb.expsPos γ pts k hk]
  exact posdefForm_moved g b hb γ γ' hγ _

variable (hs' : ∀ r < b.total, ∀ c < b.total, γ' r c = γ' c r)

include hs'

/-- C12, computed `evaluate_density_gradient` (symmetric `γ'`, as for the smooth forms) -/
theorem modelGradient_moved (i : Fin 3) :
    modelForm (b.moved g) γ' (movedPts g pts) k (gradientForm i)
      = ∑ j : Fin 3, matOf (linPart g) i j * modelForm b γ pts k (gradientForm j) := by
  rw [modelForm_moved_eq g b hb γ' pts k hk]
  simp only [← formVal_eq_modelForm b hb.expsPos γ pts k hk]
  exact gradientForm_moved g b hb γ γ' hγ hs' i _

/-- C12, computed `evaluate_density_hessian` -/
theorem modelHessian_moved (i j : Fin 3) :
    modelForm (b.moved g) γ' (movedPts g pts) k (hessianForm i j)
      = ∑ m : Fin 3, ∑ l : Fin 3, matOf (linPart g) i m * matOf (linPart g) j l
          * modelForm b γ pts k (hessianForm m l) := by
  rw [modelForm_moved_eq g b hb γ' pts k hk]
  simp only [← formVal_eq_modelForm b hb.expsPos γ pts k hk]
  exact hessianForm_moved g b hb γ γ' hγ hs' i j _

/-- C12, computed `evaluate_density_laplacian` -/
theorem modelLaplacian_moved :
    modelForm (b.moved g) γ' (movedPts g pts) k laplacianForm
      = modelForm b γ pts k laplacianForm := by
  rw [modelForm_moved_eq g b hb γ' pts k hk, ← formVal_eq_modelForm b hb.expsPos γ pts k hk]
  exact laplacianForm_moved g b hb γ γ' hγ hs' _

/-- C12, computed `evaluate_general_kinetic_energy_density` -/
theorem modelGeneralKE_moved (α : ℚ) :
    modelForm (b.moved g) γ' (movedPts g pts) k (generalKEForm α)
      = modelForm b γ pts k (generalKEForm α) := by
  rw [modelForm_moved_eq g b hb γ' pts k hk, ← formVal_eq_modelForm b hb.expsPos γ pts k hk]
  exact generalKEForm_moved g b hb γ γ' hγ hs' α _

/-- C12, computed `evaluate_stress_tensor` -/
theorem modelStress_moved (α β : ℚ) (i j : Fin 3) :
    modelForm (b.moved g) γ' (movedPts g pts) k (stressForm α β i j)
      = ∑ m : Fin 3, ∑ l : Fin 3, matOf (linPart g) i m * matOf (linPart g) j l
          * modelForm b γ pts k (stressForm α β m l) := by
  rw [modelForm_moved_eq g b hb γ' pts k hk]
  simp only [← formVal_eq_modelForm b hb.expsPos γ pts k hk]
  exact stressForm_moved g b hb γ γ' hγ hs' α β i j _

/-- C12, computed `evaluate_ehrenfest_force` -/
theorem modelForce_moved (α β : ℚ) (i : Fin 3) :
    modelForm (b.moved g) γ' (movedPts g pts) k (forceForm α β i)
      = ∑ j : Fin 3, matOf (linPart g) i j * modelForm b γ pts k (forceForm α β j) := by
  rw [modelForm_moved_eq g b hb γ' pts k hk]
  simp only [← formVal_eq_modelForm b hb.expsPos γ pts k hk]
  exact forceForm_moved g b hb γ γ' hγ hs' α β i _

/-- C12, computed `evaluate_ehrenfest_hessian` (`symmetric` = `False` / `True`) -/
theorem modelEhrenfestHessian_moved (α β : ℚ) (sym : Bool) (i j : Fin 3) :
    modelForm (b.moved g) γ' (movedPts g pts) k (ehrenfestHessianForm α β sym i j)
      = ∑ m : Fin 3, ∑ l : Fin 3, matOf (linPart g) i m * matOf (linPart g) j l
          * modelForm b γ pts k (ehrenfestHessianForm α β sym m l) := by
  rw [modelForm_moved_eq g b hb γ' pts k hk]
  simp only [← formVal_eq_modelForm b hb.expsPos γ pts k hk]
  exact ehrenfestHessianForm_moved g b hb γ γ' hγ hs' α β sym i j _

end ModelMoved

/-- C12 for translations: every computed form, every `γ`, same matrix -/
theorem modelForm_translate (v : E3) (b : Basis ℝ) (hb : b.Movable) (γ : ℕ → ℕ → ℝ)
    (pts : Array (ℕ → ℝ)) (k : ℕ) (hk : k < pts.size) (f : Form) :
    modelForm (b.moved (translation v)) γ (movedPts (translation v) pts) k f
      = modelForm b γ pts k f := by
  rw [modelForm_moved_eq (translation v) b hb γ pts k hk,
    ← formVal_eq_modelForm b hb.expsPos γ pts k hk]
  exact formVal_moved_of_linear_eq_id (translation v) (translation_linear v) b hb γ f _

/-! ## 5. Components of the derivative tensors: mixed partial derivatives of any order -/

theorem cmm_expand {n : ℕ} (T : ContinuousMultilinearMap ℝ (fun _ : Fin n => E3) ℝ)
    (w : Fin n → E3) :
    T w = ∑ l : Fin n → Fin 3, (∏ i, (w i) (l i)) * T (fun i => ei (l i)) := by
  have e : w = fun i => ∑ k : Fin 3, (w i) k • ei k := funext fun i => e3_eq_sum_single (w i)
  conv_lhs => rw [e]
  rw [ContinuousMultilinearMap.map_sum]
  refine sum_congr rfl fun l _ => ?_
  rw [ContinuousMultilinearMap.map_smul_univ, smul_eq_mul]

theorem cmm_comp_of_moved (g : E3 ≃ᵃⁱ[ℝ] E3) {n : ℕ}
    (T' : ContinuousMultilinearMap ℝ (fun _ : Fin n => E3) ℝ) (S : Finset ℕ) (D : ℕ → ℝ)
    (T : ℕ → ContinuousMultilinearMap ℝ (fun _ : Fin n => E3) ℝ)
    (h : ∀ v : Fin n → E3, T' (fun i => g.linearIsometryEquiv (v i)) = ∑ j ∈ S, D j * T j v)
    (κ : Fin n → Fin 3) :
    T' (fun i => ei (κ i))
      = ∑ j ∈ S, D j * ∑ l : Fin n → Fin 3,
          (∏ i, matOf (linPart g) (κ i) (l i)) * T j (fun i => ei (l i)) := by
  have h1 := h fun i => g.linearIsometryEquiv.symm (ei (κ i))
  simp only [LinearIsometryEquiv.apply_symm_apply] at h1
  rw [h1]
  refine sum_congr rfl fun j _ => ?_
  rw [cmm_expand (T j)]
  simp only [symm_ei_apply]

/-- C12: every mixed partial derivative of the basis functions, in terms of those of the same total order
of the original basis -/
theorem dpowFun_basisFnE_moved (g : E3 ≃ᵃⁱ[ℝ] E3) (b : Basis ℝ) (hb : b.Movable) (r : ℕ)
    (hr : r < b.total) (L : Comp) (x : E3) :
    dpowFun L (basisFnE (b.moved g) r) (g x)
      = ∑ r' ∈ range b.total, basisRep b (linPart g) r r'
          * ∑ l : Fin (axesList L).length → Fin 3,
              (∏ i, matOf (linPart g) ((axesList L).get i) (l i))
                * dpowFun (cntComp l) (basisFnE b r') x := by
  rw [dpowFun_eq_iteratedFDeriv (contDiff_basisFnE _ _),
    cmm_comp_of_moved g _ (range b.total) (basisRep b (linPart g) r)
      (fun r' => iteratedFDeriv ℝ (axesList L).length (basisFnE b r') x)
      (basisFnE_iteratedFDeriv_moved g b hb r hr _ x)]
  simp only [iteratedFDeriv_ei_eq_dpowFun (contDiff_basisFnE _ _)]

/-- C12: every mixed partial derivative of the density -/
theorem dpowFun_rho_moved (g : E3 ≃ᵃⁱ[ℝ] E3) (b : Basis ℝ) (hb : b.Movable) (γ γ' : ℕ → ℕ → ℝ)
    (hγ : CongrBy b.total (basisRep b (linPart g)) γ γ') (L : Comp) (x : E3) :
    dpowFun L (rhoE (b.moved g) γ') (g x)
      = ∑ l : Fin (axesList L).length → Fin 3,
          (∏ i, matOf (linPart g) ((axesList L).get i) (l i))
            * dpowFun (cntComp l) (rhoE b γ) x := by
  have h := cmm_comp_of_moved g (iteratedFDeriv ℝ (axesList L).length (rhoE (b.moved g) γ') (g x))
    {0} (fun _ => 1) (fun _ => iteratedFDeriv ℝ (axesList L).length (rhoE b γ) x)
    (fun v => by simpa using rho_iteratedFDeriv_moved g b hb γ γ' hγ _ x v)
    (fun i => (axesList L).get i)
  rw [dpowFun_eq_iteratedFDeriv (contDiff_rhoE _ _), h]
  simp only [sum_singleton, one_mul, iteratedFDeriv_ei_eq_dpowFun (contDiff_rhoE _ _)]

theorem evalB_derivDensity (b : Basis ℝ) (n : ℕ) (hn : n = b.total) (γ : ℕ → ℕ → ℝ)
    (hs : ∀ r < n, ∀ c < n, γ r c = γ c r) (L : Comp) (x : E3) :
    evalB b n γ (derivDensityForm L) x = dpowFun L (rhoE b γ) x := by
  unfold evalB
  rw [derivDensity_pointwise (SymmG_finMat n γ hs) L x, ← rhoFun_basisFam b n hn]
  rfl

/-- C12, `evaluate_deriv_density` of any order `L` -/
theorem derivDensityForm_moved (g : E3 ≃ᵃⁱ[ℝ] E3) (b : Basis ℝ) (hb : b.Movable) (γ γ' : ℕ → ℕ → ℝ)
    (hγ : CongrBy b.total (basisRep b (linPart g)) γ γ')
    (hs' : ∀ r < b.total, ∀ c < b.total, γ' r c = γ' c r) (L : Comp) (x : E3) :
    formVal (b.moved g) γ' (derivDensityForm L) (g x)
      = ∑ l : Fin (axesList L).length → Fin 3,
          (∏ i, matOf (linPart g) ((axesList L).get i) (l i))
            * formVal b γ (derivDensityForm (cntComp l)) x := by
  have hs := hγ.symm_of_symm hs'
  rw [formVal_moved_eq, evalB_derivDensity _ _ (Basis.moved_total b g).symm _ hs',
    dpowFun_rho_moved g b hb γ γ' hγ]
  simp only [formVal, evalB_derivDensity b _ rfl γ hs]

/-! ## 6. C12 for the computed derivative arrays of any order -/

/-- C12, computed `evaluate_deriv_basis` of any order `L` (general back-end), in terms of the evaluation
arrays of the same total order for the original basis -/
theorem modelD1_moved (g : E3 ≃ᵃⁱ[ℝ] E3) (b : Basis ℝ) (hb : b.Movable) (L : Comp)
    (pts : Array (ℕ → ℝ)) (r k : ℕ) (hr : r < b.total) (hk : k < pts.size) :
    modelD1 (b.moved g) L (movedPts g pts) r k
      = ∑ r' ∈ range b.total, basisRep b (linPart g) r r'
          * ∑ l : Fin (axesList L).length → Fin 3,
              (∏ i, matOf (linPart g) ((axesList L).get i) (l i))
                * modelD1 b (cntComp l) pts r' k := by
  have hk' : k < (movedPts g pts).size := by rw [movedPts_size]; exact hk
  rw [modelD1_eq_dpowFun (b.moved g) (hb.moved g).expsPos L _ r k
      (by rw [Basis.moved_total]; exact hr) hk',
    toE3_movedPts g pts k hk hk', dpowFun_basisFnE_moved g b hb r hr]
  refine sum_congr rfl fun r' hr' => ?_
  refine congrArg (fun z => basisRep b (linPart g) r r' * z) (sum_congr rfl fun l _ => ?_)
  rw [modelD1_eq_dpowFun b hb.expsPos (cntComp l) pts r' k (mem_range.mp hr') hk]

/-- C12, computed `evaluate_deriv_density` of any order `L` (symmetric `γ'`) -/
theorem modelDerivDensity_moved (g : E3 ≃ᵃⁱ[ℝ] E3) (b : Basis ℝ) (hb : b.Movable)
    (γ γ' : ℕ → ℕ → ℝ) (hγ : CongrBy b.total (basisRep b (linPart g)) γ γ')
    (hs' : ∀ r < b.total, ∀ c < b.total, γ' r c = γ' c r) (pts : Array (ℕ → ℝ)) (k : ℕ)
    (hk : k < pts.size) (L : Comp) :
    modelForm (b.moved g) γ' (movedPts g pts) k (derivDensityForm L)
      = ∑ l : Fin (axesList L).length → Fin 3,
          (∏ i, matOf (linPart g) ((axesList L).get i) (l i))
            * modelForm b γ pts k (derivDensityForm (cntComp l)) := by
  rw [modelForm_moved_eq g b hb γ' pts k hk]
  simp only [← formVal_eq_modelForm b hb.expsPos γ pts k hk]
  exact derivDensityForm_moved g b hb γ γ' hγ hs' L _

end

end GB
