import GBProofs.ArrayMotion
import GBProofs.ArrayContraction
import GBProofs.MomentMotion
import GBProofs.AngMomMotion
import GBProofs.Layout14
import GBProofs.Reorder

/-!
# Rigid-motion covariance of the assembled arrays, part 2 (C12, array level)

Continuation of `ArrayMotion.lean`.  `g : E3 ≃ᵃⁱ[ℝ] E3` is an arbitrary rigid motion, `b` a movable
basis (`Basis.Movable`), `U = basisRep b (linPart g)` the block-diagonal representation matrix of the
basis.

1. When the linear part of `g` is the identity, `U` is the unit matrix (the `Nodup` of the component
   lists comes from `FullCart`, the spherical case from `T S Tᵀ = 1`), so the arrays of a translated
   basis (charges moved along) are entry-wise those of the original basis.
2. Four-index arrays: the generic lemma `entry4_moved_of_blocks_g` (one basis per index), by
   `intertwine_stage` over a four-fold product index set; its instance is the electron-repulsion array.
3. Two-index arrays with a tensor index: the assembled array is linear in the raw blocks
   (`entry2_comb`), which gives the generic lemma `entry2_moved_of_blocks_tensor`; instances: momentum
   (a vector), multipole moments (a Cartesian tensor, `monoRep`, origin moved along), angular momentum
   (cofactor matrix `= det R · R`, plus `(g 0) × P`).
4. `U G Uᵀ = G` for the block-diagonal metric `G` of the basis: plain orthogonality inside spherical
   shells, the overlap metric `Sov` of the normalised monomials inside Cartesian shells.
-/
open Finset

namespace GB

/-! ## 1. Trivial linear part: `basisRep` is the unit matrix -/
section Identity

theorem repMat_of_id (R : E3 →ₗ[ℝ] E3) (hR : ∀ u, R u = u) (cart : List Comp) (hnd : cart.Nodup)
    {c c' : ℕ} (hc : c < cart.length) (hc' : c' < cart.length) :
    repMat R cart c c' = if c = c' then 1 else 0 := by
  rw [repMat_eq_monoRep, monoRep_id_nodup R hR cart hnd hc hc']
  by_cases h : c = c'
  · subst h
    rw [if_pos rfl, one_mul, div_self (normAng_pos _).ne']
  · rw [if_neg h, zero_mul, zero_div]

theorem sphDm_of_id (R : E3 →ₗ[ℝ] E3) (hR : ∀ u, R u = u) (l : ℕ) : sphDm R l = 1 := by
  ext a a'
  rw [sphDm, Matrix.of_apply, repMat_of_id R hR _ (fullCart_defaultCart l).1 a.2 a'.2,
    Matrix.one_apply]
  simp [Fin.ext_iff]

/-- `T · 1 · S · Tᵀ = 1`: the orthonormality of the rows of the Cartesian → spherical matrix
(`sphTm_sphSm_sphTm`) -/
theorem sphRep_of_id (R : E3 →ₗ[ℝ] E3) (hR : ∀ u, R u = u) (l : ℕ) (hl : l ≤ 10)
    {ls : List SphLabel} (hv : ValidSph l ls) {f f' : ℕ} (hf : f < ls.length)
    (hf' : f' < ls.length) :
    sphRep R l ls f f' = if f = f' then 1 else 0 := by
  rw [sphRep, dif_pos ⟨hf, hf'⟩, sphRepM, sphDm_of_id R hR, Matrix.mul_one,
    sphTm_sphSm_sphTm l hl hv, Matrix.one_apply]
  simp [Fin.ext_iff]

theorem shellRep_of_id (R : E3 →ₗ[ℝ] E3) (hR : ∀ u, R u = u) (s : Shell ℝ) (hs : s.Movable)
    {f f' : ℕ} (hf : f < s.nfun) (hf' : f' < s.nfun) :
    shellRep R s f f' = if f = f' then 1 else 0 := by
  unfold shellRep
  cases hsph : s.sph with
  | true =>
    obtain ⟨hl, hv⟩ := hs.sph_ok hsph
    have hn : s.nfun = s.sphOrd.length := by simp [Shell.nfun, hsph]
    rw [hn] at hf hf'
    simp only [if_true]
    exact sphRep_of_id R hR s.l hl hv hf hf'
  | false =>
    have hn : s.nfun = s.cart.length := by simp [Shell.nfun, hsph]
    rw [hn] at hf hf'
    simp only [Bool.false_eq_true, if_false]
    exact repMat_of_id R hR s.cart hs.full_cart.1 hf hf'

theorem basisRep_of_id (b : Basis ℝ) (hb : b.Movable) (R : E3 →ₗ[ℝ] E3) (hR : ∀ u, R u = u)
    (r r' : ℕ) (hr : r < b.total) (hr' : r' < b.total) :
    basisRep b R r r' = if r = r' then 1 else 0 :=
  blockDiag_one b (shellRep R) r r' hr hr' fun _ hf _ hf' =>
    shellRep_of_id R hR _ (shellOf_movable b hb r hr) hf hf'

lemma linPart_apply (g : E3 ≃ᵃⁱ[ℝ] E3) (u : E3) : linPart g u = g.linearIsometryEquiv u := rfl

theorem basisRep_of_linear_eq_id (g : E3 ≃ᵃⁱ[ℝ] E3) (hg : ∀ u, g.linearIsometryEquiv u = u)
    (b : Basis ℝ) (hb : b.Movable) (r r' : ℕ) (hr : r < b.total) (hr' : r' < b.total) :
    basisRep b (linPart g) r r' = if r = r' then 1 else 0 :=
  basisRep_of_id b hb (linPart g) (fun u => by rw [linPart_apply, hg]) r r' hr hr'

theorem basisRep_translation (v : E3) (b : Basis ℝ) (hb : b.Movable) (r r' : ℕ)
    (hr : r < b.total) (hr' : r' < b.total) :
    basisRep b (linPart (translation v)) r r' = if r = r' then 1 else 0 :=
  basisRep_of_id b hb _ (linPart_translation v) r r' hr hr'

theorem sum_basisRep_of_id (b : Basis ℝ) (hb : b.Movable) (R : E3 →ₗ[ℝ] E3) (hR : ∀ u, R u = u)
    (r : ℕ) (hr : r < b.total) (X : ℕ → ℝ) :
    ∑ r' ∈ range b.total, basisRep b R r r' * X r' = X r := by
  rw [Finset.sum_eq_single_of_mem r (Finset.mem_range.mpr hr) fun r' hr' hne => by
    rw [basisRep_of_id b hb R hR r r' hr (Finset.mem_range.mp hr'), if_neg hne.symm, zero_mul],
    basisRep_of_id b hb R hR r r hr hr, if_pos rfl, one_mul]

theorem sum_basisRep_of_id2 (b1 b2 : Basis ℝ) (hb1 : b1.Movable) (hb2 : b2.Movable)
    (R : E3 →ₗ[ℝ] E3) (hR : ∀ u, R u = u) (X : ℕ → ℕ → ℝ) (r c : ℕ) (hr : r < b1.total)
    (hc : c < b2.total) :
    ∑ r' ∈ range b1.total, ∑ c' ∈ range b2.total, basisRep b1 R r r' * basisRep b2 R c c' * X r' c'
      = X r c := by
  rw [sum2_nest]
  simp only [sum_basisRep_of_id b2 hb2 R hR c hc, sum_basisRep_of_id b1 hb1 R hR r hr]

/-- C12, translations -/
theorem overlap_array_translate (v : E3) (b : Basis ℝ) (hb : b.Movable) (r c : ℕ)
    (hr : r < b.total) (hc : c < b.total) :
    entry2 (b.moved (translation v)) (b.moved (translation v))
        (pairBlocks (b.moved (translation v)) (b.moved (translation v)) 1
          (overlapBlk (b.moved (translation v)))) r c 0
      = entry2 b b (pairBlocks b b 1 (overlapBlk b)) r c 0 :=
  (overlap_array_moved (translation v) b hb r c hr hc).trans
    (sum_basisRep_of_id2 b b hb hb _ (linPart_translation v) _ r c hr hc)

/-- C12, translations -/
theorem kinetic_array_translate (v : E3) (b : Basis ℝ) (hb : b.Movable) (r c : ℕ)
    (hr : r < b.total) (hc : c < b.total) :
    entry2 (b.moved (translation v)) (b.moved (translation v))
        (pairBlocks (b.moved (translation v)) (b.moved (translation v)) 1
          (kineticBlk (b.moved (translation v)))) r c 0
      = entry2 b b (pairBlocks b b 1 (kineticBlk b)) r c 0 :=
  (kinetic_array_moved (translation v) b hb r c hr hc).trans
    (sum_basisRep_of_id2 b b hb hb _ (linPart_translation v) _ r c hr hc)

/-- C12, translations; the charges are translated along with the basis (`movedPt (translation v) (pts e)`
is `v + pts e`: `movedPt_translation`) -/
theorem pointCharge_array_translate (boysT : ℝ → ℕ → Tab ℝ)
    (hboys : ∀ T n m, m < n → (boysT T n).get m = boys T m) (v : E3) (b : Basis ℝ)
    (hb : b.Movable) (np : ℕ) (pts : ℕ → ℕ → ℝ) (qs : ℕ → ℝ) (e r c : ℕ)
    (hr : r < b.total) (hc : c < b.total) :
    entry2 (b.moved (translation v)) (b.moved (translation v))
        (pairBlocks (b.moved (translation v)) (b.moved (translation v)) np
          (pointChargeBlk boysT (b.moved (translation v)) np
            (fun e => movedPt (translation v) (pts e)) qs)) r c e
      = entry2 b b (pairBlocks b b np (pointChargeBlk boysT b np pts qs)) r c e :=
  (pointCharge_array_moved boysT hboys (translation v) b hb np pts qs e r c hr hc).trans
    (sum_basisRep_of_id2 b b hb hb _ (linPart_translation v) _ r c hr hc)

end Identity

/-! ## 2. Four-index arrays: the electron-repulsion array of a moved basis -/
section FourIndex

lemma mul_eq_of_right (a : ℝ) {x y : ℝ} (h : x = y) : a * x = a * y := by rw [h]

theorem sum_rev4 {α β γ δ : Type*} (A : Finset α) (B : Finset β) (C : Finset γ) (D : Finset δ)
    (f : α → β → γ → δ → ℝ) :
    ∑ a ∈ A, ∑ b ∈ B, ∑ c ∈ C, ∑ d ∈ D, f a b c d
      = ∑ d ∈ D, ∑ c ∈ C, ∑ b ∈ B, ∑ a ∈ A, f a b c d := by
  calc ∑ a ∈ A, ∑ b ∈ B, ∑ c ∈ C, ∑ d ∈ D, f a b c d
      = ∑ a ∈ A, ∑ b ∈ B, ∑ d ∈ D, ∑ c ∈ C, f a b c d :=
        Finset.sum_congr rfl fun a _ => Finset.sum_congr rfl fun b _ => Finset.sum_comm
    _ = ∑ a ∈ A, ∑ d ∈ D, ∑ b ∈ B, ∑ c ∈ C, f a b c d :=
        Finset.sum_congr rfl fun a _ => Finset.sum_comm
    _ = ∑ d ∈ D, ∑ a ∈ A, ∑ b ∈ B, ∑ c ∈ C, f a b c d := Finset.sum_comm
    _ = ∑ d ∈ D, ∑ a ∈ A, ∑ c ∈ C, ∑ b ∈ B, f a b c d :=
        Finset.sum_congr rfl fun d _ => Finset.sum_congr rfl fun a _ => Finset.sum_comm
    _ = ∑ d ∈ D, ∑ c ∈ C, ∑ a ∈ A, ∑ b ∈ B, f a b c d :=
        Finset.sum_congr rfl fun d _ => Finset.sum_comm
    _ = ∑ d ∈ D, ∑ c ∈ C, ∑ b ∈ B, ∑ a ∈ A, f a b c d :=
        Finset.sum_congr rfl fun d _ => Finset.sum_congr rfl fun c _ => Finset.sum_comm

theorem sum4_nest {α β γ δ : Type*} (A : Finset α) (B : Finset β) (C : Finset γ) (D : Finset δ)
    (p : α → ℝ) (q : β → ℝ) (r : γ → ℝ) (s : δ → ℝ) (X : α → β → γ → δ → ℝ) :
    ∑ a ∈ A, ∑ b ∈ B, ∑ c ∈ C, ∑ d ∈ D, p a * q b * r c * s d * X a b c d
      = ∑ a ∈ A, p a * ∑ b ∈ B, q b * ∑ c ∈ C, r c * ∑ d ∈ D, s d * X a b c d := by
  refine Finset.sum_congr rfl fun a _ => ?_
  rw [Finset.mul_sum]
  refine Finset.sum_congr rfl fun b _ => ?_
  rw [Finset.mul_sum, Finset.mul_sum]
  refine Finset.sum_congr rfl fun c _ => ?_
  rw [Finset.mul_sum, Finset.mul_sum, Finset.mul_sum]
  exact Finset.sum_congr rfl fun d _ => by ring

theorem sum_product4 {α₁ α₂ α₃ α₄ : Type*} (S₁ : Finset α₁) (S₂ : Finset α₂) (S₃ : Finset α₃)
    (S₄ : Finset α₄) (F : ((α₁ × α₂) × α₃) × α₄ → ℝ) :
    ∑ x ∈ ((S₁ ×ˢ S₂) ×ˢ S₃) ×ˢ S₄, F x
      = ∑ a₁ ∈ S₁, ∑ a₂ ∈ S₂, ∑ a₃ ∈ S₃, ∑ a₄ ∈ S₄, F (((a₁, a₂), a₃), a₄) := by
  rw [Finset.sum_product, Finset.sum_product, Finset.sum_product]

theorem intertwine4 (S₁ S₂ S₃ S₄ T₁ T₂ T₃ T₄ : Finset ℕ) (u₁ u₂ u₃ u₄ : ℕ → ℝ)
    (D₁ D₂ D₃ D₄ : ℕ → ℕ → ℝ) (W₁ W₂ W₃ W₄ : ℕ → ℝ) (c₁ c₂ c₃ c₄ : ℕ → ℕ → ℝ)
    (h₁ : ∀ a' ∈ S₁, ∑ a ∈ S₁, u₁ a * D₁ a a' = ∑ f' ∈ T₁, W₁ f' * c₁ f' a')
    (h₂ : ∀ a' ∈ S₂, ∑ a ∈ S₂, u₂ a * D₂ a a' = ∑ f' ∈ T₂, W₂ f' * c₂ f' a')
    (h₃ : ∀ a' ∈ S₃, ∑ a ∈ S₃, u₃ a * D₃ a a' = ∑ f' ∈ T₃, W₃ f' * c₃ f' a')
    (h₄ : ∀ a' ∈ S₄, ∑ a ∈ S₄, u₄ a * D₄ a a' = ∑ f' ∈ T₄, W₄ f' * c₄ f' a')
    (X : ℕ → ℕ → ℕ → ℕ → ℝ) :
    ∑ a₁ ∈ S₁, ∑ a₂ ∈ S₂, ∑ a₃ ∈ S₃, ∑ a₄ ∈ S₄, u₁ a₁ * u₂ a₂ * u₃ a₃ * u₄ a₄
        * ∑ b₁ ∈ S₁, ∑ b₂ ∈ S₂, ∑ b₃ ∈ S₃, ∑ b₄ ∈ S₄,
            D₁ a₁ b₁ * D₂ a₂ b₂ * D₃ a₃ b₃ * D₄ a₄ b₄ * X b₁ b₂ b₃ b₄
      = ∑ f₁ ∈ T₁, ∑ f₂ ∈ T₂, ∑ f₃ ∈ T₃, ∑ f₄ ∈ T₄, W₁ f₁ * W₂ f₂ * W₃ f₃ * W₄ f₄
          * ∑ b₁ ∈ S₁, ∑ b₂ ∈ S₂, ∑ b₃ ∈ S₃, ∑ b₄ ∈ S₄,
              c₁ f₁ b₁ * c₂ f₂ b₂ * c₃ f₃ b₃ * c₄ f₄ b₄ * X b₁ b₂ b₃ b₄ := by
  have H := intertwine_stage (((S₁ ×ˢ S₂) ×ˢ S₃) ×ˢ S₄) (((T₁ ×ˢ T₂) ×ˢ T₃) ×ˢ T₄) _ _ _ _
    (intertwine_prod _ S₄ _ T₄ _ u₄ _ D₄ _ W₄ _ c₄
      (intertwine_prod _ S₃ _ T₃ _ u₃ _ D₃ _ W₃ _ c₃
        (intertwine_prod S₁ S₂ T₁ T₂ u₁ u₂ D₁ D₂ W₁ W₂ c₁ c₂ h₁ h₂) h₃) h₄)
    (fun a => X a.1.1.1 a.1.1.2 a.1.2 a.2)
  -- the sums over the product set are written out one by one (`simp only [Finset.sum_product] at H`
  -- is slow under eight nested sums)
  rw [sum_product4, sum_product4] at H
  refine Eq.trans ?_ (H.trans ?_) <;>
    exact Finset.sum_congr rfl fun _ _ => Finset.sum_congr rfl fun _ _ => Finset.sum_congr rfl
      fun _ _ => Finset.sum_congr rfl fun _ _ => by rw [sum_product4]

theorem wBlock4_get8_eq_sum (sa sb sc sd : Shell ℝ) (raw : Tab8 ℝ) (ma fa mb fb mc fc md fd : ℕ)
    (hfa : fa < sa.nfun) (hfb : fb < sb.nfun) (hfc : fc < sc.nfun) (hfd : fd < sd.nfun) :
    (wBlock4 sa sb sc sd sa.weights sb.weights sc.weights sd.weights raw).get8
        ma fa mb fb mc fc md fd
      = ∑ a₁ ∈ range sa.ncart, ∑ a₂ ∈ range sb.ncart, ∑ a₃ ∈ range sc.ncart,
          ∑ a₄ ∈ range sd.ncart,
            cwS sa ma fa a₁ * cwS sb mb fb a₂ * cwS sc mc fc a₃ * cwS sd md fd a₄
              * raw.get8 ma a₁ mb a₂ mc a₃ md a₄ := by
  rw [wBlock4_get8, applyW_eq_sum sd _ md fd hfd]
  simp only [applyW_eq_sum sc _ mc fc hfc, applyW_eq_sum sb _ mb fb hfb,
    applyW_eq_sum sa _ ma fa hfa]
  refine (sum4_nest _ _ _ _ (cwS sd md fd) (cwS sc mc fc) (cwS sb mb fb) (cwS sa ma fa)
    (fun a₄ a₃ a₂ a₁ => raw.get8 ma a₁ mb a₂ mc a₃ md a₄)).symm.trans ?_
  refine (sum_rev4 (range sa.ncart) (range sb.ncart) (range sc.ncart) (range sd.ncart)
    (fun a₁ a₂ a₃ a₄ => cwS sd md fd a₄ * cwS sc mc fc a₃ * cwS sb mb fb a₂ * cwS sa ma fa a₁
      * raw.get8 ma a₁ mb a₂ mc a₃ md a₄)).symm.trans ?_
  exact Finset.sum_congr rfl fun a₁ _ => Finset.sum_congr rfl fun a₂ _ =>
    Finset.sum_congr rfl fun a₃ _ => Finset.sum_congr rfl fun a₄ _ => by ring

theorem entry4_eq_sum (b : Basis ℝ) (blk : ℕ → ℕ → ℕ → ℕ → Tab8 ℝ) (r₁ r₂ r₃ r₄ : ℕ)
    (h₁ : r₁ < b.total) (h₂ : r₂ < b.total) (h₃ : r₃ < b.total) (h₄ : r₄ < b.total) :
    entry4 b b b b (quartetBlocks b b b b blk) r₁ r₂ r₃ r₄
      = ∑ a₁ ∈ range (shellOf b r₁).ncart, ∑ a₂ ∈ range (shellOf b r₂).ncart,
          ∑ a₃ ∈ range (shellOf b r₃).ncart, ∑ a₄ ∈ range (shellOf b r₄).ncart,
            cw b r₁ a₁ * cw b r₂ a₂ * cw b r₃ a₃ * cw b r₄ a₄
              * (blk (b.locate r₁).1 (b.locate r₂).1 (b.locate r₃).1 (b.locate r₄).1).get8
                  (segOf b r₁) a₁ (segOf b r₂) a₂ (segOf b r₃) a₃ (segOf b r₄) a₄ := by
  obtain ⟨hi, -, hf₁, -⟩ := locate_lt b r₁ h₁
  obtain ⟨hj, -, hf₂, -⟩ := locate_lt b r₂ h₂
  obtain ⟨hk, -, hf₃, -⟩ := locate_lt b r₃ h₃
  obtain ⟨hl, -, hf₄, -⟩ := locate_lt b r₄ h₄
  unfold entry4
  simp only []
  rw [quartetBlocks_get b b b b blk _ _ _ _ hi hj hk hl]
  unfold cw segOf funOf
  rw [shellOf_eq b r₁ hi, shellOf_eq b r₂ hj, shellOf_eq b r₃ hk, shellOf_eq b r₄ hl]
  exact wBlock4_get8_eq_sum _ _ _ _ _ _ _ _ _ _ _ _ _ hf₁ hf₂ hf₃ hf₄

theorem wBlock4_moved_of_block (g : E3 ≃ᵃⁱ[ℝ] E3) (sa sb sc sd : Shell ℝ) (ha : sa.Movable)
    (hb : sb.Movable) (hc : sc.Movable) (hd : sd.Movable) (raw raw' : Tab8 ℝ) (ma mb mc md : ℕ)
    (h : ∀ a₁ < sa.ncart, ∀ a₂ < sb.ncart, ∀ a₃ < sc.ncart, ∀ a₄ < sd.ncart,
      raw'.get8 ma a₁ mb a₂ mc a₃ md a₄
        = ∑ b₁ ∈ range sa.ncart, ∑ b₂ ∈ range sb.ncart, ∑ b₃ ∈ range sc.ncart,
            ∑ b₄ ∈ range sd.ncart,
              repMat (linPart g) sa.cart a₁ b₁ * repMat (linPart g) sb.cart a₂ b₂
                * repMat (linPart g) sc.cart a₃ b₃ * repMat (linPart g) sd.cart a₄ b₄
                * raw.get8 ma b₁ mb b₂ mc b₃ md b₄)
    (fa fb fc fd : ℕ) (hfa : fa < sa.nfun) (hfb : fb < sb.nfun) (hfc : fc < sc.nfun)
    (hfd : fd < sd.nfun) :
    (wBlock4 (sa.moved g) (sb.moved g) (sc.moved g) (sd.moved g) (sa.moved g).weights
        (sb.moved g).weights (sc.moved g).weights (sd.moved g).weights raw').get8
        ma fa mb fb mc fc md fd
      = ∑ f₁ ∈ range sa.nfun, ∑ f₂ ∈ range sb.nfun, ∑ f₃ ∈ range sc.nfun, ∑ f₄ ∈ range sd.nfun,
          shellRep (linPart g) sa fa f₁ * shellRep (linPart g) sb fb f₂
            * shellRep (linPart g) sc fc f₃ * shellRep (linPart g) sd fd f₄
            * (wBlock4 sa sb sc sd sa.weights sb.weights sc.weights sd.weights raw).get8
                ma f₁ mb f₂ mc f₃ md f₄ := by
  rw [wBlock4_get8_eq_sum (sa.moved g) (sb.moved g) (sc.moved g) (sd.moved g) raw' ma fa mb fb mc fc
    md fd hfa hfb hfc hfd]
  simp only [Shell.moved_ncart]
  have e1 : ∀ a₁ ∈ range sa.ncart, ∀ a₂ ∈ range sb.ncart, ∀ a₃ ∈ range sc.ncart,
      ∀ a₄ ∈ range sd.ncart,
        cwS (sa.moved g) ma fa a₁ * cwS (sb.moved g) mb fb a₂ * cwS (sc.moved g) mc fc a₃
            * cwS (sd.moved g) md fd a₄ * raw'.get8 ma a₁ mb a₂ mc a₃ md a₄
          = cwS (sa.moved g) ma fa a₁ * cwS (sb.moved g) mb fb a₂ * cwS (sc.moved g) mc fc a₃
            * cwS (sd.moved g) md fd a₄
            * ∑ b₁ ∈ range sa.ncart, ∑ b₂ ∈ range sb.ncart, ∑ b₃ ∈ range sc.ncart,
                ∑ b₄ ∈ range sd.ncart,
                  repMat (linPart g) sa.cart a₁ b₁ * repMat (linPart g) sb.cart a₂ b₂
                    * repMat (linPart g) sc.cart a₃ b₃ * repMat (linPart g) sd.cart a₄ b₄
                    * (fun b₁ b₂ b₃ b₄ => raw.get8 ma b₁ mb b₂ mc b₃ md b₄) b₁ b₂ b₃ b₄ := by
    intro a₁ h₁ a₂ h₂ a₃ h₃ a₄ h₄
    rw [h a₁ (Finset.mem_range.mp h₁) a₂ (Finset.mem_range.mp h₂) a₃ (Finset.mem_range.mp h₃) a₄
      (Finset.mem_range.mp h₄)]
  rw [Finset.sum_congr rfl fun a₁ h₁ => Finset.sum_congr rfl fun a₂ h₂ =>
    Finset.sum_congr rfl fun a₃ h₃ => Finset.sum_congr rfl fun a₄ h₄ => e1 a₁ h₁ a₂ h₂ a₃ h₃ a₄ h₄]
  rw [intertwine4 (range sa.ncart) (range sb.ncart) (range sc.ncart) (range sd.ncart)
    (range sa.nfun) (range sb.nfun) (range sc.nfun) (range sd.nfun)
    (cwS (sa.moved g) ma fa) (cwS (sb.moved g) mb fb) (cwS (sc.moved g) mc fc)
    (cwS (sd.moved g) md fd)
    (repMat (linPart g) sa.cart) (repMat (linPart g) sb.cart) (repMat (linPart g) sc.cart)
    (repMat (linPart g) sd.cart)
    (shellRep (linPart g) sa fa) (shellRep (linPart g) sb fb) (shellRep (linPart g) sc fc)
    (shellRep (linPart g) sd fd) (cwS sa ma) (cwS sb mb) (cwS sc mc) (cwS sd md)
    (fun a' ha' => cwS_moved_mul_repMat g sa ha ma fa a' hfa (Finset.mem_range.mp ha'))
    (fun a' ha' => cwS_moved_mul_repMat g sb hb mb fb a' hfb (Finset.mem_range.mp ha'))
    (fun a' ha' => cwS_moved_mul_repMat g sc hc mc fc a' hfc (Finset.mem_range.mp ha'))
    (fun a' ha' => cwS_moved_mul_repMat g sd hd md fd a' hfd (Finset.mem_range.mp ha'))
    (fun b₁ b₂ b₃ b₄ => raw.get8 ma b₁ mb b₂ mc b₃ md b₄)]
  refine Finset.sum_congr rfl fun f₁ hf₁ => Finset.sum_congr rfl fun f₂ hf₂ =>
    Finset.sum_congr rfl fun f₃ hf₃ => Finset.sum_congr rfl fun f₄ hf₄ => ?_
  rw [wBlock4_get8_eq_sum sa sb sc sd raw ma f₁ mb f₂ mc f₃ md f₄ (Finset.mem_range.mp hf₁)
    (Finset.mem_range.mp hf₂) (Finset.mem_range.mp hf₃) (Finset.mem_range.mp hf₄)]

theorem entry4_moved_of_blocks_g (g : E3 ≃ᵃⁱ[ℝ] E3) (b1 b2 b3 b4 : Basis ℝ) (hb1 : b1.Movable)
    (hb2 : b2.Movable) (hb3 : b3.Movable) (hb4 : b4.Movable)
    (blk blk' : ℕ → ℕ → ℕ → ℕ → Tab8 ℝ)
    (h : ∀ (i j k l : ℕ) (hi : i < b1.size) (hj : j < b2.size) (hk : k < b3.size)
      (hl : l < b4.size) (m₁ m₂ m₃ m₄ : ℕ),
      ∀ a₁ < b1[i].ncart, ∀ a₂ < b2[j].ncart, ∀ a₃ < b3[k].ncart, ∀ a₄ < b4[l].ncart,
        (blk' i j k l).get8 m₁ a₁ m₂ a₂ m₃ a₃ m₄ a₄
          = ∑ c₁ ∈ range b1[i].ncart, ∑ c₂ ∈ range b2[j].ncart, ∑ c₃ ∈ range b3[k].ncart,
              ∑ c₄ ∈ range b4[l].ncart,
                repMat (linPart g) b1[i].cart a₁ c₁ * repMat (linPart g) b2[j].cart a₂ c₂
                  * repMat (linPart g) b3[k].cart a₃ c₃ * repMat (linPart g) b4[l].cart a₄ c₄
                  * (blk i j k l).get8 m₁ c₁ m₂ c₂ m₃ c₃ m₄ c₄)
    (r₁ r₂ r₃ r₄ : ℕ) (h₁ : r₁ < b1.total) (h₂ : r₂ < b2.total) (h₃ : r₃ < b3.total)
    (h₄ : r₄ < b4.total) :
    entry4 (b1.moved g) (b2.moved g) (b3.moved g) (b4.moved g)
        (quartetBlocks (b1.moved g) (b2.moved g) (b3.moved g) (b4.moved g) blk') r₁ r₂ r₃ r₄
      = ∑ s₁ ∈ range b1.total, ∑ s₂ ∈ range b2.total, ∑ s₃ ∈ range b3.total,
          ∑ s₄ ∈ range b4.total,
            basisRep b1 (linPart g) r₁ s₁ * basisRep b2 (linPart g) r₂ s₂
              * basisRep b3 (linPart g) r₃ s₃ * basisRep b4 (linPart g) r₄ s₄
              * entry4 b1 b2 b3 b4 (quartetBlocks b1 b2 b3 b4 blk) s₁ s₂ s₃ s₄ := by
  obtain ⟨i, hi, m₁, f₁, hm₁, hf₁, -, e₁⟩ := locate_cases b1 r₁ h₁
  obtain ⟨j, hj, m₂, f₂, hm₂, hf₂, -, e₂⟩ := locate_cases b2 r₂ h₂
  obtain ⟨k, hk, m₃, f₃, hm₃, hf₃, -, e₃⟩ := locate_cases b3 r₃ h₃
  obtain ⟨l, hl, m₄, f₄, hm₄, hf₄, -, e₄⟩ := locate_cases b4 r₄ h₄
  rw [sum4_nest, sum_basisRep b1 _ r₁ h₁]
  simp only [sum_basisRep b2 _ r₂ h₂, sum_basisRep b3 _ r₃ h₃, sum_basisRep b4 _ r₄ h₄]
  unfold shellOf segOf funOf
  rw [e₁, e₂, e₃, e₄, getElem!_pos b1 i hi, getElem!_pos b2 j hj, getElem!_pos b3 k hk,
    getElem!_pos b4 l hl,
    entry4_of_locate (b1.moved g) (b2.moved g) (b3.moved g) (b4.moved g) blk'
      ((Basis.moved_locate b1 g r₁).trans e₁) ((Basis.moved_locate b2 g r₂).trans e₂)
      ((Basis.moved_locate b3 g r₃).trans e₃) ((Basis.moved_locate b4 g r₄).trans e₄)
      ((Basis.moved_size b1 g).symm ▸ hi) ((Basis.moved_size b2 g).symm ▸ hj)
      ((Basis.moved_size b3 g).symm ▸ hk) ((Basis.moved_size b4 g).symm ▸ hl),
    Basis.moved_getElem b1 g i hi, Basis.moved_getElem b2 g j hj, Basis.moved_getElem b3 g k hk,
    Basis.moved_getElem b4 g l hl,
    wBlock4_moved_of_block g _ _ _ _ (hb1 i hi) (hb2 j hj) (hb3 k hk) (hb4 l hl) (blk i j k l) _
      m₁ m₂ m₃ m₄ (h i j k l hi hj hk hl m₁ m₂ m₃ m₄) f₁ f₂ f₃ f₄ hf₁ hf₂ hf₃ hf₄, sum4_nest]
  refine Finset.sum_congr rfl fun x₁ hx₁ => mul_eq_of_right _ ?_
  refine Finset.sum_congr rfl fun x₂ hx₂ => mul_eq_of_right _ ?_
  refine Finset.sum_congr rfl fun x₃ hx₃ => mul_eq_of_right _ ?_
  refine Finset.sum_congr rfl fun x₄ hx₄ => mul_eq_of_right _ ?_
  exact (entry4_layout b1 b2 b3 b4 blk i j k l hi hj hk hl m₁ x₁ m₂ x₂ m₃ x₃ m₄ x₄
    hm₁ (Finset.mem_range.mp hx₁) hm₂ (Finset.mem_range.mp hx₂) hm₃ (Finset.mem_range.mp hx₃) hm₄
    (Finset.mem_range.mp hx₄)).symm

theorem entry4_moved_of_blocks (g : E3 ≃ᵃⁱ[ℝ] E3) (b : Basis ℝ) (hb : b.Movable)
    (blk blk' : ℕ → ℕ → ℕ → ℕ → Tab8 ℝ)
    (h : ∀ (i j k l : ℕ) (hi : i < b.size) (hj : j < b.size) (hk : k < b.size) (hl : l < b.size)
      (m₁ m₂ m₃ m₄ : ℕ),
      ∀ a₁ < b[i].ncart, ∀ a₂ < b[j].ncart, ∀ a₃ < b[k].ncart, ∀ a₄ < b[l].ncart,
        (blk' i j k l).get8 m₁ a₁ m₂ a₂ m₃ a₃ m₄ a₄
          = ∑ b₁ ∈ range b[i].ncart, ∑ b₂ ∈ range b[j].ncart, ∑ b₃ ∈ range b[k].ncart,
              ∑ b₄ ∈ range b[l].ncart,
                repMat (linPart g) b[i].cart a₁ b₁ * repMat (linPart g) b[j].cart a₂ b₂
                  * repMat (linPart g) b[k].cart a₃ b₃ * repMat (linPart g) b[l].cart a₄ b₄
                  * (blk i j k l).get8 m₁ b₁ m₂ b₂ m₃ b₃ m₄ b₄)
    (r₁ r₂ r₃ r₄ : ℕ) (h₁ : r₁ < b.total) (h₂ : r₂ < b.total) (h₃ : r₃ < b.total)
    (h₄ : r₄ < b.total) :
    entry4 (b.moved g) (b.moved g) (b.moved g) (b.moved g)
        (quartetBlocks (b.moved g) (b.moved g) (b.moved g) (b.moved g) blk') r₁ r₂ r₃ r₄
      = ∑ s₁ ∈ range b.total, ∑ s₂ ∈ range b.total, ∑ s₃ ∈ range b.total, ∑ s₄ ∈ range b.total,
          basisRep b (linPart g) r₁ s₁ * basisRep b (linPart g) r₂ s₂
            * basisRep b (linPart g) r₃ s₃ * basisRep b (linPart g) r₄ s₄
            * entry4 b b b b (quartetBlocks b b b b blk) s₁ s₂ s₃ s₄ :=
  entry4_moved_of_blocks_g g b b b b hb hb hb hb blk blk' h r₁ r₂ r₃ r₄ h₁ h₂ h₃ h₄

theorem entry4_moved_of_shells (g : E3 ≃ᵃⁱ[ℝ] E3) (b1 b2 b3 b4 : Basis ℝ) (hb1 : b1.Movable)
    (hb2 : b2.Movable) (hb3 : b3.Movable) (hb4 : b4.Movable)
    (B B' : Shell ℝ → Shell ℝ → Shell ℝ → Shell ℝ → Tab8 ℝ)
    (h : ∀ s₁ s₂ s₃ s₄ : Shell ℝ, s₁.Movable → s₂.Movable → s₃.Movable → s₄.Movable →
      ∀ m₁ m₂ m₃ m₄ : ℕ,
      ∀ a₁ < s₁.ncart, ∀ a₂ < s₂.ncart, ∀ a₃ < s₃.ncart, ∀ a₄ < s₄.ncart,
        (B' (s₁.moved g) (s₂.moved g) (s₃.moved g) (s₄.moved g)).get8 m₁ a₁ m₂ a₂ m₃ a₃ m₄ a₄
          = ∑ c₁ ∈ range s₁.ncart, ∑ c₂ ∈ range s₂.ncart, ∑ c₃ ∈ range s₃.ncart,
              ∑ c₄ ∈ range s₄.ncart,
                repMat (linPart g) s₁.cart a₁ c₁ * repMat (linPart g) s₂.cart a₂ c₂
                  * repMat (linPart g) s₃.cart a₃ c₃ * repMat (linPart g) s₄.cart a₄ c₄
                  * (B s₁ s₂ s₃ s₄).get8 m₁ c₁ m₂ c₂ m₃ c₃ m₄ c₄)
    (r₁ r₂ r₃ r₄ : ℕ) (h₁ : r₁ < b1.total) (h₂ : r₂ < b2.total) (h₃ : r₃ < b3.total)
    (h₄ : r₄ < b4.total) :
    entry4 (b1.moved g) (b2.moved g) (b3.moved g) (b4.moved g)
        (quartetBlocks (b1.moved g) (b2.moved g) (b3.moved g) (b4.moved g) fun i j k l =>
          B' (b1.moved g)[i]! (b2.moved g)[j]! (b3.moved g)[k]! (b4.moved g)[l]!) r₁ r₂ r₃ r₄
      = ∑ s₁ ∈ range b1.total, ∑ s₂ ∈ range b2.total, ∑ s₃ ∈ range b3.total,
          ∑ s₄ ∈ range b4.total,
            basisRep b1 (linPart g) r₁ s₁ * basisRep b2 (linPart g) r₂ s₂
              * basisRep b3 (linPart g) r₃ s₃ * basisRep b4 (linPart g) r₄ s₄
              * entry4 b1 b2 b3 b4 (quartetBlocks b1 b2 b3 b4 fun i j k l =>
                  B b1[i]! b2[j]! b3[k]! b4[l]!) s₁ s₂ s₃ s₄ := by
  refine entry4_moved_of_blocks_g g b1 b2 b3 b4 hb1 hb2 hb3 hb4 _ _
    (fun i j k l hi hj hk hl m₁ m₂ m₃ m₄ => ?_) r₁ r₂ r₃ r₄ h₁ h₂ h₃ h₄
  rw [Basis.moved_getElem! b1 g i hi, Basis.moved_getElem! b2 g j hj, Basis.moved_getElem! b3 g k hk,
    Basis.moved_getElem! b4 g l hl, getElem!_pos b1 i hi, getElem!_pos b2 j hj, getElem!_pos b3 k hk,
    getElem!_pos b4 l hl]
  exact h b1[i] b2[j] b3[k] b4[l] (hb1 i hi) (hb2 j hj) (hb3 k hk) (hb4 l hl) m₁ m₂ m₃ m₄

theorem eriBlock_moved_of_movable (boysT : ℝ → ℕ → Tab ℝ)
    (hboys : ∀ T n m, m < n → (boysT T n).get m = boys T m) (g : E3 ≃ᵃⁱ[ℝ] E3)
    (s₁ s₂ s₃ s₄ : Shell ℝ) (hs₁ : s₁.Movable) (hs₂ : s₂.Movable) (hs₃ : s₃.Movable)
    (hs₄ : s₄.Movable) (m₁ m₂ m₃ m₄ : ℕ) :
    ∀ a₁ < s₁.ncart, ∀ a₂ < s₂.ncart, ∀ a₃ < s₃.ncart, ∀ a₄ < s₄.ncart,
      (eriBlock boysT (s₁.moved g) (s₂.moved g) (s₃.moved g) (s₄.moved g)).get8
          m₁ a₁ m₂ a₂ m₃ a₃ m₄ a₄
        = ∑ c₁ ∈ range s₁.ncart, ∑ c₂ ∈ range s₂.ncart, ∑ c₃ ∈ range s₃.ncart,
            ∑ c₄ ∈ range s₄.ncart,
              repMat (linPart g) s₁.cart a₁ c₁ * repMat (linPart g) s₂.cart a₂ c₂
                * repMat (linPart g) s₃.cart a₃ c₃ * repMat (linPart g) s₄.cart a₄ c₄
                * (eriBlock boysT s₁ s₂ s₃ s₄).get8 m₁ c₁ m₂ c₂ m₃ c₃ m₄ c₄ :=
  fun a₁ ha₁ a₂ ha₂ a₃ ha₃ a₄ ha₄ =>
    eriBlock_moved boysT hboys g s₁ s₂ s₃ s₄ m₁ a₁ m₂ a₂ m₃ a₃ m₄ a₄ hs₁.exps_pos hs₂.exps_pos
      hs₃.exps_pos hs₄.exps_pos hs₁.full_cart hs₂.full_cart hs₃.full_cart hs₄.full_cart
      ha₁ ha₂ ha₃ ha₄

/-- C12 for the electron-repulsion array: `g` is any rigid motion (translation, proper or improper
rotation, and their compositions); `hboys` puts the true Boys function in the blocks. -/
theorem eri_array_moved (boysT : ℝ → ℕ → Tab ℝ)
    (hboys : ∀ T n m, m < n → (boysT T n).get m = boys T m) (g : E3 ≃ᵃⁱ[ℝ] E3) (b : Basis ℝ)
    (hb : b.Movable) (r₁ r₂ r₃ r₄ : ℕ) (h₁ : r₁ < b.total) (h₂ : r₂ < b.total)
    (h₃ : r₃ < b.total) (h₄ : r₄ < b.total) :
    entry4 (b.moved g) (b.moved g) (b.moved g) (b.moved g)
        (quartetBlocks (b.moved g) (b.moved g) (b.moved g) (b.moved g)
          (eriBlk boysT (b.moved g))) r₁ r₂ r₃ r₄
      = ∑ s₁ ∈ range b.total, ∑ s₂ ∈ range b.total, ∑ s₃ ∈ range b.total, ∑ s₄ ∈ range b.total,
          basisRep b (linPart g) r₁ s₁ * basisRep b (linPart g) r₂ s₂
            * basisRep b (linPart g) r₃ s₃ * basisRep b (linPart g) r₄ s₄
            * entry4 b b b b (quartetBlocks b b b b (eriBlk boysT b)) s₁ s₂ s₃ s₄ :=
  entry4_moved_of_shells g b b b b hb hb hb hb (eriBlock boysT) (eriBlock boysT)
    (eriBlock_moved_of_movable boysT hboys g) r₁ r₂ r₃ r₄ h₁ h₂ h₃ h₄

lemma flat4_sum_eq (b1 b2 b3 b4 : Basis ℝ) (R : E3 →ₗ[ℝ] E3) (blk : ℕ → ℕ → ℕ → ℕ → Tab8 ℝ)
    (r₁ r₂ r₃ r₄ : ℕ) :
    ∑ s₁ ∈ range b1.total, ∑ s₂ ∈ range b2.total, ∑ s₃ ∈ range b3.total, ∑ s₄ ∈ range b4.total,
        basisRep b1 R r₁ s₁ * basisRep b2 R r₂ s₂ * basisRep b3 R r₃ s₃ * basisRep b4 R r₄ s₄
          * (assemble4g b1 b2 b3 b4 blk)[((s₁ * b2.total + s₂) * b3.total + s₃) * b4.total + s₄]!
      = ∑ s₁ ∈ range b1.total, ∑ s₂ ∈ range b2.total, ∑ s₃ ∈ range b3.total,
          ∑ s₄ ∈ range b4.total,
            basisRep b1 R r₁ s₁ * basisRep b2 R r₂ s₂ * basisRep b3 R r₃ s₃ * basisRep b4 R r₄ s₄
              * entry4 b1 b2 b3 b4 (quartetBlocks b1 b2 b3 b4 blk) s₁ s₂ s₃ s₄ := by
  refine Finset.sum_congr rfl fun s₁ hs₁ => Finset.sum_congr rfl fun s₂ hs₂ =>
    Finset.sum_congr rfl fun s₃ hs₃ => Finset.sum_congr rfl fun s₄ hs₄ => ?_
  rw [assemble4g_get b1 b2 b3 b4 blk s₁ s₂ s₃ s₄ (Finset.mem_range.mp hs₁)
    (Finset.mem_range.mp hs₂) (Finset.mem_range.mp hs₃) (Finset.mem_range.mp hs₄)]

lemma flat4_moved_eq (g : E3 ≃ᵃⁱ[ℝ] E3) (b1 b2 b3 b4 : Basis ℝ)
    (blk' : ℕ → ℕ → ℕ → ℕ → Tab8 ℝ) (r₁ r₂ r₃ r₄ : ℕ) (h₁ : r₁ < b1.total) (h₂ : r₂ < b2.total)
    (h₃ : r₃ < b3.total) (h₄ : r₄ < b4.total) :
    (assemble4g (b1.moved g) (b2.moved g) (b3.moved g) (b4.moved g) blk')[
        ((r₁ * b2.total + r₂) * b3.total + r₃) * b4.total + r₄]!
      = entry4 (b1.moved g) (b2.moved g) (b3.moved g) (b4.moved g)
          (quartetBlocks (b1.moved g) (b2.moved g) (b3.moved g) (b4.moved g) blk') r₁ r₂ r₃ r₄ := by
  have hL := assemble4g_get (b1.moved g) (b2.moved g) (b3.moved g) (b4.moved g) blk' r₁ r₂ r₃ r₄
    (by rw [Basis.moved_total]; exact h₁) (by rw [Basis.moved_total]; exact h₂)
    (by rw [Basis.moved_total]; exact h₃) (by rw [Basis.moved_total]; exact h₄)
  simp only [Basis.moved_total] at hL
  exact hL

/-- `eri_array_moved` for the flat array (row-major `[r₁][r₂][r₃][r₄]`, chemists' notation) -/
theorem eri_flat_moved (boysT : ℝ → ℕ → Tab ℝ)
    (hboys : ∀ T n m, m < n → (boysT T n).get m = boys T m) (g : E3 ≃ᵃⁱ[ℝ] E3) (b : Basis ℝ)
    (hb : b.Movable) (r₁ r₂ r₃ r₄ : ℕ) (h₁ : r₁ < b.total) (h₂ : r₂ < b.total)
    (h₃ : r₃ < b.total) (h₄ : r₄ < b.total) :
    (assemble4 (b.moved g) (eriBlk boysT (b.moved g)))[
        ((r₁ * b.total + r₂) * b.total + r₃) * b.total + r₄]!
      = ∑ s₁ ∈ range b.total, ∑ s₂ ∈ range b.total, ∑ s₃ ∈ range b.total, ∑ s₄ ∈ range b.total,
          basisRep b (linPart g) r₁ s₁ * basisRep b (linPart g) r₂ s₂
            * basisRep b (linPart g) r₃ s₃ * basisRep b (linPart g) r₄ s₄
            * (assemble4 b (eriBlk boysT b))[((s₁ * b.total + s₂) * b.total + s₃) * b.total + s₄]! :=
  (flat4_moved_eq g b b b b _ r₁ r₂ r₃ r₄ h₁ h₂ h₃ h₄).trans
    ((eri_array_moved boysT hboys g b hb r₁ r₂ r₃ r₄ h₁ h₂ h₃ h₄).trans
      (flat4_sum_eq b b b b _ _ r₁ r₂ r₃ r₄).symm)

theorem sum_basisRep_of_id4 (b : Basis ℝ) (hb : b.Movable) (R : E3 →ₗ[ℝ] E3) (hR : ∀ u, R u = u)
    (X : ℕ → ℕ → ℕ → ℕ → ℝ) (r₁ r₂ r₃ r₄ : ℕ) (h₁ : r₁ < b.total) (h₂ : r₂ < b.total)
    (h₃ : r₃ < b.total) (h₄ : r₄ < b.total) :
    ∑ s₁ ∈ range b.total, ∑ s₂ ∈ range b.total, ∑ s₃ ∈ range b.total, ∑ s₄ ∈ range b.total,
        basisRep b R r₁ s₁ * basisRep b R r₂ s₂ * basisRep b R r₃ s₃ * basisRep b R r₄ s₄
          * X s₁ s₂ s₃ s₄
      = X r₁ r₂ r₃ r₄ := by
  rw [sum4_nest]
  simp only [sum_basisRep_of_id b hb R hR r₄ h₄, sum_basisRep_of_id b hb R hR r₃ h₃,
    sum_basisRep_of_id b hb R hR r₂ h₂, sum_basisRep_of_id b hb R hR r₁ h₁]

/-- C12, translations -/
theorem eri_array_translate (boysT : ℝ → ℕ → Tab ℝ)
    (hboys : ∀ T n m, m < n → (boysT T n).get m = boys T m) (v : E3) (b : Basis ℝ)
    (hb : b.Movable) (r₁ r₂ r₃ r₄ : ℕ)
    (h₁ : r₁ < b.total) (h₂ : r₂ < b.total) (h₃ : r₃ < b.total) (h₄ : r₄ < b.total) :
    entry4 (b.moved (translation v)) (b.moved (translation v)) (b.moved (translation v))
        (b.moved (translation v))
        (quartetBlocks (b.moved (translation v)) (b.moved (translation v))
          (b.moved (translation v)) (b.moved (translation v))
          (eriBlk boysT (b.moved (translation v)))) r₁ r₂ r₃ r₄
      = entry4 b b b b (quartetBlocks b b b b (eriBlk boysT b)) r₁ r₂ r₃ r₄ :=
  (eri_array_moved boysT hboys (translation v) b hb r₁ r₂ r₃ r₄ h₁ h₂ h₃ h₄).trans
    (sum_basisRep_of_id4 b hb _ (linPart_translation v) _ r₁ r₂ r₃ r₄ h₁ h₂ h₃ h₄)

end FourIndex

/-! ## 3. Two-index arrays with a tensor index: momentum, multipole moments, angular momentum -/
section Tensor

noncomputable def combTab4 {κ : Type*} (S : Finset κ) (C : κ → ℝ) (B : κ → Tab4 ℝ) : Tab4 ℝ :=
  tab4 0 0 0 0 fun m a n c => ∑ x ∈ S, C x * (B x).get4 m a n c

lemma combTab4_get4 {κ : Type*} (S : Finset κ) (C : κ → ℝ) (B : κ → Tab4 ℝ) (m a n c : ℕ) :
    (combTab4 S C B).get4 m a n c = ∑ x ∈ S, C x * (B x).get4 m a n c := by
  simp only [combTab4, tab4_get]

lemma comb_sum2 {κ α β : Type*} (S : Finset κ) (A : Finset α) (B : Finset β) (C : κ → ℝ)
    (p : α → β → ℝ) (X : κ → α → β → ℝ) :
    ∑ x ∈ S, C x * ∑ a ∈ A, ∑ b ∈ B, p a b * X x a b
      = ∑ a ∈ A, ∑ b ∈ B, p a b * ∑ x ∈ S, C x * X x a b := by
  have e : ∀ x ∈ S, C x * ∑ a ∈ A, ∑ b ∈ B, p a b * X x a b
      = ∑ a ∈ A, ∑ b ∈ B, p a b * (C x * X x a b) := by
    intro x _
    rw [Finset.mul_sum]
    refine Finset.sum_congr rfl fun a _ => ?_
    rw [Finset.mul_sum]
    exact Finset.sum_congr rfl fun b _ => by ring
  rw [Finset.sum_congr (s₁ := S) rfl e, Finset.sum_comm]
  refine Finset.sum_congr rfl fun a _ => ?_
  rw [Finset.sum_comm]
  exact Finset.sum_congr rfl fun b _ => by rw [Finset.mul_sum]

theorem wBlock2_comb {κ : Type*} (s t : Shell ℝ) (S : Finset κ) (C : κ → ℝ) (B : κ → Tab4 ℝ)
    (m f n k : ℕ) (hf : f < s.nfun) (hk : k < t.nfun) :
    (wBlock2 s t s.weights t.weights (combTab4 S C B)).get4 m f n k
      = ∑ x ∈ S, C x * (wBlock2 s t s.weights t.weights (B x)).get4 m f n k := by
  rw [wBlock2_get4_eq_sum s t _ m f n k hf hk]
  simp only [combTab4_get4]
  rw [← comb_sum2 S (range s.ncart) (range t.ncart) C (fun a a' => cwS s m f a * cwS t n k a')
    (fun x a a' => (B x).get4 m a n a')]
  refine Finset.sum_congr rfl fun x _ => ?_
  rw [wBlock2_get4_eq_sum s t _ m f n k hf hk]

theorem entry2_comb {κ : Type*} (b : Basis ℝ) (S : Finset κ) (C : κ → ℝ) (nx : κ → ℕ)
    (blkx : κ → ℕ → ℕ → Tab (Tab4 ℝ)) (ex : κ → ℕ) (nextra e r c : ℕ) (hr : r < b.total)
    (hc : c < b.total) :
    entry2 b b (pairBlocks b b nextra
        (fun i j => tab nextra fun _ => combTab4 S C fun x => (blkx x i j).get (ex x))) r c e
      = ∑ x ∈ S, C x * entry2 b b (pairBlocks b b (nx x) (blkx x)) r c (ex x) := by
  obtain ⟨hi, hm, hf, -⟩ := locate_lt b r hr
  obtain ⟨hj, hn, hk, -⟩ := locate_lt b c hc
  unfold entry2
  dsimp only
  rw [pairBlocks_get b b nextra _ _ _ e hi hj]
  simp only [tab_get]
  rw [wBlock2_comb _ _ S C _ _ _ _ _ hf hk]
  refine Finset.sum_congr rfl fun x _ => ?_
  rw [pairBlocks_get b b (nx x) (blkx x) _ _ (ex x) hi hj]

theorem entry2_moved_of_blocks_tensor {κ : Type*} (g : E3 ≃ᵃⁱ[ℝ] E3) (b : Basis ℝ)
    (hb : b.Movable) (S : Finset κ) (C : κ → ℝ) (nx : κ → ℕ)
    (blkx : κ → ℕ → ℕ → Tab (Tab4 ℝ)) (ex : κ → ℕ) (nextra : ℕ) (blk' : ℕ → ℕ → Tab (Tab4 ℝ))
    (e : ℕ)
    (h : ∀ (i j : ℕ) (hi : i < b.size) (hj : j < b.size) (m n : ℕ),
      ∀ a < b[i].ncart, ∀ c < b[j].ncart, ((blk' i j).get e).get4 m a n c
        = ∑ x ∈ S, C x * ∑ a' ∈ range b[i].ncart, ∑ c' ∈ range b[j].ncart,
            repMat (linPart g) b[i].cart a a' * repMat (linPart g) b[j].cart c c'
              * ((blkx x i j).get (ex x)).get4 m a' n c')
    (r c : ℕ) (hr : r < b.total) (hc : c < b.total) :
    entry2 (b.moved g) (b.moved g) (pairBlocks (b.moved g) (b.moved g) nextra blk') r c e
      = ∑ x ∈ S, C x * ∑ r' ∈ range b.total, ∑ c' ∈ range b.total,
          basisRep b (linPart g) r r' * basisRep b (linPart g) c c'
            * entry2 b b (pairBlocks b b (nx x) (blkx x)) r' c' (ex x) := by
  rw [entry2_moved_of_blocks g b hb nextra
    (fun i j => tab nextra fun _ => combTab4 S C fun x => (blkx x i j).get (ex x)) blk' e ?_
    r c hr hc]
  · have e1 : ∀ r' ∈ range b.total, ∀ c' ∈ range b.total,
        basisRep b (linPart g) r r' * basisRep b (linPart g) c c'
            * entry2 b b (pairBlocks b b nextra
              (fun i j => tab nextra fun _ => combTab4 S C fun x => (blkx x i j).get (ex x)))
              r' c' e
          = basisRep b (linPart g) r r' * basisRep b (linPart g) c c'
              * ∑ x ∈ S, C x * entry2 b b (pairBlocks b b (nx x) (blkx x)) r' c' (ex x) := by
      intro r' hr' c' hc'
      rw [entry2_comb b S C nx blkx ex nextra e r' c' (Finset.mem_range.mp hr')
        (Finset.mem_range.mp hc')]
    rw [Finset.sum_congr (s₁ := range b.total) rfl fun r' hr' =>
      Finset.sum_congr (s₁ := range b.total) rfl (e1 r' hr')]
    exact (comb_sum2 S (range b.total) (range b.total) C
      (fun r' c' => basisRep b (linPart g) r r' * basisRep b (linPart g) c c')
      (fun x r' c' => entry2 b b (pairBlocks b b (nx x) (blkx x)) r' c' (ex x))).symm
  · intro i j hi hj m n a ha c' hc'
    rw [h i j hi hj m n a ha c' hc']
    simp only [tab_get, combTab4_get4]
    exact comb_sum2 S (range b[i].ncart) (range b[j].ncart) C
      (fun a' c'' => repMat (linPart g) b[i].cart a a' * repMat (linPart g) b[j].cart c' c'')
      (fun x a' c'' => ((blkx x i j).get (ex x)).get4 m a' n c'')

/-- for blocks given shell by shell, `blk i j = B b[i]! b[j]!`, as in every block argument of the
driver -/
theorem entry2_moved_of_shells_tensor {κ : Type*} (g : E3 ≃ᵃⁱ[ℝ] E3) (b : Basis ℝ)
    (hb : b.Movable) (S : Finset κ) (C : κ → ℝ) (nx : κ → ℕ)
    (Bx : κ → Shell ℝ → Shell ℝ → Tab (Tab4 ℝ)) (ex : κ → ℕ) (nextra : ℕ)
    (B' : Shell ℝ → Shell ℝ → Tab (Tab4 ℝ)) (e : ℕ)
    (h : ∀ s t : Shell ℝ, s.Movable → t.Movable → ∀ m n : ℕ,
      ∀ a < s.ncart, ∀ c < t.ncart, ((B' (s.moved g) (t.moved g)).get e).get4 m a n c
        = ∑ x ∈ S, C x * ∑ a' ∈ range s.ncart, ∑ c' ∈ range t.ncart,
            repMat (linPart g) s.cart a a' * repMat (linPart g) t.cart c c'
              * ((Bx x s t).get (ex x)).get4 m a' n c')
    (r c : ℕ) (hr : r < b.total) (hc : c < b.total) :
    entry2 (b.moved g) (b.moved g) (pairBlocks (b.moved g) (b.moved g) nextra
        fun i j => B' (b.moved g)[i]! (b.moved g)[j]!) r c e
      = ∑ x ∈ S, C x * ∑ r' ∈ range b.total, ∑ c' ∈ range b.total,
          basisRep b (linPart g) r r' * basisRep b (linPart g) c c'
            * entry2 b b (pairBlocks b b (nx x) fun i j => Bx x b[i]! b[j]!) r' c' (ex x) := by
  refine entry2_moved_of_blocks_tensor g b hb S C nx _ ex nextra _ e (fun i j hi hj m n => ?_)
    r c hr hc
  rw [Basis.moved_getElem! b g i hi, Basis.moved_getElem! b g j hj, getElem!_pos b i hi,
    getElem!_pos b j hj]
  exact h b[i] b[j] (hb i hi) (hb j hj) m n


/-- C12 for the momentum array: a vector (`matOf (linPart g)` on the slice index) -/
theorem momentum_array_moved (g : E3 ≃ᵃⁱ[ℝ] E3) (b : Basis ℝ) (hb : b.Movable) (k : Fin 3)
    (r c : ℕ) (hr : r < b.total) (hc : c < b.total) :
    entry2 (b.moved g) (b.moved g)
        (pairBlocks (b.moved g) (b.moved g) 3 (momentumBlk (b.moved g))) r c k
      = ∑ j : Fin 3, matOf (linPart g) k j * ∑ r' ∈ range b.total, ∑ c' ∈ range b.total,
          basisRep b (linPart g) r r' * basisRep b (linPart g) c c'
            * entry2 b b (pairBlocks b b 3 (momentumBlk b)) r' c' j :=
  entry2_moved_of_shells_tensor g b hb (univ : Finset (Fin 3)) (matOf (linPart g) k) (fun _ => 3)
    (fun _ => momentumBlock) (fun j => (j : ℕ)) 3 momentumBlock k
    (fun s t hs ht m n a ha c hc => momentumBlock_moved g s t k m a n c hs.exps_pos ht.exps_pos
      hs.full_cart ht.full_cart ha hc)
    r c hr hc

/-- C12 for the multipole-moment array: a Cartesian tensor on the order index
(`monoRep (linPart g) orders`), the origin of the moments moved along with the basis.  `FullCart n orders`
is forced: a rotated monomial needs all monomials of its degree. -/
theorem moment_array_moved (g : E3 ≃ᵃⁱ[ℝ] E3) (b : Basis ℝ) (hb : b.Movable) (O : ℕ → ℝ) {n : ℕ}
    (orders : List Comp) (hfo : FullCart n orders) (d : ℕ) (hd : d < orders.length)
    (r c : ℕ) (hr : r < b.total) (hc : c < b.total) :
    entry2 (b.moved g) (b.moved g)
        (pairBlocks (b.moved g) (b.moved g) orders.length
          (momentBlk (b.moved g) (movedPt g O) orders)) r c d
      = ∑ d' ∈ range orders.length, monoRep (linPart g) orders d d'
          * ∑ r' ∈ range b.total, ∑ c' ∈ range b.total,
              basisRep b (linPart g) r r' * basisRep b (linPart g) c c'
                * entry2 b b (pairBlocks b b orders.length (momentBlk b O orders)) r' c' d' := by
  refine entry2_moved_of_shells_tensor g b hb (range orders.length)
    (monoRep (linPart g) orders d) (fun _ => orders.length)
    (fun _ s t => momentBlock s t O orders) (fun d' => d') orders.length
    (fun s t => momentBlock s t (movedPt g O) orders) d
    (fun s t hs ht m n' a ha c' hc' => ?_) r c hr hc
  rw [momentBlock_moved g s t O orders d m a n' c' hs.exps_pos ht.exps_pos hs.full_cart
    ht.full_cart hfo hd ha hc']
  refine Finset.sum_congr rfl fun d' _ => ?_
  rw [Finset.mul_sum]
  refine Finset.sum_congr rfl fun a' _ => ?_
  rw [Finset.mul_sum]
  exact Finset.sum_congr rfl fun c'' _ => by rw [mul_assoc, mul_assoc, mul_assoc]

/-- C12 for the angular-momentum array (about the coordinate origin), with `g r = g 0 + R r`: the rotated
angular momentum (cofactor matrix `cof R = det R · R`: a pseudo-vector) plus
`(g 0) × (rotated momentum)`; the indices `k + 1`, `k + 2` are in `Fin 3`, i.e. mod 3. -/
theorem angmom_array_moved (g : E3 ≃ᵃⁱ[ℝ] E3) (b : Basis ℝ) (hb : b.Movable) (k : Fin 3)
    (r c : ℕ) (hr : r < b.total) (hc : c < b.total) :
    entry2 (b.moved g) (b.moved g)
        (pairBlocks (b.moved g) (b.moved g) 3 (angmomBlk (b.moved g))) r c k
      = ∑ j : Fin 3, cof (linPart g) k j * ∑ r' ∈ range b.total, ∑ c' ∈ range b.total,
            basisRep b (linPart g) r r' * basisRep b (linPart g) c c'
              * entry2 b b (pairBlocks b b 3 (angmomBlk b)) r' c' j
        + (g 0 (k + 1) * ∑ j : Fin 3, matOf (linPart g) (k + 2) j
              * ∑ r' ∈ range b.total, ∑ c' ∈ range b.total,
                  basisRep b (linPart g) r r' * basisRep b (linPart g) c c'
                    * entry2 b b (pairBlocks b b 3 (momentumBlk b)) r' c' j
          - g 0 (k + 2) * ∑ j : Fin 3, matOf (linPart g) (k + 1) j
              * ∑ r' ∈ range b.total, ∑ c' ∈ range b.total,
                  basisRep b (linPart g) r r' * basisRep b (linPart g) c c'
                    * entry2 b b (pairBlocks b b 3 (momentumBlk b)) r' c' j) := by
  -- the combination over `Fin 3 ⊕ Fin 3`: angular-momentum slices with `cof`, momentum slices with
  -- the coefficients of `(g 0) ×`
  have hsplit : ∀ L P : Fin 3 → ℝ,
      ∑ x : Fin 3 ⊕ Fin 3, Sum.elim (cof (linPart g) k) (fun j => g 0 (k + 1)
          * matOf (linPart g) (k + 2) j - g 0 (k + 2) * matOf (linPart g) (k + 1) j) x
          * Sum.elim L P x
        = ∑ j : Fin 3, cof (linPart g) k j * L j
          + (g 0 (k + 1) * ∑ j : Fin 3, matOf (linPart g) (k + 2) j * P j
            - g 0 (k + 2) * ∑ j : Fin 3, matOf (linPart g) (k + 1) j * P j) := by
    intro L P
    rw [Fintype.sum_sum_type, Finset.mul_sum, Finset.mul_sum, ← Finset.sum_sub_distrib]
    simp only [Sum.elim_inl, Sum.elim_inr]
    exact congrArg (_ + ·) (Finset.sum_congr rfl fun j _ => by ring)
  have H := entry2_moved_of_shells_tensor g b hb (univ : Finset (Fin 3 ⊕ Fin 3))
    (Sum.elim (cof (linPart g) k) (fun j => g 0 (k + 1) * matOf (linPart g) (k + 2) j
      - g 0 (k + 2) * matOf (linPart g) (k + 1) j))
    (fun _ => 3) (Sum.elim (fun _ => angmomBlock) (fun _ => momentumBlock))
    (Sum.elim (fun j => (j : ℕ)) (fun j => (j : ℕ))) 3 angmomBlock k
    (fun s t hs ht m n a ha c hc => ?_) r c hr hc
  · refine H.trans ((Finset.sum_congr rfl fun x _ => ?_).trans (hsplit _ _))
    cases x <;> rfl
  · rw [angmomBlock_moved g s t k m a n c hs.exps_pos ht.exps_pos hs.full_cart ht.full_cart ha hc]
    refine ((hsplit _ _).symm.trans (Finset.sum_congr rfl fun x _ => ?_))
    cases x <;> rfl

/-- the same with `cof R = det R · R` (`cof_eq_det_smul`): the angular momentum is a pseudo-vector -/
theorem angmom_array_moved_det (g : E3 ≃ᵃⁱ[ℝ] E3) (b : Basis ℝ) (hb : b.Movable) (k : Fin 3)
    (r c : ℕ) (hr : r < b.total) (hc : c < b.total) :
    entry2 (b.moved g) (b.moved g)
        (pairBlocks (b.moved g) (b.moved g) 3 (angmomBlk (b.moved g))) r c k
      = detOf (linPart g) * ∑ j : Fin 3, matOf (linPart g) k j
            * ∑ r' ∈ range b.total, ∑ c' ∈ range b.total,
                basisRep b (linPart g) r r' * basisRep b (linPart g) c c'
                  * entry2 b b (pairBlocks b b 3 (angmomBlk b)) r' c' j
        + (g 0 (k + 1) * ∑ j : Fin 3, matOf (linPart g) (k + 2) j
              * ∑ r' ∈ range b.total, ∑ c' ∈ range b.total,
                  basisRep b (linPart g) r r' * basisRep b (linPart g) c c'
                    * entry2 b b (pairBlocks b b 3 (momentumBlk b)) r' c' j
          - g 0 (k + 2) * ∑ j : Fin 3, matOf (linPart g) (k + 1) j
              * ∑ r' ∈ range b.total, ∑ c' ∈ range b.total,
                  basisRep b (linPart g) r r' * basisRep b (linPart g) c c'
                    * entry2 b b (pairBlocks b b 3 (momentumBlk b)) r' c' j) := by
  rw [angmom_array_moved g b hb k r c hr hc]
  refine congrArg (· + _) ?_
  rw [Finset.mul_sum]
  refine Finset.sum_congr rfl fun j _ => ?_
  rw [← mul_assoc]
  exact congrArg (· * _) (cof_eq_det_smul g.linearIsometryEquiv k j)

/-! ### the flat arrays `assemble2 …` that the driver prints -/

theorem momentum_flat_moved (g : E3 ≃ᵃⁱ[ℝ] E3) (b : Basis ℝ) (hb : b.Movable) (k : Fin 3)
    (r c : ℕ) (hr : r < b.total) (hc : c < b.total) :
    (assemble2 (b.moved g) (b.moved g) 3 (momentumBlk (b.moved g)))[(r * b.total + c) * 3 + k]!
      = ∑ j : Fin 3, matOf (linPart g) k j * ∑ r' ∈ range b.total, ∑ c' ∈ range b.total,
          basisRep b (linPart g) r r' * basisRep b (linPart g) c c'
            * (assemble2 b b 3 (momentumBlk b))[(r' * b.total + c') * 3 + j]! := by
  rw [flat_moved_eq g b b 3 _ r c k hr hc k.isLt, momentum_array_moved g b hb k r c hr hc]
  refine Finset.sum_congr rfl fun j _ => ?_
  rw [flat_sum_eq b b _ 3 (momentumBlk b) r c j j.isLt]

theorem moment_flat_moved (g : E3 ≃ᵃⁱ[ℝ] E3) (b : Basis ℝ) (hb : b.Movable) (O : ℕ → ℝ) {n : ℕ}
    (orders : List Comp) (hfo : FullCart n orders) (d : ℕ) (hd : d < orders.length)
    (r c : ℕ) (hr : r < b.total) (hc : c < b.total) :
    (assemble2 (b.moved g) (b.moved g) orders.length
        (momentBlk (b.moved g) (movedPt g O) orders))[(r * b.total + c) * orders.length + d]!
      = ∑ d' ∈ range orders.length, monoRep (linPart g) orders d d'
          * ∑ r' ∈ range b.total, ∑ c' ∈ range b.total,
              basisRep b (linPart g) r r' * basisRep b (linPart g) c c'
                * (assemble2 b b orders.length (momentBlk b O orders))[
                    (r' * b.total + c') * orders.length + d']! := by
  rw [flat_moved_eq g b b orders.length _ r c d hr hc hd,
    moment_array_moved g b hb O orders hfo d hd r c hr hc]
  refine Finset.sum_congr rfl fun d' hd' => ?_
  rw [flat_sum_eq b b _ orders.length (momentBlk b O orders) r c d' (Finset.mem_range.mp hd')]

theorem angmom_flat_moved (g : E3 ≃ᵃⁱ[ℝ] E3) (b : Basis ℝ) (hb : b.Movable) (k : Fin 3)
    (r c : ℕ) (hr : r < b.total) (hc : c < b.total) :
    (assemble2 (b.moved g) (b.moved g) 3 (angmomBlk (b.moved g)))[(r * b.total + c) * 3 + k]!
      = ∑ j : Fin 3, cof (linPart g) k j * ∑ r' ∈ range b.total, ∑ c' ∈ range b.total,
            basisRep b (linPart g) r r' * basisRep b (linPart g) c c'
              * (assemble2 b b 3 (angmomBlk b))[(r' * b.total + c') * 3 + j]!
        + (g 0 (k + 1) * ∑ j : Fin 3, matOf (linPart g) (k + 2) j
              * ∑ r' ∈ range b.total, ∑ c' ∈ range b.total,
                  basisRep b (linPart g) r r' * basisRep b (linPart g) c c'
                    * (assemble2 b b 3 (momentumBlk b))[(r' * b.total + c') * 3 + j]!
          - g 0 (k + 2) * ∑ j : Fin 3, matOf (linPart g) (k + 1) j
              * ∑ r' ∈ range b.total, ∑ c' ∈ range b.total,
                  basisRep b (linPart g) r r' * basisRep b (linPart g) c c'
                    * (assemble2 b b 3 (momentumBlk b))[(r' * b.total + c') * 3 + j]!) := by
  rw [flat_moved_eq g b b 3 _ r c k hr hc k.isLt, angmom_array_moved g b hb k r c hr hc]
  simp only [fun (blk : ℕ → ℕ → Tab (Tab4 ℝ)) (j : Fin 3) => flat_sum_eq b b (linPart g) 3 blk r c j j.isLt]

/-! ### translations -/

/-- the cofactors of the unit matrix: the product of the diagonal entries is `δ_kj`, and the other
product vanishes since `k + 2 = j + 1` and `k + 1 = j + 2` exclude each other -/
lemma cof_of_id (R : E3 →ₗ[ℝ] E3) (hR : ∀ u, R u = u) (k j : Fin 3) :
    cof R k j = if k = j then 1 else 0 := by
  have h : ∀ k j : Fin 3, ¬(k + 2 = j + 1 ∧ k + 1 = j + 2) := by decide
  unfold cof cofM
  simp only [matOf_of_id R hR, add_left_inj, ← ite_and, mul_ite, mul_one, mul_zero, and_self,
    if_neg (h k j), sub_zero]

/-- C12, translations -/
theorem momentum_array_translate (v : E3) (b : Basis ℝ) (hb : b.Movable) (k : Fin 3)
    (r c : ℕ) (hr : r < b.total) (hc : c < b.total) :
    entry2 (b.moved (translation v)) (b.moved (translation v))
        (pairBlocks (b.moved (translation v)) (b.moved (translation v)) 3
          (momentumBlk (b.moved (translation v)))) r c k
      = entry2 b b (pairBlocks b b 3 (momentumBlk b)) r c k := by
  rw [momentum_array_moved (translation v) b hb k r c hr hc]
  simp only [sum_basisRep_of_id2 b b hb hb _ (linPart_translation v) _ r c hr hc,
    matOf_of_id _ (linPart_translation v), ite_mul, one_mul, zero_mul, Finset.sum_ite_eq,
    Finset.mem_univ, if_true]

/-- C12, translations; the origin of the moments is translated along with the basis -/
theorem moment_array_translate (v : E3) (b : Basis ℝ) (hb : b.Movable) (O : ℕ → ℝ) {n : ℕ}
    (orders : List Comp) (hfo : FullCart n orders) (d : ℕ) (hd : d < orders.length)
    (r c : ℕ) (hr : r < b.total) (hc : c < b.total) :
    entry2 (b.moved (translation v)) (b.moved (translation v))
        (pairBlocks (b.moved (translation v)) (b.moved (translation v)) orders.length
          (momentBlk (b.moved (translation v)) (movedPt (translation v) O) orders)) r c d
      = entry2 b b (pairBlocks b b orders.length (momentBlk b O orders)) r c d := by
  rw [moment_array_moved (translation v) b hb O orders hfo d hd r c hr hc,
    Finset.sum_eq_single_of_mem d (Finset.mem_range.mpr hd) fun d' hd' hne => by
      rw [monoRep_id_nodup _ (linPart_translation v) orders hfo.1 hd (Finset.mem_range.mp hd'),
        if_neg hne.symm, zero_mul],
    monoRep_id_nodup _ (linPart_translation v) orders hfo.1 hd hd, if_pos rfl, one_mul]
  exact sum_basisRep_of_id2 b b hb hb _ (linPart_translation v) _ r c hr hc

/-- C12, translations: `L' = L + v × P` -/
theorem angmom_array_translate (v : E3) (b : Basis ℝ) (hb : b.Movable) (k : Fin 3)
    (r c : ℕ) (hr : r < b.total) (hc : c < b.total) :
    entry2 (b.moved (translation v)) (b.moved (translation v))
        (pairBlocks (b.moved (translation v)) (b.moved (translation v)) 3
          (angmomBlk (b.moved (translation v)))) r c k
      = entry2 b b (pairBlocks b b 3 (angmomBlk b)) r c k
        + (v (k + 1) * entry2 b b (pairBlocks b b 3 (momentumBlk b)) r c (k + 2 : Fin 3)
          - v (k + 2) * entry2 b b (pairBlocks b b 3 (momentumBlk b)) r c (k + 1 : Fin 3)) := by
  rw [angmom_array_moved (translation v) b hb k r c hr hc]
  simp only [sum_basisRep_of_id2 b b hb hb _ (linPart_translation v) _ r c hr hc,
    matOf_of_id _ (linPart_translation v), cof_of_id _ (linPart_translation v), ite_mul, one_mul,
    zero_mul, Finset.sum_ite_eq, Finset.mem_univ, if_true, translation_apply, add_zero]

end Tensor

/-! ## 4. `basisRep` preserves the block-diagonal metric of the basis -/
section Orthogonality

/-- the metric in which the representation matrix of a shell is orthogonal: the unit matrix for a
spherical shell (pure functions are orthonormal on the sphere), the overlap metric `Sov` of the
unit-normalised Cartesian monomials for a Cartesian shell (these are not orthogonal for `l ≥ 2`, e.g.
`xx` and `yy`; `repMat` is orthogonal only with respect to `Sov`) -/
noncomputable def shellMetric (s : Shell ℝ) (f f' : ℕ) : ℝ :=
  if s.sph then (if f = f' then 1 else 0)
  else Sov (s.cart.getD f (0,0,0)) (s.cart.getD f' (0,0,0))

noncomputable def basisMetric (b : Basis ℝ) (r r' : ℕ) : ℝ :=
  if (b.locate r).1 = (b.locate r').1 ∧ (b.locate r).2.1 = (b.locate r').2.1 then
    shellMetric (shellOf b r) (funOf b r) (funOf b r')
  else 0

theorem basisMetric_eq_blockDiag (b : Basis ℝ) : basisMetric b = blockDiag b shellMetric := rfl

/-- `W M Wᵀ = M` for one shell: plain orthogonality `W Wᵀ = 1` for a spherical shell
(`sphRep_orthogonal`), `D S Dᵀ = S` for a Cartesian one (`repMat_Sov`) -/
theorem shellRep_metric (R : E3 ≃ₗᵢ[ℝ] E3) (s : Shell ℝ) (hs : s.Movable) {f f' : ℕ}
    (hf : f < s.nfun) (hf' : f' < s.nfun) :
    ∑ x ∈ range s.nfun, ∑ y ∈ range s.nfun,
        shellRep R.toLinearEquiv.toLinearMap s f x * shellRep R.toLinearEquiv.toLinearMap s f' y
          * shellMetric s x y
      = shellMetric s f f' := by
  unfold shellRep shellMetric
  cases hsph : s.sph with
  | true =>
    obtain ⟨hl, hv⟩ := hs.sph_ok hsph
    have hn : s.nfun = s.sphOrd.length := by simp [Shell.nfun, hsph]
    rw [hn] at hf hf' ⊢
    simp only [if_true, mul_ite, mul_one, mul_zero, Finset.sum_ite_eq, Finset.mem_range]
    rw [← sphRep_orthogonal s.l hl hv R hf hf']
    exact Finset.sum_congr rfl fun x hx => if_pos (Finset.mem_range.mp hx)
  | false =>
    have hn : s.nfun = s.cart.length := by simp [Shell.nfun, hsph]
    rw [hn] at hf hf' ⊢
    simp only [Bool.false_eq_true, if_false]
    exact repMat_Sov R hs.full_cart hf hf'

/-- `U G Uᵀ = G` with `U = basisRep b R`, `G = basisMetric b`; `R` may be improper -/
theorem basisRep_metric (R : E3 ≃ₗᵢ[ℝ] E3) (b : Basis ℝ) (hb : b.Movable) (r r' : ℕ)
    (hr : r < b.total) (hr' : r' < b.total) :
    ∑ s ∈ range b.total, ∑ s' ∈ range b.total,
        basisRep b R.toLinearEquiv.toLinearMap r s * basisRep b R.toLinearEquiv.toLinearMap r' s'
          * basisMetric b s s'
      = basisMetric b r r' := by
  obtain ⟨-, -, hf, -⟩ := locate_lt' b r hr
  obtain ⟨-, -, hf', -⟩ := locate_lt' b r' hr'
  rw [sum_basisRep2 b b _ r r' hr hr', basisMetric_eq_blockDiag,
    Finset.sum_congr rfl fun x hx => Finset.sum_congr rfl fun y hy => congrArg (_ * ·)
      (blockDiag_row_row b shellMetric r r' hr hr' (Finset.mem_range.mp hx) (Finset.mem_range.mp hy))]
  unfold blockDiag segOf
  by_cases hsame : (b.locate r).1 = (b.locate r').1 ∧ (b.locate r).2.1 = (b.locate r').2.1
  · have hsh : shellOf b r' = shellOf b r := by unfold shellOf; rw [hsame.1]
    simp only [if_pos hsame]
    rw [hsh] at hf' ⊢
    exact shellRep_metric R (shellOf b r) (shellOf_movable b hb r hr) hf hf'
  · simp only [if_neg hsame, mul_zero, Finset.sum_const_zero]

theorem basisMetric_of_sph (b : Basis ℝ) (r r' : ℕ) (hr : r < b.total) (hr' : r' < b.total)
    (hsph : (shellOf b r).sph = true) :
    basisMetric b r r' = if r = r' then 1 else 0 :=
  blockDiag_one b shellMetric r r' hr hr' fun _ _ _ _ => by unfold shellMetric; rw [hsph, if_pos rfl]

theorem basisRep_orthogonal_of_sph (R : E3 ≃ₗᵢ[ℝ] E3) (b : Basis ℝ) (hb : b.Movable)
    (hsph : ∀ (i : ℕ) (hi : i < b.size), b[i].sph = true) (r r' : ℕ)
    (hr : r < b.total) (hr' : r' < b.total) :
    ∑ s ∈ range b.total,
        basisRep b R.toLinearEquiv.toLinearMap r s * basisRep b R.toLinearEquiv.toLinearMap r' s
      = if r = r' then 1 else 0 := by
  have hs : ∀ s < b.total, (shellOf b s).sph = true := by
    intro s hs
    obtain ⟨hi, -⟩ := locate_lt b s hs
    rw [shellOf_eq b s hi]; exact hsph _ hi
  rw [← basisMetric_of_sph b r r' hr hr' (hs r hr), ← basisRep_metric R b hb r r' hr hr']
  refine Finset.sum_congr rfl fun s hs' => ?_
  rw [Finset.sum_eq_single_of_mem s hs' fun y hy hne => by
      rw [basisMetric_of_sph b s y (Finset.mem_range.mp hs') (Finset.mem_range.mp hy)
        (hs s (Finset.mem_range.mp hs')), if_neg hne.symm, mul_zero],
    basisMetric_of_sph b s s (Finset.mem_range.mp hs') (Finset.mem_range.mp hs')
      (hs s (Finset.mem_range.mp hs')), if_pos rfl, mul_one]

end Orthogonality

end GB
