import GBProofs.AngMom

/-!
# C12 — the angular-momentum blocks under rigid motions: a pseudo-vector

`angmomBlock s t` is the triple of real arrays `L_k = ∫ φ_a (r × ∇)_k φ_b` about the coordinate origin
(the arrays of the code are `-i` times them).  `(v, w) = crossIdx k = (k+1, k+2) mod 3`.

An isometry `R` fixing the origin transforms the anti-symmetric tensor `L_{vw}` with `R ⊗ R`, i.e.
`L_k` with the cofactors of `matOf R`, which for an orthogonal matrix are `det R · R_kj`: a
pseudo-vector.  A general `g = (translation by g 0) ∘ R` adds `(g 0) × (R P)` with `P` the momentum
blocks.  Hypotheses as in `momentumBlock_moved`: positive exponents, full Cartesian component lists
(`FullCart`), component indices in range.
-/
open MeasureTheory Real Finset

namespace GB

/-! ## 1. The block as an integral over `E3` -/

def crossIdx (k : Fin 3) : Fin 3 × Fin 3 := (k + 1, k + 2)

lemma crossIdx_zero : crossIdx 0 = (1, 2) := rfl
lemma crossIdx_one : crossIdx 1 = (2, 0) := rfl
lemma crossIdx_two : crossIdx 2 = (0, 1) := rfl

noncomputable def rotDerivE (ψ : E3 → ℝ) (k : Fin 3) (r : E3) : ℝ :=
  r (crossIdx k).1 * fderiv ℝ ψ r (ei (crossIdx k).2)
    - r (crossIdx k).2 * fderiv ℝ ψ r (ei (crossIdx k).1)

lemma rotDerivFn_e3Equiv (t : Shell ℝ) (m c : ℕ) (k : Fin 3) (r : E3) :
    rotDerivFn t m c k (e3Equiv r) = rotDerivE (shellFnE t m c) k r := by
  unfold rotDerivFn rotDerivE crossIdx
  simp only [fderiv_shellFnE_ax, e3Equiv_apply]
  fin_cases k <;> rfl

lemma integrable_shellFnE_mul_rotDerivE (s t : Shell ℝ) (ma ca mb cb : ℕ) (k : Fin 3)
    (hs : ∀ k < s.nprim, 0 < s.exp! k) (ht : ∀ k < t.nprim, 0 < t.exp! k) :
    Integrable fun r : E3 => shellFnE s ma ca r * rotDerivE (shellFnE t mb cb) k r :=
  integrable_e3 (fun r => by rw [shellFn_e3Equiv, rotDerivFn_e3Equiv])
    (integrable_shell_rotDeriv s t ma ca mb cb k hs ht)

theorem angmomBlock_eq_integral_E3 (s t : Shell ℝ) (k : Fin 3) (ma ca mb cb : ℕ)
    (hs : ∀ k < s.nprim, 0 < s.exp! k) (ht : ∀ k < t.nprim, 0 < t.exp! k)
    (hc : (s.comp! ca).1 ≤ s.l ∧ (s.comp! ca).2.1 ≤ s.l ∧ (s.comp! ca).2.2 ≤ s.l) :
    ((angmomBlock s t).get k).get4 ma ca mb cb
      = ∫ r : E3, shellFnE s ma ca r
          * (r (crossIdx k).1 * fderiv ℝ (shellFnE t mb cb) r (ei (crossIdx k).2)
              - r (crossIdx k).2 * fderiv ℝ (shellFnE t mb cb) r (ei (crossIdx k).1)) := by
  rw [angmomBlock_eq_integral s t k ma ca mb cb k.isLt hs ht hc]
  exact integral_e3 fun r => by rw [shellFn_e3Equiv, rotDerivFn_e3Equiv]; rfl

/-! ## 2. Cofactors -/

/-- The `(k, j)` cofactor of a `3 × 3` array; with cyclic indices the sign `(-1)^{k+j}` is built in. -/
def cofM (M : Fin 3 → Fin 3 → ℝ) (k j : Fin 3) : ℝ :=
  M (k + 1) (j + 1) * M (k + 2) (j + 2) - M (k + 1) (j + 2) * M (k + 2) (j + 1)

noncomputable def cof (R : E3 →ₗ[ℝ] E3) (k j : Fin 3) : ℝ := cofM (matOf R) k j

lemma cross_expand (M : Fin 3 → Fin 3 → ℝ) (x G : Fin 3 → ℝ) (k : Fin 3) :
    (∑ p, M (k + 1) p * x p) * (∑ q, M (k + 2) q * G q)
        - (∑ p, M (k + 2) p * x p) * (∑ q, M (k + 1) q * G q)
      = ∑ j : Fin 3, cofM M k j * (x (j + 1) * G (j + 2) - x (j + 2) * G (j + 1)) := by
  simp only [Fin.sum_univ_three, cofM, zero_add, Fin.reduceAdd]
  ring

/-! ## 3. Rotations / reflections about the origin -/

lemma affineIso_apply_of_fix (g : E3 ≃ᵃⁱ[ℝ] E3) (h0 : g 0 = 0) (r : E3) (v : Fin 3) :
    g r v = ∑ p, matOf (linPart g) v p * r p := by
  rw [affineIso_apply g r, h0, add_zero, ← matOf_apply]
  rfl

lemma rotDerivE_moved {κ : Type*} (g : E3 ≃ᵃⁱ[ℝ] E3) (h0 : g 0 = 0) (S : Finset κ) (ψ : E3 → ℝ)
    (φ : κ → E3 → ℝ) (D : κ → ℝ) (h : ∀ r, ψ (g r) = ∑ j ∈ S, D j * φ j r)
    (hψ : Differentiable ℝ ψ) (hφ : ∀ j, Differentiable ℝ (φ j)) (r : E3) (k : Fin 3) :
    rotDerivE ψ k (g r)
      = ∑ j : Fin 3, cof (linPart g) k j * ∑ l ∈ S, D l * rotDerivE (φ l) j r := by
  unfold rotDerivE crossIdx cof
  simp only [fderiv_moved_ax g S ψ φ D h hψ hφ r, affineIso_apply_of_fix g h0 r]
  rw [cross_expand]
  refine Finset.sum_congr rfl fun j _ => ?_
  congr 1
  rw [Finset.mul_sum, Finset.mul_sum, ← Finset.sum_sub_distrib]
  refine Finset.sum_congr rfl fun l _ => ?_
  ring

/-- C12, angular momentum under a rotation or reflection about the coordinate origin.  The hypothesis
`g 0 = 0` is forced: the blocks are about the coordinate origin; `angmomBlock_moved` is the general
case. -/
theorem angmomBlock_moved_linear (g : E3 ≃ᵃⁱ[ℝ] E3) (h0 : g 0 = 0) (s t : Shell ℝ) (k : Fin 3)
    (ma ca mb cb : ℕ)
    (hs : ∀ k, k < s.nprim → 0 < s.exp! k) (ht : ∀ k, k < t.nprim → 0 < t.exp! k)
    (hfs : FullCart s.l s.cart) (hft : FullCart t.l t.cart)
    (hca : ca < s.ncart) (hcb : cb < t.ncart) :
    ((angmomBlock (s.moved g) (t.moved g)).get k).get4 ma ca mb cb
      = ∑ j : Fin 3, cof (linPart g) k j *
          ∑ ca' ∈ range s.ncart, ∑ cb' ∈ range t.ncart,
            repMat (linPart g) s.cart ca ca' * repMat (linPart g) t.cart cb cb'
              * ((angmomBlock s t).get j).get4 ma ca' mb cb' := by
  rw [angmomBlock_eq_integral_E3 (s.moved g) (t.moved g) k ma ca mb cb hs ht (hfs.each_le hca)]
  refine (lift_tensor g univ (range s.ncart) (range t.ncart)
    (fun r => shellFnE (s.moved g) ma ca r * rotDerivE (shellFnE (t.moved g) mb cb) k r)
    (fun j a b r => shellFnE s ma a r * rotDerivE (shellFnE t mb b) j r)
    (cof (linPart g) k)
    (fun a b => repMat (linPart g) s.cart ca a * repMat (linPart g) t.cart cb b)
    (fun r => by
      rw [shellFnE_moved g s hfs ma ca hca,
        rotDerivE_moved g h0 (range t.ncart) _ (fun b => shellFnE t mb b) _
          (shellFnE_moved g t hft mb cb hcb) (differentiable_shellFnE _ _ _)
          (fun _ => differentiable_shellFnE _ _ _) r k,
        sum_mul_tensor_sum])
    (fun j _ a _ b _ => integrable_shellFnE_mul_rotDerivE s t ma a mb b j hs ht)).trans ?_
  refine Finset.sum_congr rfl fun j _ => congrArg _ (Finset.sum_congr rfl fun a ha =>
    Finset.sum_congr rfl fun b _ => ?_)
  rw [angmomBlock_eq_integral_E3 s t j ma a mb b hs ht (hfs.each_le (Finset.mem_range.mp ha))]
  rfl

/-! ## 4. Orthogonal matrices: cofactor = determinant × entry -/
section Orth
open Matrix InnerProductSpace

noncomputable def matrixOf (R : E3 →ₗ[ℝ] E3) : Matrix (Fin 3) (Fin 3) ℝ := Matrix.of (matOf R)

noncomputable def detOf (R : E3 →ₗ[ℝ] E3) : ℝ := (matrixOf R).det

lemma matrixOf_transpose_mul_self (R : E3 ≃ₗᵢ[ℝ] E3) :
    (matrixOf R.toLinearEquiv.toLinearMap)ᵀ * matrixOf R.toLinearEquiv.toLinearMap = 1 := by
  ext j k
  simpa only [Matrix.mul_apply, Matrix.transpose_apply, matrixOf, Matrix.of_apply,
    Matrix.one_apply] using matOf_orthogonal_col R j k

lemma cofM_eq_adjugate (A : Matrix (Fin 3) (Fin 3) ℝ) (k j : Fin 3) :
    cofM A k j = A.adjugate j k := by
  rw [Matrix.adjugate_fin_three]
  fin_cases k <;> fin_cases j <;> simp [cofM] <;> ring

theorem detOf_eq_one_or_neg_one (R : E3 ≃ₗᵢ[ℝ] E3) :
    detOf R.toLinearEquiv.toLinearMap = 1 ∨ detOf R.toLinearEquiv.toLinearMap = -1 := by
  have h := congrArg Matrix.det (matrixOf_transpose_mul_self R)
  rw [Matrix.det_mul, Matrix.det_transpose, Matrix.det_one] at h
  unfold detOf
  exact mul_self_eq_one_iff.mp h

theorem cof_eq_det_smul (R : E3 ≃ₗᵢ[ℝ] E3) (k j : Fin 3) :
    cof R.toLinearEquiv.toLinearMap k j
      = detOf R.toLinearEquiv.toLinearMap * matOf R.toLinearEquiv.toLinearMap k j := by
  set A := matrixOf R.toLinearEquiv.toLinearMap with hA
  have h1 : Aᵀ * A = 1 := matrixOf_transpose_mul_self R
  have h2 : A * Aᵀ = 1 := mul_eq_one_comm.mp h1
  have h3 : A.adjugate = A.det • Aᵀ := by
    calc A.adjugate = A.adjugate * (A * Aᵀ) := by rw [h2, mul_one]
      _ = (A.adjugate * A) * Aᵀ := by rw [Matrix.mul_assoc]
      _ = A.det • Aᵀ := by rw [Matrix.adjugate_mul, Matrix.smul_mul, Matrix.one_mul]
  have h4 : cof R.toLinearEquiv.toLinearMap k j = A.adjugate j k := cofM_eq_adjugate A k j
  rw [h4, h3]
  rfl

end Orth

/-! ## 5. The pseudo-vector law -/

lemma sum_cof_mul (g : E3 ≃ᵃⁱ[ℝ] E3) (k : Fin 3) (X : Fin 3 → ℝ) :
    ∑ j, cof (linPart g) k j * X j = detOf (linPart g) * ∑ j, matOf (linPart g) k j * X j := by
  rw [Finset.mul_sum]
  refine Finset.sum_congr rfl fun j _ => ?_
  rw [← mul_assoc]
  exact congrArg (· * X j) (cof_eq_det_smul g.linearIsometryEquiv k j)

/-- C12: the angular momentum is a pseudo-vector.  Proper rotations (`det R = 1`) rotate `L` like a
vector, reflections (`det R = −1`) give an extra sign (`detOf_eq_one_or_neg_one`). -/
theorem angmomBlock_moved_pseudovector (g : E3 ≃ᵃⁱ[ℝ] E3) (h0 : g 0 = 0) (s t : Shell ℝ)
    (k : Fin 3) (ma ca mb cb : ℕ)
    (hs : ∀ k, k < s.nprim → 0 < s.exp! k) (ht : ∀ k, k < t.nprim → 0 < t.exp! k)
    (hfs : FullCart s.l s.cart) (hft : FullCart t.l t.cart)
    (hca : ca < s.ncart) (hcb : cb < t.ncart) :
    ((angmomBlock (s.moved g) (t.moved g)).get k).get4 ma ca mb cb
      = detOf (linPart g) * ∑ j : Fin 3, matOf (linPart g) k j *
          ∑ ca' ∈ range s.ncart, ∑ cb' ∈ range t.ncart,
            repMat (linPart g) s.cart ca ca' * repMat (linPart g) t.cart cb cb'
              * ((angmomBlock s t).get j).get4 ma ca' mb cb' := by
  rw [angmomBlock_moved_linear g h0 s t k ma ca mb cb hs ht hfs hft hca hcb, sum_cof_mul]

/-! ## 6. General rigid motions -/

lemma moved_rigid_split (s : Shell ℝ) (R : E3 ≃ₗᵢ[ℝ] E3) (v : E3) :
    s.moved (rigid R v) = (s.moved (rigid R 0)).moved (translation v) := by
  unfold Shell.moved
  congr 1
  funext i
  unfold movedPt
  by_cases h : i < 3
  · simp only [h, dif_pos]
    have e : toE3 (fun i => if h : i < 3 then (rigid R 0) (toE3 s.ctr) ⟨i, h⟩ else s.ctr i)
        = (rigid R 0) (toE3 s.ctr) := toE3_movedPt (rigid R 0) s.ctr
    rw [e]
    simp only [rigid_apply, translation_apply, zero_add]
  · simp only [h, dif_neg, not_false_eq_true]

theorem angmomBlock_translate_E3 (s t : Shell ℝ) (v : E3) (k : Fin 3) (ma ca mb cb : ℕ)
    (hs : ∀ k < s.nprim, 0 < s.exp! k) (ht : ∀ k < t.nprim, 0 < t.exp! k)
    (hc : (s.comp! ca).1 ≤ s.l ∧ (s.comp! ca).2.1 ≤ s.l ∧ (s.comp! ca).2.2 ≤ s.l) :
    ((angmomBlock (s.moved (translation v)) (t.moved (translation v))).get k).get4 ma ca mb cb
      = ((angmomBlock s t).get k).get4 ma ca mb cb
        + (v (k + 1) * ((momentumBlock s t).get (k + 2 : Fin 3)).get4 ma ca mb cb
            - v (k + 2) * ((momentumBlock s t).get (k + 1 : Fin 3)).get4 ma ca mb cb) := by
  rw [moved_translation_eq_translate, moved_translation_eq_translate]
  have h := angmomBlock_translate s t (vecOf v) k ma ca mb cb k.isLt hs ht hc
  rw [h]
  fin_cases k <;> rfl

/-- C12, angular momentum under every rigid motion `g r = g 0 + R r`: the rotated angular momentum
plus `(g 0) × (rotated momentum)`. -/
theorem angmomBlock_moved (g : E3 ≃ᵃⁱ[ℝ] E3) (s t : Shell ℝ) (k : Fin 3) (ma ca mb cb : ℕ)
    (hs : ∀ k, k < s.nprim → 0 < s.exp! k) (ht : ∀ k, k < t.nprim → 0 < t.exp! k)
    (hfs : FullCart s.l s.cart) (hft : FullCart t.l t.cart)
    (hca : ca < s.ncart) (hcb : cb < t.ncart) :
    ((angmomBlock (s.moved g) (t.moved g)).get k).get4 ma ca mb cb
      = ∑ j : Fin 3, cof (linPart g) k j *
          ∑ ca' ∈ range s.ncart, ∑ cb' ∈ range t.ncart,
            repMat (linPart g) s.cart ca ca' * repMat (linPart g) t.cart cb cb'
              * ((angmomBlock s t).get j).get4 ma ca' mb cb'
        + (g 0 (k + 1) * ∑ j : Fin 3, matOf (linPart g) (k + 2) j *
              ∑ ca' ∈ range s.ncart, ∑ cb' ∈ range t.ncart,
                repMat (linPart g) s.cart ca ca' * repMat (linPart g) t.cart cb cb'
                  * ((momentumBlock s t).get j).get4 ma ca' mb cb'
          - g 0 (k + 2) * ∑ j : Fin 3, matOf (linPart g) (k + 1) j *
              ∑ ca' ∈ range s.ncart, ∑ cb' ∈ range t.ncart,
                repMat (linPart g) s.cart ca ca' * repMat (linPart g) t.cart cb cb'
                  * ((momentumBlock s t).get j).get4 ma ca' mb cb') := by
  set R := g.linearIsometryEquiv with hR
  have hg : g = rigid R (g 0) := affineIso_eq_rigid g
  have hl : linPart (rigid R 0) = linPart g := by
    unfold linPart
    rw [rigid_linear]
  have h00 : (rigid R 0) 0 = 0 := by simp
  have e : ∀ u : Shell ℝ, u.moved g = (u.moved (rigid R 0)).moved (translation (g 0)) := by
    intro u
    conv_lhs => rw [hg]
    exact moved_rigid_split u R (g 0)
  rw [e s, e t,
    angmomBlock_translate_E3 (s.moved (rigid R 0)) (t.moved (rigid R 0)) (g 0) k ma ca mb cb hs ht
      (hfs.each_le hca),
    angmomBlock_moved_linear (rigid R 0) h00 s t k ma ca mb cb hs ht hfs hft hca hcb,
    momentumBlock_moved (rigid R 0) s t (k + 2) ma ca mb cb hs ht hfs hft hca hcb,
    momentumBlock_moved (rigid R 0) s t (k + 1) ma ca mb cb hs ht hfs hft hca hcb, hl]

theorem angmomBlock_moved_det (g : E3 ≃ᵃⁱ[ℝ] E3) (s t : Shell ℝ) (k : Fin 3) (ma ca mb cb : ℕ)
    (hs : ∀ k, k < s.nprim → 0 < s.exp! k) (ht : ∀ k, k < t.nprim → 0 < t.exp! k)
    (hfs : FullCart s.l s.cart) (hft : FullCart t.l t.cart)
    (hca : ca < s.ncart) (hcb : cb < t.ncart) :
    ((angmomBlock (s.moved g) (t.moved g)).get k).get4 ma ca mb cb
      = detOf (linPart g) * ∑ j : Fin 3, matOf (linPart g) k j *
          ∑ ca' ∈ range s.ncart, ∑ cb' ∈ range t.ncart,
            repMat (linPart g) s.cart ca ca' * repMat (linPart g) t.cart cb cb'
              * ((angmomBlock s t).get j).get4 ma ca' mb cb'
        + (g 0 (k + 1) * ∑ j : Fin 3, matOf (linPart g) (k + 2) j *
              ∑ ca' ∈ range s.ncart, ∑ cb' ∈ range t.ncart,
                repMat (linPart g) s.cart ca ca' * repMat (linPart g) t.cart cb cb'
                  * ((momentumBlock s t).get j).get4 ma ca' mb cb'
          - g 0 (k + 2) * ∑ j : Fin 3, matOf (linPart g) (k + 1) j *
              ∑ ca' ∈ range s.ncart, ∑ cb' ∈ range t.ncart,
                repMat (linPart g) s.cart ca ca' * repMat (linPart g) t.cart cb cb'
                  * ((momentumBlock s t).get j).get4 ma ca' mb cb') := by
  rw [angmomBlock_moved g s t k ma ca mb cb hs ht hfs hft hca hcb, sum_cof_mul]

end GB
