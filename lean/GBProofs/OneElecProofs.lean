import GBProofs.Basic
import Mathlib.Algebra.Polynomial.Derivative
import Mathlib.Algebra.Polynomial.Eval.Defs
import Mathlib.Tactic.Ring
import Mathlib.Tactic.LinearCombination
import Mathlib.Tactic.Linarith

/-!
# Obara–Saika vertical, Head-Gordon–Pople horizontal and electron-transfer recursions = Rys form

The specification is algebraic.  `Gh h` is the Gaussian functional over an arbitrary commutative
ring (moments `1, 0, h, 0, 3h², …`); over `K[X]`, the variable being the Rys variable `s = t²`, with
`h = (1/(2p))(1 - w s)` and centre `PA - s·WQ` it gives the 1-D Rys factors `rys2` (`w = 1`:
`rys1`, the one-electron factor).  The Boys functional `boysF F m` sends `s^n` to `F (m+n)`;
`Vspec2`, `Vspec`, `Espec` are `boysF` of a product of three 1-D factors.  Nothing depends on what
the sequence `F` is.  The recurrences are stated as relations on families (`VertRel`, `HorizRel`, `ETRel`, `RDK2`) that the
specification satisfies and the tables are built by.

The table theorems (`vert2`, `vertXYZ`, `horiz3`, `etransf` of `GBModel.OneElec`, `GBModel.TwoElec`)
are statements about the region that the Python code writes; outside it the Python arrays hold
zeros that were never written and nothing is claimed.
-/
open Polynomial

namespace GB

/-! ## A. Generic table lemmas -/
section Tables
variable {α : Type}

theorem rec2_zero (init dummy : α) (step : ℕ → α → α → α) :
    rec2 init dummy step 0 = (init, dummy) := rfl

theorem rec2_succ (init dummy : α) (step : ℕ → α → α → α) (a : ℕ) :
    (rec2 init dummy step (a+1)).1
      = step a (rec2 init dummy step a).1 (rec2 init dummy step a).2 := rfl

theorem rec2_succ_snd (init dummy : α) (step : ℕ → α → α → α) (a : ℕ) :
    (rec2 init dummy step (a+1)).2 = (rec2 init dummy step a).1 := rfl

theorem rec2All_spec (init dummy : α) (step : ℕ → α → α → α) (n : ℕ) :
    (rec2All init dummy step n).1.size = n ∧
    (∀ a (h : a < (rec2All init dummy step n).1.size),
        (rec2All init dummy step n).1[a] = (rec2 init dummy step a).1) ∧
    (rec2All init dummy step n).2.1 = (rec2 init dummy step n).1 ∧
    (rec2All init dummy step n).2.2 = (rec2 init dummy step n).2 := by
  induction n with
  | zero =>
    refine ⟨rfl, fun a h => ?_, rfl, rfl⟩
    simp [rec2All] at h
  | succ n ih =>
    obtain ⟨hs, hg, h1, h2⟩ := ih
    refine ⟨?_, fun a h => ?_, ?_, ?_⟩
    · simp [rec2All, hs]
    · simp only [rec2All]
      rw [Array.getElem_push]
      split
      · rename_i hlt; exact hg a hlt
      · rename_i hge
        have ha : a = n := by
          simp only [rec2All, Array.size_push] at h
          omega
        subst ha
        exact h1
    · simp only [rec2All, rec2, h1, h2]
    · simp only [rec2All, rec2, h1]

/-- no bound on `a`: beyond the `n` materialised rows `Tab.get` falls back on `Tab.fb`, which
`rows2` sets to the recursion itself -/
@[simp] theorem rows2_get (n : ℕ) (init dummy : α) (step : ℕ → α → α → α) (a : ℕ) :
    (rows2 n init dummy step).get a = (rec2 init dummy step a).1 := by
  unfold Tab.get rows2
  split
  · rename_i h; exact (rec2All_spec init dummy step n).2.1 a h
  · rfl

/-- at `a = 0` the previous row is `dummy`, hence the guard `0 < a` on what is known of `prev` -/
theorem rec2_ind (init dummy : α) (step : ℕ → α → α → α) (P : ℕ → α → Prop)
    (h0 : P 0 init)
    (hs : ∀ a cur prev, P a cur → (0 < a → P (a-1) prev) → P (a+1) (step a cur prev)) :
    ∀ a, P a (rec2 init dummy step a).1 := by
  have key : ∀ a, P a (rec2 init dummy step a).1 ∧
      (0 < a → P (a-1) (rec2 init dummy step a).2) := by
    intro a
    induction a with
    | zero => exact ⟨h0, fun h => absurd h (lt_irrefl 0)⟩
    | succ a ih => exact ⟨hs a _ _ ih.1 ih.2, fun _ => ih.1⟩
  exact fun a => (key a).1

theorem rec1_succ (init : α) (step : ℕ → α → α) (b : ℕ) :
    rec1 init step (b+1) = step b (rec1 init step b) := rfl

theorem rec1All_spec (init : α) (step : ℕ → α → α) (n : ℕ) :
    (rec1All init step n).1.size = n ∧
    (∀ a (h : a < (rec1All init step n).1.size),
        (rec1All init step n).1[a] = rec1 init step a) ∧
    (rec1All init step n).2 = rec1 init step n := by
  induction n with
  | zero =>
    refine ⟨rfl, fun a h => ?_, rfl⟩
    simp [rec1All] at h
  | succ n ih =>
    obtain ⟨hs, hg, h1⟩ := ih
    refine ⟨?_, fun a h => ?_, ?_⟩
    · simp [rec1All, hs]
    · simp only [rec1All]
      rw [Array.getElem_push]
      split
      · rename_i hlt; exact hg a hlt
      · rename_i hge
        have ha : a = n := by
          simp only [rec1All, Array.size_push] at h
          omega
        subst ha
        exact h1
    · simp only [rec1All, rec1, h1]

@[simp] theorem rows1_get (n : ℕ) (init : α) (step : ℕ → α → α) (b : ℕ) :
    (rows1 n init step).get b = rec1 init step b := by
  unfold Tab.get rows1
  split
  · rename_i h; exact (rec1All_spec init step n).2.1 b h
  · rfl

theorem rec1_ind (init : α) (step : ℕ → α → α) (P : ℕ → α → Prop)
    (h0 : P 0 init) (hs : ∀ b old, P b old → P (b+1) (step b old)) :
    ∀ b, P b (rec1 init step b) := by
  intro b
  induction b with
  | zero => exact h0
  | succ b ih => exact hs b _ ih

end Tables

/-! ## B. Specification in Rys form -/
section Functional
variable {R : Type*} [CommRing R]

lemma mul3_mid (u r v : R) : u * r * v = r * (u * v) := by ring

lemma mul3_last (u v r : R) : u * v * r = r * (u * v) := by ring

/-- centred Gaussian moments with `⟨x²⟩ = h`: `1, 0, h, 0, 3h², …` -/
def gm (h : R) : ℕ → R
  | 0 => 1
  | 1 => 0
  | (n+2) => ((n : R) + 1) * h * gm h n

/-- the Gaussian functional with parameter `h = 1/(2p)` over an arbitrary commutative ring -/
noncomputable def Gh (h : R) : R[X] →ₗ[R] R :=
  Polynomial.lsum (fun n => (LinearMap.id : R →ₗ[R] R).smulRight (gm h n))

lemma Gh_monomial (h : R) (n : ℕ) (a : R) : Gh h (monomial n a) = a * gm h n := by
  simp [Gh, Polynomial.lsum_apply, Polynomial.sum_monomial_index]

lemma Gh_one (h : R) : Gh h 1 = 1 := by
  have : (1 : R[X]) = monomial 0 1 := by simp
  rw [this, Gh_monomial]; simp [gm]

theorem Gh_X_mul (h : R) (q : R[X]) : Gh h (X * q) = h * Gh h (derivative q) := by
  induction q using Polynomial.induction_on' with
  | add a b ha hb => simp [mul_add, ha, hb]
  | monomial n a =>
    rw [derivative_monomial, X_mul_monomial, Gh_monomial, Gh_monomial]
    cases n with
    | zero => simp [gm]
    | succ m =>
      cases m with
      | zero => simp [gm, mul_comm]
      | succ k =>
        simp only [Nat.add_sub_cancel, gm]
        push_cast
        ring

/-- 1-D two-centre factor `⟨(x-A)^i (x-B)^j⟩`, `PA = P - A`, `PB = P - B` -/
noncomputable def S2 (h PA PB : R) (i j : ℕ) : R := Gh h ((X + C PA)^i * (X + C PB)^j)

lemma S2_zero (h PA PB : R) : S2 h PA PB 0 0 = 1 := by simp [S2, Gh_one]

theorem S2_succ_i (h PA PB : R) (i j : ℕ) :
    S2 h PA PB (i+1) j = PA * S2 h PA PB i j
      + h * ((i:R) * S2 h PA PB (i-1) j + (j:R) * S2 h PA PB i (j-1)) := by
  unfold S2
  set Q : R[X] := (X + C PA)^i * (X + C PB)^j with hQ
  have h1 : (X + C PA)^(i+1) * (X + C PB)^j = C PA * Q + X * Q := by rw [hQ]; ring
  have h3 : derivative Q = C (i:R) * ((X + C PA)^(i-1) * (X + C PB)^j)
      + C (j:R) * ((X + C PA)^i * (X + C PB)^(j-1)) := by
    rw [hQ]; simp only [derivative_mul, derivative_X_add_C_pow, map_natCast]; ring
  rw [h1, LinearMap.map_add, Gh_X_mul, h3]
  simp only [LinearMap.map_add, ← smul_eq_C_mul, LinearMap.map_smul, smul_eq_mul]

/-- from `(x-B) = (x-A) + (A-B)` -/
theorem S2_horizontal (h PA PB : R) (i j : ℕ) :
    S2 h PA PB i (j+1) = S2 h PA PB (i+1) j + (PB - PA) * S2 h PA PB i j := by
  unfold S2
  have : (X + C PA)^i * (X + C PB)^(j+1)
      = (X + C PA)^(i+1) * (X + C PB)^j + C (PB - PA) * ((X + C PA)^i * (X + C PB)^j) := by
    simp only [C_sub]; ring
  rw [this, LinearMap.map_add, ← smul_eq_C_mul, LinearMap.map_smul, smul_eq_mul]

end Functional

section Rys
variable {K : Type} [Field K]

/-- Boys functional: `s^n ↦ F (m+n)` (for the Boys function, `∫₀¹ t^{2m} (t²)^n e^{-T t²} dt`) -/
noncomputable def boysF (F : ℕ → K) (m : ℕ) : K[X] →ₗ[K] K :=
  Polynomial.lsum (fun n => (LinearMap.id : K →ₗ[K] K).smulRight (F (m + n)))

lemma boysF_monomial (F : ℕ → K) (m n : ℕ) (a : K) : boysF F m (monomial n a) = a * F (m + n) := by
  rw [boysF, Polynomial.lsum_apply, Polynomial.sum_monomial_index]
  · rfl
  · exact zero_mul _

theorem boysF_X_mul (F : ℕ → K) (m : ℕ) (w : K[X]) : boysF F m (X * w) = boysF F (m+1) w := by
  induction w using Polynomial.induction_on' with
  | add a b ha hb => rw [mul_add, LinearMap.map_add, LinearMap.map_add, ha, hb]
  | monomial n a => rw [X_mul_monomial, boysF_monomial, boysF_monomial, add_right_comm, add_assoc]

lemma boysF_one (F : ℕ → K) (m : ℕ) : boysF F m 1 = F m := by
  rw [← monomial_zero_one, boysF_monomial, one_mul, add_zero]

lemma boysF_C_mul (F : ℕ → K) (m : ℕ) (c : K) (w : K[X]) :
    boysF F m (C c * w) = c * boysF F m w := by
  rw [← smul_eq_C_mul, LinearMap.map_smul, smul_eq_mul]

/-- 1-D Rys factor of the one-electron Coulomb integral: variance `(1/(2p))(1 - s)`,
centre shifted by `-s·PC` -/
noncomputable def rys1 (p PA PB PC : K) (i j : ℕ) : K[X] :=
  S2 (R := K[X]) (C (1/(2*p)) * (1 - X)) (C PA - X * C PC) (C PB - X * C PC) i j

lemma rys1_zero (p PA PB PC : K) : rys1 p PA PB PC 0 0 = 1 := S2_zero _ _ _

/-- 1-D Rys factor of the two-electron integral `[a 0|0 0]`: variance `(1/(2p))(1 - w s)` with
`w = ρ/p`, centre `PA - s·WQ` with `WQ = (ρ/p)(P - Q)` (the second power is 0, its centre is
irrelevant) -/
noncomputable def rys2 (p w PA WQ : K) (i : ℕ) : K[X] :=
  S2 (R := K[X]) (C (1/(2*p)) * (1 - C w * X)) (C PA - X * C WQ) 0 i 0

lemma rys2_zero (p w PA WQ : K) : rys2 p w PA WQ 0 = 1 := S2_zero _ _ _

lemma rys2_one (p PA PB PC : K) (i : ℕ) : rys2 p 1 PA PC i = rys1 p PA PB PC i 0 := by
  simp only [rys2, rys1, S2, pow_zero, map_one, one_mul]

/-- `S2_succ_i` with the Rys parameters is the formula of `vertStep2`; `v` carries the other two
axes -/
theorem os_vertical2 (F : ℕ → K) (p w PA WQ : K) (v : K[X]) (i m : ℕ) :
    boysF F m (rys2 p w PA WQ (i+1) * v)
      = PA * boysF F m (rys2 p w PA WQ i * v) - WQ * boysF F (m+1) (rys2 p w PA WQ i * v)
        + (i:K) * (1/(2*p)) * (boysF F m (rys2 p w PA WQ (i-1) * v)
                               - w * boysF F (m+1) (rys2 p w PA WQ (i-1) * v)) := by
  unfold rys2
  rw [S2_succ_i]
  simp only [Nat.cast_zero, zero_mul, add_zero]
  simp only [← boysF_X_mul]
  have : ∀ (a b : K[X]),
      ((C PA - X * C WQ) * a + C (1/(2*p)) * (1 - C w * X) * ((i:K[X]) * b)) * v
      = C PA * (a * v) - C WQ * (X * (a * v))
        + C ((i:K) * (1/(2*p))) * (b * v - C w * (X * (b * v))) := by
    intro a b; simp only [C_mul, map_natCast]; ring
  rw [this]
  simp only [LinearMap.map_add, LinearMap.map_sub, ← smul_eq_C_mul, LinearMap.map_smul, smul_eq_mul]

theorem os_vertical (F : ℕ → K) (p PA PB PC : K) (w : K[X]) (i m : ℕ) :
    boysF F m (rys1 p PA PB PC (i+1) 0 * w)
      = PA * boysF F m (rys1 p PA PB PC i 0 * w) - PC * boysF F (m+1) (rys1 p PA PB PC i 0 * w)
        + (i:K) * (1/(2*p)) * (boysF F m (rys1 p PA PB PC (i-1) 0 * w)
                               - boysF F (m+1) (rys1 p PA PB PC (i-1) 0 * w)) := by
  simpa only [rys2_one p PA PB PC, one_mul] using os_vertical2 F p 1 PA PC w i m

theorem rys1_horizontal (p PA PB PC : K) (i j : ℕ) :
    rys1 p PA PB PC i (j+1) = rys1 p PA PB PC (i+1) j + C (PB - PA) * rys1 p PA PB PC i j := by
  unfold rys1
  rw [S2_horizontal]
  congr 2
  simp only [C_sub]; ring

theorem os_horizontal (F : ℕ → K) (p PA PB PC : K) (w : K[X]) (i j m : ℕ) :
    boysF F m (rys1 p PA PB PC i (j+1) * w)
      = boysF F m (rys1 p PA PB PC (i+1) j * w)
        + (PB - PA) * boysF F m (rys1 p PA PB PC i j * w) := by
  rw [rys1_horizontal, add_mul, LinearMap.map_add, mul_assoc, boysF_C_mul]

noncomputable def rysAx (p : K) (PA PB PC : ℕ → K) (u i j : ℕ) : K[X] :=
  rys1 p (PA u) (PB u) (PC u) i j

/-- specification of the auxiliary integral `[a|b]^{(m)}` without its prefactor -/
noncomputable def Vspec (F : ℕ → K) (p : K) (PA PB PC : ℕ → K) (m : ℕ) (a b : ℕ × ℕ × ℕ) : K :=
  boysF F m (rysAx p PA PB PC 0 a.1 b.1 * rysAx p PA PB PC 1 a.2.1 b.2.1
    * rysAx p PA PB PC 2 a.2.2 b.2.2)

theorem Vspec_zero (F : ℕ → K) (p : K) (PA PB PC : ℕ → K) (m : ℕ) :
    Vspec F p PA PB PC m (0,0,0) (0,0,0) = F m := by
  simp [Vspec, rysAx, rys1_zero, boysF_one]

/-- specification of `[a 0|0 0]^{(m)}` without its prefactor -/
noncomputable def Vspec2 (F : ℕ → K) (p w : K) (PA WQ : ℕ → K) (m : ℕ) (a : ℕ × ℕ × ℕ) : K :=
  boysF F m (rys2 p w (PA 0) (WQ 0) a.1 * rys2 p w (PA 1) (WQ 1) a.2.1
    * rys2 p w (PA 2) (WQ 2) a.2.2)

theorem Vspec2_zero (F : ℕ → K) (p w : K) (PA WQ : ℕ → K) (m : ℕ) :
    Vspec2 F p w PA WQ m (0,0,0) = F m := by
  simp [Vspec2, rys2_zero, boysF_one]

theorem Vspec2_one (F : ℕ → K) (p : K) (PA PB PC : ℕ → K) (m : ℕ) (a : ℕ × ℕ × ℕ) :
    Vspec2 F p 1 PA PC m a = Vspec F p PA PB PC m a (0,0,0) := by
  simp only [Vspec2, Vspec, rysAx]
  rw [rys2_one p _ (PB 0), rys2_one p _ (PB 1), rys2_one p _ (PB 2)]

end Rys

/-! ## C. The vertical tables -/
section VertTable
variable {K : Type} [Field K]

/-- the recurrences in the shape in which the three passes use them (x with `ay = az = 0`, y with
`az = 0`, z for all); `w = 1` for the one-electron integrals, `w = ρ/p` for the two-electron ones -/
structure VertRel (PA PC : ℕ → K) (h w : K) (V : ℕ → ℕ → ℕ → ℕ → K) : Prop where
  x : ∀ m ax, V m (ax+1) 0 0 = PA 0 * V m ax 0 0 - PC 0 * V (m+1) ax 0 0
        + (ax:K) * h * (V m (ax-1) 0 0 - w * V (m+1) (ax-1) 0 0)
  y : ∀ m ax ay, V m ax (ay+1) 0 = PA 1 * V m ax ay 0 - PC 1 * V (m+1) ax ay 0
        + (ay:K) * h * (V m ax (ay-1) 0 - w * V (m+1) ax (ay-1) 0)
  z : ∀ m ax ay az, V m ax ay (az+1) = PA 2 * V m ax ay az - PC 2 * V (m+1) ax ay az
        + (az:K) * h * (V m ax ay (az-1) - w * V (m+1) ax ay (az-1))

theorem VertRel.const_mul {PA PC : ℕ → K} {h w : K} {V : ℕ → ℕ → ℕ → ℕ → K}
    (hV : VertRel PA PC h w V) (c : K) : VertRel PA PC h w (fun m ax ay az => c * V m ax ay az) where
  x := by intro m ax; rw [hV.x]; ring
  y := by intro m ax ay; rw [hV.y]; ring
  z := by intro m ax ay az; rw [hV.z]; ring

theorem vertRel_Vspec2 (F : ℕ → K) (p w pref : K) (PA WQ : ℕ → K) :
    VertRel PA WQ (1/(2*p)) w (fun m ax ay az => pref * Vspec2 F p w PA WQ m (ax, ay, az)) := by
  refine VertRel.const_mul ⟨?_, ?_, ?_⟩ pref
  · intro m ax
    simp only [Vspec2, mul_assoc (G := K[X])]
    exact os_vertical2 ..
  · intro m ax ay
    simp only [Vspec2, mul3_mid (R := K[X])]
    exact os_vertical2 ..
  · intro m ax ay az
    simp only [Vspec2, mul3_last (R := K[X])]
    exact os_vertical2 ..

variable {PA WQ : ℕ → K} {h w : K} {mMax : ℕ} {base : ℕ → K} {V : ℕ → ℕ → ℕ → ℕ → K}

/-- the three passes of `vert2` (x, then y for every x, then z for every x, y) in turn, each by
`rec2_ind` -/
theorem vert2_get (hV : VertRel PA WQ h w V) (hb : ∀ m, m < mMax → V m 0 0 0 = base m) :
    ∀ az ay ax m, m + ax + ay + az < mMax →
      (vert2 PA WQ h w mMax base).get4 az ay ax m = V m ax ay az := by
  unfold vert2
  extract_lets vx vxy
  have hx : ∀ ax m, m + ax < mMax → vx.get2 ax m = V m ax 0 0 := by
    intro ax
    simp only [vx, Tab.get2, rows2_get]
    refine rec2_ind _ _ _ (fun a (t : Tab K) => ∀ m, m + a < mMax → t.get m = V m a 0 0) ?_ ?_ ax
    · intro m hm; rw [tab_get, hb m (by omega)]
    · intro a cur prev hc hp m hm
      have hg : m + 1 < mMax := by omega
      simp only [tab_get, vertStep2, if_pos hg, num_nat]
      rw [hc m (by omega), hc (m+1) (by omega), hV.x]
      rcases Nat.eq_zero_or_pos a with rfl | ha
      · simp only [Nat.cast_zero, zero_mul, add_zero]
      · rw [hp ha m (by omega), hp ha (m+1) (by omega)]
  have hxy : ∀ ay ax m, m + ax + ay < mMax → vxy.get3 ay ax m = V m ax ay 0 := by
    intro ay
    simp only [vxy, Tab.get3, rows2_get]
    refine rec2_ind _ _ _
      (fun a (t : Tab (Tab K)) => ∀ ax m, m + ax + a < mMax → t.get2 ax m = V m ax a 0) ?_ ?_ ay
    · intro ax m hm; exact hx ax m (by omega)
    · intro a cur prev hc hp ax m hm
      have hg : m + 1 < mMax := by omega
      rw [Tab.get2, tab_get, tab_get]
      simp only [vertStep2, if_pos hg, num_nat]
      rw [hc ax m (by omega), hc ax (m+1) (by omega), hV.y]
      rcases Nat.eq_zero_or_pos a with rfl | ha
      · simp only [Nat.cast_zero, zero_mul, add_zero]
      · rw [hp ha ax m (by omega), hp ha ax (m+1) (by omega)]
  intro az
  simp only [Tab.get4, rows2_get]
  refine rec2_ind _ _ _
    (fun a (t : Tab3 K) => ∀ ay ax m, m + ax + ay + a < mMax → t.get3 ay ax m = V m ax ay a)
    ?_ ?_ az
  · intro ay ax m hm; exact hxy ay ax m (by omega)
  · intro a cur prev hc hp ay ax m hm
    have hg : m + 1 < mMax := by omega
    rw [Tab.get3, tab_get, Tab.get2, tab_get, tab_get]
    simp only [vertStep2, if_pos hg, num_nat]
    rw [hc ay ax m (by omega), hc ay ax (m+1) (by omega), hV.z]
    rcases Nat.eq_zero_or_pos a with rfl | ha
    · simp only [Nat.cast_zero, zero_mul, add_zero]
    · rw [hp ha ay ax m (by omega), hp ha ay ax (m+1) (by omega)]

/-- The vertical recursion of `_compute_two_elec_integrals`, where `w = ρ/p`, `WQ = (ρ/p)(P-Q)`
and the table is indexed `[az][ay][ax][m]`.  Outside the region `m + ax + ay + az < mMax` the
Python array holds unwritten zeros and the theorem says nothing. -/
theorem vert2_eq_Vspec2 (F : ℕ → K) (p w pref : K) (PA WQ : ℕ → K) (mMax : ℕ) (base : ℕ → K)
    (hbase : ∀ m, m < mMax → base m = pref * F m)
    (az ay ax m : ℕ) (hm : m + ax + ay + az < mMax) :
    (vert2 PA WQ (1/(2*p)) w mMax base).get4 az ay ax m
      = pref * Vspec2 F p w PA WQ m (ax, ay, az) := by
  refine vert2_get (V := fun m ax ay az => pref * Vspec2 F p w PA WQ m (ax, ay, az))
    (vertRel_Vspec2 F p w pref PA WQ) ?_ az ay ax m hm
  intro m hm
  simp only [Vspec2_zero]
  exact (hbase m hm).symm

/-- the same with `h` spelled as in `eriGeneral` -/
theorem vert2_eq_Vspec2' (F : ℕ → K) (p w pref : K) (PA WQ : ℕ → K) (mMax : ℕ) (base : ℕ → K)
    (hbase : ∀ m, m < mMax → base m = pref * F m)
    (az ay ax m : ℕ) (hm : m + ax + ay + az < mMax) :
    (vert2 PA WQ (Num.nat 1 / (Num.nat 2 * p)) w mMax base).get4 az ay ax m
      = pref * Vspec2 F p w PA WQ m (ax, ay, az) := by
  have := vert2_eq_Vspec2 F p w pref PA WQ mMax base hbase az ay ax m hm
  simpa only [num_nat, Nat.cast_one, Nat.cast_ofNat] using this

theorem vertStep_eq (PA PC h : K) (mMax a : ℕ) (cur prev curU prevU : K) (m : ℕ) :
    vertStep PA PC h mMax a cur prev curU prevU m
      = vertStep2 PA PC h 1 mMax a cur prev curU prevU m := by
  rw [vertStep, vertStep2, one_mul]

theorem vertXYZ_eq_vert2 (PA PC : ℕ → K) (h : K) (mMax : ℕ) (base : ℕ → K) :
    vertXYZ PA PC h mMax base = vert2 PA PC h 1 mMax base := by
  simp only [vertXYZ, vertXY, vertX, vert2, vertStep_eq]

section
variable {PA PC : ℕ → K} {h : K} {mMax : ℕ} {base : ℕ → K} {V : ℕ → ℕ → ℕ → ℕ → K}

theorem vertXYZ_get (hV : VertRel PA PC h 1 V) (hb : ∀ m, m < mMax → V m 0 0 0 = base m) :
    ∀ az ay ax m, m + ax + ay + az < mMax →
      (vertXYZ PA PC h mMax base).get4 az ay ax m = V m ax ay az := by
  rw [vertXYZ_eq_vert2]
  exact vert2_get hV hb

end

/-- The vertical recursion of `_compute_one_elec_integrals`.  For the point-charge integrals
`F m = F_m(p·|PC|²)` and `pref = (2π/p) e^{-ab/p |AB|²}`; the algebra needs neither.
`PB` does not matter since `b = 0`.

Outside the region `hm` the Python array holds zeros that were never written (and the model returns
whatever its guarded steps produce): the theorem says nothing about those entries, and the code
never reads them. -/
theorem vertXYZ_eq_Vspec (F : ℕ → K) (p pref : K) (PA PB PC : ℕ → K) (mMax : ℕ) (base : ℕ → K)
    (hbase : ∀ m, m < mMax → base m = pref * F m)
    (az ay ax m : ℕ) (hm : m + ax + ay + az < mMax) :
    (vertXYZ PA PC (1/(2*p)) mMax base).get4 az ay ax m
      = pref * Vspec F p PA PB PC m (ax, ay, az) (0,0,0) := by
  rw [vertXYZ_eq_vert2, ← Vspec2_one]
  exact vert2_eq_Vspec2 F p 1 pref PA PC mMax base hbase az ay ax m hm

/-- the same with `h` spelled as in `oneElecBlockOrdered` -/
theorem vertXYZ_eq_Vspec' (F : ℕ → K) (p pref : K) (PA PB PC : ℕ → K) (mMax : ℕ) (base : ℕ → K)
    (hbase : ∀ m, m < mMax → base m = pref * F m)
    (az ay ax m : ℕ) (hm : m + ax + ay + az < mMax) :
    (vertXYZ PA PC (Num.nat 1 / (Num.nat 2 * p)) mMax base).get4 az ay ax m
      = pref * Vspec F p PA PB PC m (ax, ay, az) (0,0,0) := by
  have := vertXYZ_eq_Vspec F p pref PA PB PC mMax base hbase az ay ax m hm
  simpa only [num_nat, Nat.cast_one, Nat.cast_ofNat] using this

end VertTable

/-! ## D. The horizontal table -/
section HorizTable
variable {K : Type} [Field K]

structure HorizRel (AB : ℕ → K) (g : ℕ × ℕ × ℕ → ℕ × ℕ × ℕ → K) : Prop where
  x : ∀ ax ay az bx by' bz, g (ax, ay, az) (bx+1, by', bz)
        = g (ax+1, ay, az) (bx, by', bz) + AB 0 * g (ax, ay, az) (bx, by', bz)
  y : ∀ ax ay az bx by' bz, g (ax, ay, az) (bx, by'+1, bz)
        = g (ax, ay+1, az) (bx, by', bz) + AB 1 * g (ax, ay, az) (bx, by', bz)
  z : ∀ ax ay az bx by' bz, g (ax, ay, az) (bx, by', bz+1)
        = g (ax, ay, az+1) (bx, by', bz) + AB 2 * g (ax, ay, az) (bx, by', bz)

/-- the relations survive contraction (sums over primitives with weights that do not depend on
the angular indices), because `AB` does not depend on the primitive -/
theorem HorizRel.sum {ι : Type} (AB : ℕ → K) (s : Finset ι) (c : ι → K)
    (g : ι → ℕ × ℕ × ℕ → ℕ × ℕ × ℕ → K) (hg : ∀ i ∈ s, HorizRel AB (g i)) :
    HorizRel AB (fun a b => ∑ i ∈ s, c i * g i a b) where
  x := by
    intro ax ay az bx by' bz
    rw [Finset.mul_sum, ← Finset.sum_add_distrib]
    exact Finset.sum_congr rfl fun i hi => by rw [(hg i hi).x]; ring
  y := by
    intro ax ay az bx by' bz
    rw [Finset.mul_sum, ← Finset.sum_add_distrib]
    exact Finset.sum_congr rfl fun i hi => by rw [(hg i hi).y]; ring
  z := by
    intro ax ay az bx by' bz
    rw [Finset.mul_sum, ← Finset.sum_add_distrib]
    exact Finset.sum_congr rfl fun i hi => by rw [(hg i hi).z]; ring

theorem HorizRel.smul (AB : ℕ → K) (c : K) (g : ℕ × ℕ × ℕ → ℕ × ℕ × ℕ → K) (hg : HorizRel AB g) :
    HorizRel AB (fun a b => c * g a b) where
  x := by intro ax ay az bx by' bz; rw [hg.x]; ring
  y := by intro ax ay az bx by' bz; rw [hg.y]; ring
  z := by intro ax ay az bx by' bz; rw [hg.z]; ring

/-- `PB u - PA u` is `(A - B)_u` -/
theorem horizRel_Vspec (F : ℕ → K) (p c : K) (PA PB PC : ℕ → K) (m : ℕ) :
    HorizRel (fun u => PB u - PA u) (fun a b => c * Vspec F p PA PB PC m a b) := by
  refine HorizRel.smul _ c _ ⟨?_, ?_, ?_⟩
  · intro ax ay az bx by' bz
    simp only [Vspec, rysAx, mul_assoc (G := K[X])]
    exact os_horizontal ..
  · intro ax ay az bx by' bz
    simp only [Vspec, rysAx, mul3_mid (R := K[X])]
    exact os_horizontal ..
  · intro ax ay az bx by' bz
    simp only [Vspec, rysAx, mul3_last (R := K[X])]
    exact os_horizontal ..

variable {AB : ℕ → K} {n : ℕ} {h0 : Tab3 K} {g : ℕ × ℕ × ℕ → ℕ × ℕ × ℕ → K}

/-- The Head-Gordon–Pople recursion of `_compute_one_elec_integrals`, also used twice by
`_compute_two_elec_integrals`; the table is indexed `[bz][by][bx][ax][ay][az]`.
The materialisation bounds `lb`, `la` of `horiz3` play no role (in particular the statement holds
for `b_i ≤ lb`, `a_i ≤ la`, which is what the selection reads).
Outside the region `|a| + |b| < n` the Python array holds unwritten zeros / values computed from
them; the theorem says nothing there. -/
theorem horiz3_get (hg : HorizRel AB g)
    (h00 : ∀ ax ay az, ax + ay + az < n → h0.get3 ax ay az = g (ax, ay, az) (0,0,0)) (lb la : ℕ) :
    ∀ bz by' bx ax ay az, ax + ay + az + bx + by' + bz < n →
      ((horiz3 AB n lb la h0).get3 bz by' bx).get3 ax ay az = g (ax, ay, az) (bx, by', bz) := by
  unfold horiz3
  extract_lets hx hy
  have hX : ∀ bx ax ay az, ax + ay + az + bx < n →
      (hx.get bx).get3 ax ay az = g (ax, ay, az) (bx, 0, 0) := by
    intro bx
    simp only [hx, rows1_get]
    refine rec1_ind _ _ (fun b (t : Tab3 K) => ∀ ax ay az, ax + ay + az + b < n →
      t.get3 ax ay az = g (ax, ay, az) (b, 0, 0)) ?_ ?_ bx
    · intro ax ay az hm; exact h00 ax ay az (by omega)
    · intro b old ho ax ay az hm
      have hgd : ax + 1 < n := by omega
      rw [tab3_get]
      simp only [horizStep, if_pos hgd]
      rw [ho ax ay az (by omega), ho (ax+1) ay az (by omega), hg.x]
  have hY : ∀ by' bx ax ay az, ax + ay + az + bx + by' < n →
      ((hy.get by').get bx).get3 ax ay az = g (ax, ay, az) (bx, by', 0) := by
    intro by'
    simp only [hy, rows1_get]
    refine rec1_ind _ _ (fun b (t : Tab (Tab3 K)) => ∀ bx ax ay az, ax + ay + az + bx + b < n →
      (t.get bx).get3 ax ay az = g (ax, ay, az) (bx, b, 0)) ?_ ?_ by'
    · intro bx ax ay az hm
      rw [tab_get]
      exact hX bx ax ay az (by omega)
    · intro b old ho bx ax ay az hm
      have hgd : ay + 1 < n := by omega
      rw [tab_get, tab3_get]
      simp only [horizStep, if_pos hgd]
      rw [ho bx ax ay az (by omega), ho bx ax (ay+1) az (by omega), hg.y]
  intro bz by' bx
  rw [Tab.get3, rows1_get]
  revert by' bx
  refine rec1_ind _ _ (fun b (t : Tab (Tab (Tab3 K))) => ∀ by' bx ax ay az,
    ax + ay + az + bx + by' + b < n → (t.get2 by' bx).get3 ax ay az = g (ax, ay, az) (bx, by', b))
    ?_ ?_ bz
  · intro by' bx ax ay az hm
    rw [Tab.get2, tab_get, tab_get]
    exact hY by' bx ax ay az (by omega)
  · intro b old ho by' bx ax ay az hm
    have hgd : az + 1 < n := by omega
    rw [tab2_get, tab3_get]
    simp only [horizStep, if_pos hgd]
    rw [ho by' bx ax ay az (by omega), ho by' bx ax ay (az+1) (by omega), hg.z]

theorem horiz3_eq_Vspec (F : ℕ → K) (p c : K) (PA PB PC : ℕ → K) (n lb la : ℕ) (h0 : Tab3 K)
    (h00 : ∀ ax ay az, ax + ay + az < n →
      h0.get3 ax ay az = c * Vspec F p PA PB PC 0 (ax, ay, az) (0,0,0))
    (bz by' bx ax ay az : ℕ) (hm : ax + ay + az + bx + by' + bz < n) :
    ((horiz3 (fun u => PB u - PA u) n lb la h0).get3 bz by' bx).get3 ax ay az
      = c * Vspec F p PA PB PC 0 (ax, ay, az) (bx, by', bz) :=
  horiz3_get (horizRel_Vspec F p c PA PB PC 0) h00 lb la bz by' bx ax ay az hm

end HorizTable

/-! ## E. The electron-transfer step as a combination of the two Rys (RDK) recurrences -/
section ETransfer
variable {R : Type*} [CommRing R]

/-- two-variable centred Gaussian functional on monomials `y₁^m y₂^n` via the Wick recursion;
`a = σ₁₁`, `b = σ₁₂`, `c = σ₂₂` in an arbitrary commutative ring (`K[X]` for the Rys form) -/
def W (a b c : R) : ℕ → ℕ → R
  | 0, 0 => 1
  | 0, 1 => 0
  | 0, n+2 => c * ((n : R) + 1) * W a b c 0 n
  | m+1, n => a * (m : R) * W a b c (m - 1) n + b * (n : R) * W a b c m (n - 1)
termination_by m n => (m, n)
decreasing_by
  all_goals simp_wf
  · right; omega
  · left; omega
  · left; omega

lemma W_succ (a b c : R) (m n : ℕ) :
    W a b c (m+1) n = a * (m : R) * W a b c (m - 1) n + b * (n : R) * W a b c m (n - 1) := by
  rw [W]

/-- the two Rys–Dupuis–King recurrences of a 2-D integral family `I n m` (`n`: electron 1, `m`:
electron 2) with centre shifts `c1`, `c2` and covariances `b10`, `b00`, `b01` -/
structure RDK2 (c1 c2 b10 b00 b01 : R) (I : ℕ → ℕ → R) : Prop where
  a : ∀ n m, I (n+1) m = c1 * I n m + b10 * (n:R) * I (n-1) m + b00 * (m:R) * I n (m-1)
  c : ∀ n m, I n (m+1) = c2 * I n m + b00 * (n:R) * I (n-1) m + b01 * (m:R) * I n (m-1)

theorem RDK2.mul_right {c1 c2 b10 b00 b01 : R} {I : ℕ → ℕ → R} (hI : RDK2 c1 c2 b10 b00 b01 I)
    (v : R) : RDK2 c1 c2 b10 b00 b01 (fun n m => I n m * v) where
  a := fun n m => by rw [hI.a]; ring
  c := fun n m => by rw [hI.c]; ring

theorem RDK2.combine {c1 c2 b10 b00 b01 : R} {I : ℕ → ℕ → R} (hI : RDK2 c1 c2 b10 b00 b01 I)
    {P Q c0 h : R} (h1 : P * c1 + Q * c2 = c0) (h2 : P * b10 + Q * b00 = h)
    (h3 : P * b00 + Q * b01 = h) (n m : ℕ) :
    Q * I n (m+1)
      = c0 * I n m + h * (n:R) * I (n-1) m + h * (m:R) * I n (m-1) - P * I (n+1) m := by
  linear_combination Q * hI.c n m + P * hI.a n m + I n m * h1 + (n:R) * I (n-1) m * h2
    + (m:R) * I n (m-1) * h3

variable {K : Type} [Field K] [CharZero K]

omit [CharZero K] in
lemma C_linear_half (a α w b β : K) (h1 : a * α = 1/2) (h2 : b * β = 1/2 * w) :
    C a * (C α * (1 - C w * X)) + C b * (C β * X) = C (1/2) := by
  have : C a * (C α * (1 - C w * X)) + C b * (C β * X)
      = C (a * α) + C (b * β - a * α * w) * X := by
    simp only [C_mul, C_sub]; ring
  rw [this, h2, h1, sub_self, C_0, zero_mul, add_zero]

/-- The electron-transfer relation is `p·(first RDK recurrence) + q·(second)`.
Let `I n m : K[s]` satisfy the two RDK recurrences with the Rys parameters of a primitive quartet
(`w = ρ/p = q/(p+q)`, `w' = ρ/q = p/(p+q)`, `PQ = (P-Q)_u`, `B₀₀ = s/(2(p+q))`,
`B₁₀ = (1/(2p))(1 - w s)`, `B₀₁ = (1/(2q))(1 - w' s)`, `C₀₀ = PA - s·w·PQ`, `C₀₀' = QC + s·w'·PQ`).
In the combination all `s`-dependence cancels, so for every linear functional `L` (the Boys
functional) and every cofactor `v` (the other two axes) the values `E n m = L (I n m · v)` satisfy
the relation with constant coefficients that `etStep` implements. -/
theorem etransfer_of_rdk (p q w w' PA QC PQ : K) (hp : p ≠ 0) (hq : q ≠ 0) (hpq : p + q ≠ 0)
    (hw : w * (p + q) = q) (hw' : w' * (p + q) = p)
    (I : ℕ → ℕ → K[X])
    (hI : RDK2 (C PA - X * C (w * PQ)) (C QC + X * C (w' * PQ))
      (C (1/(2*p)) * (1 - C w * X)) (C (1/(2*(p+q))) * X) (C (1/(2*q)) * (1 - C w' * X)) I)
    (L : K[X] →ₗ[K] K) (v : K[X]) (n m : ℕ) :
    L (I n (m+1) * v) = (QC + p / q * PA) * L (I n m * v)
      + (n:K) * (1/(2*q)) * L (I (n-1) m * v) + (m:K) * (1/(2*q)) * L (I n (m-1) * v)
      - p / q * L (I (n+1) m * v) := by
  have hwq : p * w = q * w' :=
    mul_right_cancel₀ hpq (by linear_combination p * hw - q * hw')
  have k1 : C p * (C PA - X * C (w * PQ)) + C q * (C QC + X * C (w' * PQ))
      = C (p * PA + q * QC) := by
    have hC := congrArg C hwq
    simp only [C_mul, C_add] at hC ⊢
    linear_combination (-X * C PQ) * hC
  have hp2 : p * (1/(2*p)) = 1/2 := by field_simp
  have hq2 : q * (1/(2*q)) = 1/2 := by field_simp
  have hpq2 : ∀ x y : K, y * (p + q) = x → x * (1/(2*(p+q))) = 1/2 * y := by
    rintro x y rfl; field_simp
  have k2 := C_linear_half p (1/(2*p)) w q (1/(2*(p+q))) hp2 (hpq2 q w hw)
  have k3 := C_linear_half q (1/(2*q)) w' p (1/(2*(p+q))) hq2 (hpq2 p w' hw')
  rw [add_comm] at k3
  have key := congrArg L ((hI.mul_right v).combine k1 k2 k3 n m)
  simp only [← C_eq_natCast, ← C_mul] at key
  simp only [LinearMap.map_add, LinearMap.map_sub, ← smul_eq_C_mul, LinearMap.map_smul,
    smul_eq_mul] at key
  -- `key` divided by `q`
  have hq' : q * q⁻¹ = 1 := mul_inv_cancel₀ hq
  linear_combination q⁻¹ * key - (L (I n (m+1) * v) - QC * L (I n m * v)) * hq'

/-- the same statement in terms of the model's `etStep` (index `a` on the transferred-from axis,
`c` on the transferred-to axis), with the parameters as `eriGeneral` passes them -/
theorem etStep_of_rdk (p q w w' PA QC PQ : K) (hp : p ≠ 0) (hq : q ≠ 0) (hpq : p + q ≠ 0)
    (hw : w * (p + q) = q) (hw' : w' * (p + q) = p)
    (I : ℕ → ℕ → K[X])
    (hI : RDK2 (C PA - X * C (w * PQ)) (C QC + X * C (w' * PQ))
      (C (1/(2*p)) * (1 - C w * X)) (C (1/(2*(p+q))) * X) (C (1/(2*q)) * (1 - C w' * X)) I)
    (L : K[X] →ₗ[K] K) (v : K[X]) (mMax c a : ℕ) (ha : a + 1 < mMax) :
    etStep (QC + p / q * PA) (p / q) (Num.nat 1 / (Num.nat 2 * q)) mMax c a
      (L (I a c * v)) (L (I (a-1) c * v)) (L (I (a+1) c * v)) (L (I a (c-1) * v))
      = L (I a (c+1) * v) := by
  rw [etransfer_of_rdk p q w w' PA QC PQ hp hq hpq hw hw' I hI L v a c]
  simp only [etStep, if_pos ha, num_nat, Nat.cast_one, Nat.cast_ofNat]

end ETransfer

/-! ## F. Two-variable Gaussian functional with shifted centres, electron-transfer table -/
section Shifted
variable {R : Type*} [CommRing R]

/-- the 2-D integral family `⟨(y₁+c1)^m (y₂+c2)^n⟩` of a centred Gaussian pair with covariances
`a = σ₁₁`, `b = σ₁₂`, `c = σ₂₂`, *defined* by the first RDK recurrence (and the 1-D recurrence on
the second variable for `m = 0`) -/
def Ws (c1 c2 a b c : R) : ℕ → ℕ → R
  | 0, 0 => 1
  | 0, 1 => c2
  | 0, n+2 => c2 * Ws c1 c2 a b c 0 (n+1) + c * ((n : R) + 1) * Ws c1 c2 a b c 0 n
  | m+1, n => c1 * Ws c1 c2 a b c m n + a * (m : R) * Ws c1 c2 a b c (m - 1) n
      + b * (n : R) * Ws c1 c2 a b c m (n - 1)
termination_by m n => (m, n)
decreasing_by
  all_goals simp_wf
  · right; omega
  · right; omega
  · left; omega
  · left; omega
  · left; omega

lemma Ws_succ (c1 c2 a b c : R) (m n : ℕ) :
    Ws c1 c2 a b c (m+1) n = c1 * Ws c1 c2 a b c m n + a * (m : R) * Ws c1 c2 a b c (m - 1) n
      + b * (n : R) * Ws c1 c2 a b c m (n - 1) := by
  rw [Ws]

theorem Ws_consistent (c1 c2 a b c : R) : ∀ m n : ℕ,
    Ws c1 c2 a b c m (n+1) = c2 * Ws c1 c2 a b c m n + b * (m : R) * Ws c1 c2 a b c (m - 1) n
      + c * (n : R) * Ws c1 c2 a b c m (n - 1) := by
  intro m
  induction m using Nat.strong_induction_on with
  | _ m ih =>
    intro n
    match m with
    | 0 =>
      match n with
      | 0 => simp [Ws]
      | n+1 => rw [Ws]; simp
    | m+1 =>
      have hdef := Ws_succ c1 c2 a b c m (n+1)
      have ih1 := ih m (by omega) n
      have ih2 := ih (m-1) (by omega) n
      have hd2 := Ws_succ c1 c2 a b c m n
      have hd3 := Ws_succ c1 c2 a b c m (n-1)
      rcases m with _ | m <;> rcases n with _ | n
      · simp only [Nat.cast_zero, mul_zero, zero_mul, add_zero, zero_add] at hdef ih1 hd2 ⊢
        linear_combination hdef + c1*ih1 - c2*hd2
      · have B2 := ih 0 (by omega) n
        simp only [Nat.add_sub_cancel, Nat.cast_zero, mul_zero, zero_mul, add_zero, zero_add]
          at hdef ih1 hd2 hd3 B2 ⊢
        push_cast at hdef ih1 hd2 hd3 B2 ⊢
        linear_combination hdef + c1*ih1 - c2*hd2 - c*((n:R)+1)*hd3 + b*((n:R)+1)*B2
      · have B1 := Ws_succ c1 c2 a b c m 0
        simp only [Nat.add_sub_cancel, Nat.cast_zero, mul_zero, zero_mul, add_zero]
          at hdef ih1 ih2 hd2 B1 ⊢
        push_cast at hdef ih1 ih2 hd2 B1 ⊢
        linear_combination hdef + c1*ih1 + a*((m:R)+1)*ih2 - c2*hd2 - b*((m:R)+1)*B1
      · have B1 := Ws_succ c1 c2 a b c m (n+1)
        have B2 := ih (m+1) (by omega) n
        simp only [Nat.add_sub_cancel] at hdef ih1 ih2 hd2 hd3 B1 B2 ⊢
        push_cast at hdef ih1 ih2 hd2 hd3 B1 B2 ⊢
        linear_combination hdef + c1*ih1 + a*((m:R)+1)*ih2 - c2*hd2 - c*((n:R)+1)*hd3
          - b*((m:R)+1)*B1 + b*((n:R)+1)*B2

theorem Ws_rdk2 (c1 c2 a b c : R) : RDK2 c1 c2 a b c (Ws c1 c2 a b c) where
  a := fun n m => by rw [Ws_succ]
  c := fun n m => by rw [Ws_consistent]

lemma W_eq_Ws (a b c : R) (m n : ℕ) : W a b c m n = Ws 0 0 a b c m n := by
  induction m using Nat.strong_induction_on generalizing n with
  | _ m ih =>
    rcases m with _ | m
    · induction n using Nat.twoStepInduction with
      | zero => rw [W, Ws]
      | one => rw [W, Ws]
      | more n ih' _ => rw [W, Ws, ih', zero_mul, zero_add]
    · rw [W_succ, Ws_succ, ih (m-1) (by omega), ih m (by omega), zero_mul, zero_add]

/-- consistency (Isserlis): pairing the new y₂ first gives the same value -/
theorem W_consistent (a b c : R) : ∀ m n : ℕ,
    W a b c m (n+1) = b * (m : R) * W a b c (m - 1) n + c * (n : R) * W a b c m (n - 1) := by
  intro m n
  simpa only [W_eq_Ws, zero_mul, zero_add] using Ws_consistent 0 0 a b c m n

theorem W_rdk2 (a b c : R) : RDK2 0 0 a b c (W a b c) where
  a := fun n m => by rw [W_succ]; ring
  c := fun n m => by rw [W_consistent]; ring

theorem Ws_zero_right (c1 c2 a b c PB : R) (n : ℕ) : Ws c1 c2 a b c n 0 = S2 a c1 PB n 0 := by
  induction n using Nat.strong_induction_on with
  | _ n ih =>
    match n with
    | 0 => rw [Ws, S2_zero]
    | n+1 =>
      rw [Ws_succ, S2_succ_i, ih n (by omega), ih (n-1) (by omega)]
      simp only [Nat.cast_zero, mul_zero, zero_mul, add_zero]
      ring

end Shifted

section ETSpec
variable {K : Type} [Field K] [CharZero K]

/-- 1-D Rys factor of `[a 0|c 0]` on one axis (`n`: power on centre A, `m`: power on centre C) -/
noncomputable def rysET (p q w w' PA QC PQ : K) (n m : ℕ) : K[X] :=
  Ws (C PA - X * C (w * PQ)) (C QC + X * C (w' * PQ)) (C (1/(2*p)) * (1 - C w * X))
    (C (1/(2*(p+q))) * X) (C (1/(2*q)) * (1 - C w' * X)) n m

omit [CharZero K] in
theorem rysET_rdk2 (p q w w' PA QC PQ : K) :
    RDK2 (C PA - X * C (w * PQ)) (C QC + X * C (w' * PQ)) (C (1/(2*p)) * (1 - C w * X))
      (C (1/(2*(p+q))) * X) (C (1/(2*q)) * (1 - C w' * X)) (rysET p q w w' PA QC PQ) :=
  Ws_rdk2 _ _ _ _ _

omit [CharZero K] in
theorem rysET_zero_right (p q w w' PA QC PQ : K) (n : ℕ) :
    rysET p q w w' PA QC PQ n 0 = rys2 p w PA (w * PQ) n :=
  Ws_zero_right _ _ _ _ _ 0 n

/-- specification of the electron-transferred integral `[a 0|c 0]^{(m)}` without prefactor -/
noncomputable def Espec (F : ℕ → K) (p q w w' : K) (PA QC PQ : ℕ → K) (m : ℕ)
    (a c : ℕ × ℕ × ℕ) : K :=
  boysF F m (rysET p q w w' (PA 0) (QC 0) (PQ 0) a.1 c.1
    * rysET p q w w' (PA 1) (QC 1) (PQ 1) a.2.1 c.2.1
    * rysET p q w w' (PA 2) (QC 2) (PQ 2) a.2.2 c.2.2)

omit [CharZero K] in
theorem Espec_c0 (F : ℕ → K) (p q w w' : K) (PA QC PQ : ℕ → K) (m : ℕ) (a : ℕ × ℕ × ℕ) :
    Espec F p q w w' PA QC PQ m a (0,0,0) = Vspec2 F p w PA (fun u => w * PQ u) m a := by
  simp only [Espec, Vspec2, rysET_zero_right]

structure ETRel (f1 : ℕ → K) (f2 h2 : K) (E : ℕ × ℕ × ℕ → ℕ × ℕ × ℕ → K) : Prop where
  x : ∀ ax ay az cx cy cz, E (ax, ay, az) (cx+1, cy, cz)
        = f1 0 * E (ax, ay, az) (cx, cy, cz) + (ax:K) * h2 * E (ax-1, ay, az) (cx, cy, cz)
          + (cx:K) * h2 * E (ax, ay, az) (cx-1, cy, cz) - f2 * E (ax+1, ay, az) (cx, cy, cz)
  y : ∀ ax ay az cx cy cz, E (ax, ay, az) (cx, cy+1, cz)
        = f1 1 * E (ax, ay, az) (cx, cy, cz) + (ay:K) * h2 * E (ax, ay-1, az) (cx, cy, cz)
          + (cy:K) * h2 * E (ax, ay, az) (cx, cy-1, cz) - f2 * E (ax, ay+1, az) (cx, cy, cz)
  z : ∀ ax ay az cx cy cz, E (ax, ay, az) (cx, cy, cz+1)
        = f1 2 * E (ax, ay, az) (cx, cy, cz) + (az:K) * h2 * E (ax, ay, az-1) (cx, cy, cz)
          + (cz:K) * h2 * E (ax, ay, az) (cx, cy, cz-1) - f2 * E (ax, ay, az+1) (cx, cy, cz)

omit [CharZero K] in
theorem ETRel.const_mul {f1 : ℕ → K} {f2 h2 : K} {E : ℕ × ℕ × ℕ → ℕ × ℕ × ℕ → K}
    (hE : ETRel f1 f2 h2 E) (c : K) : ETRel f1 f2 h2 (fun a b => c * E a b) where
  x := by intro ax ay az cx cy cz; rw [hE.x]; ring
  y := by intro ax ay az cx cy cz; rw [hE.y]; ring
  z := by intro ax ay az cx cy cz; rw [hE.z]; ring

/-- the coefficients are those that `eriGeneral` passes to `etransf` -/
theorem etRel_Espec (F : ℕ → K) (p q w w' pref : K) (PA QC PQ : ℕ → K)
    (hp : p ≠ 0) (hq : q ≠ 0) (hpq : p + q ≠ 0) (hw : w * (p + q) = q) (hw' : w' * (p + q) = p)
    (m : ℕ) :
    ETRel (fun u => QC u + p / q * PA u) (p / q) (1/(2*q))
      (fun a c => pref * Espec F p q w w' PA QC PQ m a c) := by
  refine ETRel.const_mul ⟨?_, ?_, ?_⟩ pref
  · intro ax ay az cx cy cz
    simp only [Espec, mul_assoc (G := K[X])]
    exact etransfer_of_rdk p q w w' (PA 0) (QC 0) (PQ 0) hp hq hpq hw hw' _
      (rysET_rdk2 p q w w' (PA 0) (QC 0) (PQ 0)) (boysF F m) _ ax cx
  · intro ax ay az cx cy cz
    simp only [Espec, mul3_mid (R := K[X])]
    exact etransfer_of_rdk p q w w' (PA 1) (QC 1) (PQ 1) hp hq hpq hw hw' _
      (rysET_rdk2 p q w w' (PA 1) (QC 1) (PQ 1)) (boysF F m) _ ay cy
  · intro ax ay az cx cy cz
    simp only [Espec, mul3_last (R := K[X])]
    exact etransfer_of_rdk p q w w' (PA 2) (QC 2) (PQ 2) hp hq hpq hw hw' _
      (rysET_rdk2 p q w w' (PA 2) (QC 2) (PQ 2)) (boysF F m) _ az cz

end ETSpec

section ETTable
variable {K : Type} [Field K]

theorem get2_tab {α : Type} (n : ℕ) (f : ℕ → Tab α) (i j : ℕ) :
    (tab n f).get2 i j = (f i).get j := by simp [Tab.get2]

theorem get3_tab {α : Type} (n : ℕ) (f : ℕ → Tab (Tab α)) (i j k : ℕ) :
    (tab n f).get3 i j k = (f i).get2 j k := by simp [Tab.get3]

variable {f1 : ℕ → K} {f2 h2 : K} {mMax : ℕ} {v0 : Tab3 K} {E : ℕ × ℕ × ℕ → ℕ × ℕ × ℕ → K}

/-- The table is indexed `[cz][cy][cx][ax][ay][az]`; the materialisation bound `lcd` plays no role.
Outside the region `|a| + |c| < mMax` the Python array holds unwritten zeros / values computed
from them and the theorem says nothing. -/
theorem etransf_get (hE : ETRel f1 f2 h2 E)
    (h00 : ∀ ax ay az, ax + ay + az < mMax → v0.get3 ax ay az = E (ax, ay, az) (0,0,0)) (lcd : ℕ) :
    ∀ cz cy cx ax ay az, ax + ay + az + cx + cy + cz < mMax →
      ((etransf f1 f2 h2 mMax lcd v0).get3 cz cy cx).get3 ax ay az
        = E (ax, ay, az) (cx, cy, cz) := by
  unfold etransf
  extract_lets z3 ex ey
  have hX : ∀ cx ax ay az, ax + ay + az + cx < mMax →
      (ex.get cx).get3 ax ay az = E (ax, ay, az) (cx, 0, 0) := by
    intro cx
    simp only [ex, rows2_get]
    refine rec2_ind _ _ _ (fun c (t : Tab3 K) => ∀ ax ay az, ax + ay + az + c < mMax →
      t.get3 ax ay az = E (ax, ay, az) (c, 0, 0)) ?_ ?_ cx
    · intro ax ay az hm; exact h00 ax ay az (by omega)
    · intro c cur prev hc hp ax ay az hm
      have hg : ax + 1 < mMax := by omega
      simp only [get3_tab, get2_tab, tab_get, etStep, if_pos hg, num_nat]
      rw [hc ax ay az (by omega), hc (ax-1) ay az (by omega), hc (ax+1) ay az (by omega), hE.x]
      rcases Nat.eq_zero_or_pos c with rfl | hcp
      · simp only [Nat.cast_zero, zero_mul, add_zero]
      · rw [hp hcp ax ay az (by omega)]
  have hY : ∀ cy cx ax ay az, ax + ay + az + cx + cy < mMax →
      ((ey.get cy).get cx).get3 ax ay az = E (ax, ay, az) (cx, cy, 0) := by
    intro cy
    simp only [ey, rows2_get]
    refine rec2_ind _ _ _ (fun c (t : Tab (Tab3 K)) => ∀ cx ax ay az, ax + ay + az + cx + c < mMax →
      (t.get cx).get3 ax ay az = E (ax, ay, az) (cx, c, 0)) ?_ ?_ cy
    · intro cx ax ay az hm; exact hX cx ax ay az (by omega)
    · intro c cur prev hc hp cx ax ay az hm
      have hg : ay + 1 < mMax := by omega
      simp only [get3_tab, get2_tab, tab_get, etStep, if_pos hg, num_nat]
      rw [hc cx ax ay az (by omega), hc cx ax (ay-1) az (by omega), hc cx ax (ay+1) az (by omega),
        hE.y]
      rcases Nat.eq_zero_or_pos c with rfl | hcp
      · simp only [Nat.cast_zero, zero_mul, add_zero]
      · rw [hp hcp cx ax ay az (by omega)]
  intro cz cy cx
  rw [Tab.get3, rows2_get]
  revert cy cx
  refine rec2_ind _ _ _ (fun c (t : Tab (Tab (Tab3 K))) => ∀ cy cx ax ay az,
    ax + ay + az + cx + cy + c < mMax → (t.get2 cy cx).get3 ax ay az = E (ax, ay, az) (cx, cy, c))
    ?_ ?_ cz
  · intro cy cx ax ay az hm; exact hY cy cx ax ay az (by omega)
  · intro c cur prev hc hp cy cx ax ay az hm
    have hg : az + 1 < mMax := by omega
    simp only [get3_tab, get2_tab, tab_get, etStep, if_pos hg, num_nat]
    rw [hc cy cx ax ay az (by omega), hc cy cx ax ay (az-1) (by omega),
      hc cy cx ax ay (az+1) (by omega), hE.z]
    rcases Nat.eq_zero_or_pos c with rfl | hcp
    · simp only [Nat.cast_zero, zero_mul, add_zero]
    · rw [hp hcp cy cx ax ay az (by omega)]

end ETTable

section ETMain
variable {K : Type} [Field K] [CharZero K]

/-- One primitive quartet of `_compute_two_elec_integrals`: the vertical recursion followed by the
electron-transfer recursion, as chained in `eriGeneral`, where `w = ρ/p = q/(p+q)`,
`w' = ρ/q = p/(p+q)`, `WQ = w·(P-Q)`; the value is `pref` times the Rys form of `[a 0|c 0]^{(0)}`. -/
theorem etransf_vert2_eq_Espec (F : ℕ → K) (p q w w' pref : K) (PA QC PQ : ℕ → K)
    (hp : p ≠ 0) (hq : q ≠ 0) (hpq : p + q ≠ 0) (hw : w * (p + q) = q) (hw' : w' * (p + q) = p)
    (mMax lcd : ℕ) (base : ℕ → K) (hbase : ∀ m, m < mMax → base m = pref * F m)
    (v0 : Tab3 K)
    (hv0 : ∀ ax ay az, ax + ay + az < mMax → v0.get3 ax ay az
      = (vert2 PA (fun u => w * PQ u) (Num.nat 1 / (Num.nat 2 * p)) w mMax base).get4 az ay ax 0)
    (cz cy cx ax ay az : ℕ) (hm : ax + ay + az + cx + cy + cz < mMax) :
    ((etransf (fun u => QC u + p / q * PA u) (p / q) (Num.nat 1 / (Num.nat 2 * q)) mMax lcd
        v0).get3 cz cy cx).get3 ax ay az
      = pref * Espec F p q w w' PA QC PQ 0 (ax, ay, az) (cx, cy, cz) := by
  have hrel := etRel_Espec F p q w w' pref PA QC PQ hp hq hpq hw hw' 0
  simp only [num_nat, Nat.cast_one, Nat.cast_ofNat] at hv0 ⊢
  refine etransf_get hrel ?_ lcd cz cy cx ax ay az hm
  intro ax ay az h
  rw [hv0 ax ay az h, vert2_eq_Vspec2 F p w pref PA _ mMax base hbase az ay ax 0 (by omega),
    Espec_c0]

end ETMain


end GB
