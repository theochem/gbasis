import GBModel.Signatures
import GBExtracted.Signatures
/-! Obligation (C05, C06, C09, C14, C15, C19): the signatures of the public functions extracted from the source on this run — parameter
names, their order and the text of their defaults — are the published ones of `GBModel/Signatures.lean`. -/
namespace GB.Obl
theorem signatures_ok : GBExtracted.signatures = GB.Signatures.published := by decide +kernel

/-- examples of what the table records: the threshold of the positive-definite kinetic energy density is the sixth parameter, after
the back-end; the default screening tolerance of the overlap is `None`; the default distance threshold of the potential is `0.0` -/
example : GB.Signatures.position "evaluate_posdef_kinetic_energy_density" "threshold" = some 5 := by decide +kernel
example : GB.Signatures.position "evaluate_posdef_kinetic_energy_density" "deriv_type" = some 4 := by decide +kernel
example : GB.Signatures.default? "overlap_integral" "tol_screen" = some "None" := by decide +kernel
example : GB.Signatures.default? "electrostatic_potential" "threshold_dist" = some "0.0" := by decide +kernel
end GB.Obl
