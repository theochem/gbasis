import GBProofs.AxisCalculus
import GBProofs.Obl.Pipelines

/-! The soundness theorems of the axis calculus instantiated with the programs extracted from the
source: every extracted pipeline computes, for all shapes, the array C09 demands. -/
namespace GB

/-- every extracted `construct_array_{cartesian,spherical,mix}` pipeline passes the check for *any*
number of trailing axes (the obligation `Obl.pipelines_ok` checks 0 and 1) -/
theorem extracted_pipelineOk {p : String × List Bool × List ArrOp} (hp : p ∈ GBExtracted.pipelines)
    (nextra : ℕ) : pipelineOk p.2.2 p.2.1 nextra = true := by
  have h := List.all_eq_true.mp GB.Obl.pipelines_ok p hp
  simp only [Bool.and_eq_true] at h
  exact pipelineOk_frame _ _ h.1 nextra

/-- C09 for the code as extracted: every assembly pipeline of the four base classes computes,
for all shapes and any number of trailing axes, the normalised, transformed, segment-major
flattened block (`nest`). -/
theorem extracted_pipelines_sound {K : Type} [Field K] {env : Label → ℕ} {mats norms : ℕ → Arr K}
    {blk : Arr K} {p : String × List Bool × List ArrOp} (hp : p ∈ GBExtracted.pipelines) (nextra : ℕ)
    (hblk : blk.dims = ((List.range p.2.1.length).flatMap fun s => [env (Label.seg s), env (Label.cart s)])
      ++ (List.range nextra).map (fun k => env (Label.extra k)))
    (hT : ∀ s < p.2.1.length, p.2.1.getD s false = true →
      (mats s).dims = [env (Label.sph s), env (Label.cart s)]) :
    (runOps mats norms p.2.2 blk).dims
      = ((List.range p.2.1.length).map fun s =>
          env (Label.seg s) * env (fnLabel (p.2.1.getD s false) s))
        ++ (List.range nextra).map (fun k => env (Label.extra k)) ∧
    ∀ (m f : ℕ → ℕ) (es : List ℕ),
      (∀ s < p.2.1.length, m s < env (Label.seg s)) →
      (∀ s < p.2.1.length, f s < env (fnLabel (p.2.1.getD s false) s)) →
      es.length = nextra → (∀ k < nextra, es.getD k 0 < env (Label.extra k)) →
      (runOps mats norms p.2.2 blk).get
          (((List.range p.2.1.length).map fun s =>
              m s * env (fnLabel (p.2.1.getD s false) s) + f s) ++ es)
        = nest env mats norms blk p.2.1 m f es (List.range p.2.1.length).reverse f :=
  c09_general p.2.2 p.2.1 nextra (extracted_pipelineOk hp nextra) hblk hT

/-- `construct_array_lincomb` as extracted: axis `s` is contracted with `transform` (one matrix)
resp. with `transform_one`/`transform_two` (asymmetric class), axes in the original order. -/
theorem extracted_lincombs_sound {K : Type} [Field K] {env : Label → ℕ} {mats norms : ℕ → Arr K}
    {blk : Arr K} {p : String × ℕ × ℕ × List ArrOp} (hp : p ∈ GBExtracted.lincombs)
    (hblk : blk.dims = (List.range p.2.1).map fun s => env (Label.cart s))
    (hT : ∀ s < p.2.1, (mats (if p.2.2.1 == 1 then 0 else s)).dims
      = [env (Label.sph s), env (Label.cart s)]) :
    (runOps mats norms p.2.2.2 blk).dims = ((List.range p.2.1).map fun s => env (Label.sph s)) ∧
    ∀ f : ℕ → ℕ, (∀ s < p.2.1, f s < env (Label.sph s)) →
      (runOps mats norms p.2.2.2 blk).get ((List.range p.2.1).map f)
        = lnest env mats blk p.2.1 (fun s => if p.2.2.1 == 1 then 0 else s) f
            (List.range p.2.1).reverse f :=
  lincombOk_sound p.2.2.2 p.2.1 _ (List.all_eq_true.mp GB.Obl.lincombs_ok p hp) hblk hT

end GB
