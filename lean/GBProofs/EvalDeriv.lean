import GBProofs.MomTab
import GBProofs.RealInst
import Mathlib.Algebra.Polynomial.Derivative
import Mathlib.Algebra.Polynomial.Eval.Defs
import Mathlib.Algebra.BigOperators.Intervals
import Mathlib.Data.Nat.Choose.Sum
import Mathlib.Data.Nat.Factorial.Basic
import Mathlib.Analysis.Calculus.Deriv.Polynomial
import Mathlib.Analysis.Calculus.IteratedDeriv.Defs
import Mathlib.Analysis.SpecialFunctions.ExpDeriv
import Mathlib.Tactic.Ring
import Mathlib.Tactic.Linarith
import Mathlib.Tactic.NormNum

/-!
# Derivatives of `x^a e^{-αx²}`: the two back-ends of `gbasis/evals/_deriv.py` against the spec

`Pn c a n` is the polynomial with `d^n/dx^n (x^a e^{-c x²}) = Pn c a n (x) · e^{-c x²}`.  The Hermite-expansion back-end equals it
for every `a`, `n`, `x` (`axisGeneral_eq`, by the twisted Leibniz rule `D_iterate_mul`); the written-out back-end equals it for
orders `≤ 2` when the shell flags are truthful, which they are for full shells, and does not for order 3
(`axisDirect_three_ne_spec`) — hence the dispatcher's rejection.
-/

open Polynomial Finset

namespace GB

/-! ## Twisted Leibniz rule -/
section Leibniz
variable {R : Type} [CommRing R]

/-- polynomial part of `d/dx` acting on `q(x)·exp(-c x²)`: `D q = q' - 2c X q` -/
noncomputable def D (c : R) (q : R[X]) : R[X] := derivative q - C (2 * c) * X * q

/-- `E h` = polynomial part of `d^h/dx^h exp(-c x²)` -/
noncomputable def E (c : R) : ℕ → R[X]
  | 0 => 1
  | h+1 => D c (E c h)

lemma D_mul (c : R) (q e : R[X]) : D c (q * e) = derivative q * e + q * D c e := by
  simp only [D, derivative_mul]; ring

lemma D_add (c : R) (a b : R[X]) : D c (a + b) = D c a + D c b := by
  simp only [D, derivative_add]; ring

lemma D_sum (c : R) {ι : Type} (s : Finset ι) (g : ι → R[X]) :
    D c (∑ i ∈ s, g i) = ∑ i ∈ s, D c (g i) := by
  simp only [D, derivative_sum, mul_sum, sum_sub_distrib]

lemma D_natCast_mul (c : R) (n : ℕ) (q : R[X]) : D c ((n : R[X]) * q) = (n : R[X]) * D c q := by
  simp only [D, derivative_mul, derivative_natCast]; ring

lemma D_C_mul (c a : R) (q : R[X]) : D c (C a * q) = C a * D c q := by
  rw [D_mul, derivative_C, zero_mul, zero_add]

lemma D_X_mul (c : R) (q : R[X]) : D c (X * q) = q + X * D c q := by
  rw [D_mul, derivative_X, one_mul]

/-- twisted Leibniz rule: the general back-end's sum over Hermite terms -/
theorem D_iterate_mul (c : R) (q : R[X]) (n : ℕ) :
    (D c)^[n] (q * E c 0)
      = ∑ h ∈ range (n + 1), (n.choose h : R[X]) * (derivative^[n - h] q) * E c h := by
  induction n with
  | zero => simp [E]
  | succ n ih =>
    rw [Function.iterate_succ_apply', ih, D_sum]
    simp only [mul_assoc]
    -- Pascal's rule, in the form of `Finset.sum_choose_succ_mul`
    rw [sum_choose_succ_mul (fun h j => derivative^[j] q * E c h), ← sum_add_distrib]
    refine sum_congr rfl fun h hh => ?_
    rw [D_natCast_mul, D_mul, ← Function.iterate_succ_apply' derivative,
      Nat.succ_sub (mem_range_succ_iff.mp hh), mul_add]
    rfl

lemma E_succ (c : R) (h : ℕ) : E c (h + 1) = D c (E c h) := rfl

lemma E_one (c : R) : E c 1 = C (-(2 * c)) * X := by
  rw [E_succ, E, D, derivative_one, mul_one, zero_sub, C_neg, neg_mul]

/-- three-term recurrence of the `E h`, from `D (X q) = q + X D q` -/
theorem E_succ_succ (c : R) (h : ℕ) :
    E c (h + 2) = C (-(2 * c)) * (X * E c (h + 1) + C ((h : R) + 1) * E c h) := by
  induction h with
  | zero =>
    rw [E_succ, E_one, D_C_mul, D, derivative_X, E, Nat.cast_zero, zero_add, C_1, C_neg]
    ring
  | succ h ih =>
    -- `D (C a (X E_{h+1} + (h+1) E_h)) = C a (E_{h+1} + X E_{h+2} + (h+1) E_{h+1})`
    conv_lhs => rw [E_succ, ih, D_C_mul, D_add, D_X_mul, D_C_mul, ← E_succ, ← E_succ]
    rw [Nat.cast_succ, C_add (a := (h : R) + 1), C_1]
    ring

/-! ## The specification polynomial -/

/-- `Pn c a n (x) · e^{-c x²} = d^n/dx^n (x^a e^{-c x²})` -/
noncomputable def Pn (c : R) (a : ℕ) : ℕ → R[X]
  | 0 => X ^ a
  | n+1 => derivative (Pn c a n) - C (2 * c) * X * Pn c a n

@[simp] theorem Pn_zero (c : R) (a : ℕ) : Pn c a 0 = X ^ a := rfl
theorem Pn_succ (c : R) (a n : ℕ) :
    Pn c a (n+1) = derivative (Pn c a n) - C (2 * c) * X * Pn c a n := rfl

theorem Pn_eq_iterate (c : R) (a n : ℕ) : Pn c a n = (D c)^[n] (X ^ a) := by
  induction n with
  | zero => rfl
  | succ n ih => rw [Function.iterate_succ_apply', ← ih]; rfl

theorem Pn_eq_sum (c : R) (a n : ℕ) :
    Pn c a n = ∑ h ∈ range (n + 1),
      (n.choose h : R[X]) * ((a.descFactorial (n - h) : R[X]) * X ^ (a - (n - h))) * E c h := by
  rw [Pn_eq_iterate]
  have := D_iterate_mul c (X ^ a) n
  simp only [E, mul_one] at this
  rw [this]
  apply Finset.sum_congr rfl
  intro h _
  rw [iterate_derivative_X_pow_eq_natCast_mul]

theorem Pn_one (c : R) (a : ℕ) : Pn c a 1 = C (a : R) * X ^ (a - 1) - C (2 * c) * X ^ (a + 1) := by
  rw [Pn_succ, Pn_zero, derivative_X_pow, mul_assoc, ← pow_succ']

theorem eval_Pn_one (c x : R) (a : ℕ) : (Pn c a 1).eval x = a * x ^ (a - 1) - 2 * c * x ^ (a + 1) := by
  rw [Pn_one, eval_sub, eval_mul, eval_mul, eval_C, eval_C, eval_pow, eval_pow, eval_X]

lemma natCast_mul_pow_pred (x : R) (a : ℕ) : (a : R) * x ^ (a - 1) * x = a * x ^ a := by
  cases a with
  | zero => rw [Nat.cast_zero, zero_mul, zero_mul]
  | succ k => rw [Nat.add_sub_cancel, mul_assoc, ← pow_succ]

theorem eval_Pn_two (c x : R) (a : ℕ) :
    (Pn c a 2).eval x
      = (a * (a - 1) : ℕ) * x ^ (a - 2) - 2 * c * (2 * a + 1) * x ^ a + 4 * c ^ 2 * x ^ (a + 2) := by
  rw [Pn_succ, eval_sub, eval_mul, eval_mul, eval_C, eval_X, eval_Pn_one, Pn_one, derivative_sub,
    derivative_C_mul, derivative_C_mul, derivative_X_pow, derivative_X_pow, Nat.add_sub_cancel,
    Nat.sub_sub]
  simp only [eval_sub, eval_mul, eval_C, eval_X, eval_pow]
  push_cast
  linear_combination (-2 * c) * natCast_mul_pow_pred x a

/-! ## Hermite polynomials -/

/-- physicists' Hermite polynomials -/
noncomputable def Hpoly : ℕ → R[X]
  | 0 => 1
  | 1 => 2 * X
  | n+2 => 2 * X * Hpoly (n+1) - (2 * ((n : R[X]) + 1)) * Hpoly n

theorem Hpoly_zero : (Hpoly 0 : R[X]) = 1 := rfl
theorem Hpoly_one : (Hpoly 1 : R[X]) = 2 * X := rfl
theorem Hpoly_succ_succ (n : ℕ) :
    (Hpoly (n+2) : R[X]) = 2 * X * Hpoly (n+1) - (2 * ((n : R[X]) + 1)) * Hpoly n := rfl

/-- `E_h(x) = (−r)^h H_h(r x)` when `c = r²`: both sides satisfy the same three-term recurrence -/
theorem eval_E (r x : R) (h : ℕ) :
    (E (r * r) h).eval x = (-r) ^ h * (Hpoly h).eval (r * x) := by
  induction h using Nat.twoStepInduction with
  | zero => rw [E, Hpoly_zero, eval_one, eval_one, pow_zero, one_mul]
  | one =>
    rw [E_one, Hpoly_one, eval_mul, eval_mul, eval_C, eval_X, eval_X, eval_ofNat, pow_one]
    ring
  | more h ih0 ih1 =>
    rw [E_succ_succ, Hpoly_succ_succ]
    simp only [eval_mul, eval_add, eval_sub, eval_C, eval_X, eval_ofNat, eval_natCast, eval_one, ih0, ih1]
    ring

end Leibniz

/-! ## The model's combinatorial helpers and Hermite values -/

theorem perm_eq_descFactorial (n k : ℕ) : GB.perm n k = Nat.descFactorial n k := by
  induction n generalizing k with
  | zero => cases k <;> simp [GB.perm]
  | succ n ih => cases k with
    | zero => simp [GB.perm]
    | succ k => rw [GB.perm, ih, Nat.succ_descFactorial_succ]

section Model
variable {K : Type} [Field K] [CharZero K]

/-- the model's `hermite` (two-term recursion through `lin2`) is the Hermite polynomial -/
theorem hermite_eq (y : K) (h : ℕ) : hermite y h = (Hpoly h).eval y := by
  unfold hermite
  rw [lin2_spec _ _ _ (fun h => (Hpoly h).eval y)]
  · simp [Hpoly_zero]
  · simp [Hpoly_one]
  · intro n
    simp only [Hpoly_succ_succ, num_nat, eval_sub, eval_mul, eval_ofNat, eval_X, eval_add,
      eval_natCast, eval_one]
    push_cast
    ring

theorem hermite_zero (y : K) : hermite y 0 = 1 := by simp [hermite_eq, Hpoly_zero]
theorem hermite_one (y : K) : hermite y 1 = 2 * y := by simp [hermite_eq, Hpoly_one]
theorem hermite_succ_succ (y : K) (h : ℕ) :
    hermite y (h+2) = 2 * y * hermite y (h+1) - 2 * ((h : K) + 1) * hermite y h := by
  simp [hermite_eq, Hpoly_succ_succ]

end Model

/-! ## The direct back-end (orders 1 and 2) -/

theorem directFirst_eq (α x : ℝ) (a : ℕ) : directFirst α x a = (Pn α a 1).eval x := by
  rw [eval_Pn_one, directFirst]
  cases a with
  | zero =>
    rw [if_pos rfl, num_nat, Nat.cast_zero, zero_mul, zero_sub, zero_add, pow_one]
    push_cast
    ring
  | succ k =>
    rw [if_neg k.succ_ne_zero, powN_eq_pow, Nat.add_sub_cancel, num_nat, num_nat, pow_succ, pow_succ]
    push_cast
    ring

/-- second derivative of the direct back-end = spec, when the shell flags are truthful for this
exponent -/
theorem directSecond_eq (α x : ℝ) (a : ℕ) (has1 has2 : Bool)
    (h1 : a = 1 → has1 = true) (h2 : 2 ≤ a → has1 = true ∧ has2 = true) :
    directSecond α x a has1 has2 = (Pn α a 2).eval x := by
  rw [eval_Pn_two]
  -- in each case: the branch the code takes, then arithmetic
  match a, h1, h2 with
  | 0, _, _ =>
    have : directSecond α x 0 has1 has2 = Num.nat 4 * α * α * (x * x) - Num.nat 2 * α := by
      cases has1 <;> rfl
    rw [this]
    simp only [num_nat]
    push_cast
    ring
  | 1, h1, _ =>
    rw [h1 rfl]
    change Num.nat 4 * α * α * (x * x * x) - Num.nat 6 * α * x = _
    simp only [num_nat]
    push_cast
    ring
  | k+2, _, h2 =>
    obtain ⟨rfl, rfl⟩ := h2 (Nat.le_add_left 2 k)
    change powN x k * (Num.nat 4 * α * α * (x * x * x * x) - α * Num.nat (4 * (k + 2) + 2) * (x * x)
      + Num.nat ((k + 2) * (k + 1))) = _
    simp only [num_nat, powN_eq_pow, Nat.add_sub_cancel]
    push_cast
    ring

/-! ## The spec is the derivative (over ℝ) -/

theorem Pn_hasDerivAt (α : ℝ) (a n : ℕ) (x : ℝ) :
    HasDerivAt (fun x => (Pn α a n).eval x * Real.exp (-(α * (x * x))))
      ((Pn α a (n+1)).eval x * Real.exp (-(α * (x * x)))) x := by
  have h1 := (Pn α a n).hasDerivAt x
  have h2 : HasDerivAt (fun x : ℝ => -(α * (x * x))) (-(α * (1 * x + x * 1))) x :=
    (((hasDerivAt_id' x).mul (hasDerivAt_id' x)).const_mul α).neg
  have h4 : HasDerivAt (fun x => (Pn α a n).eval x * Real.exp (-(α * (x * x)))) _ x :=
    h1.mul h2.exp
  refine h4.congr_deriv ?_
  simp only [Pn_succ, eval_sub, eval_mul, eval_C, eval_X]
  ring

theorem iteratedDeriv_gauss (α : ℝ) (a n : ℕ) :
    iteratedDeriv n (fun x : ℝ => x ^ a * Real.exp (-(α * (x * x))))
      = fun x => (Pn α a n).eval x * Real.exp (-(α * (x * x))) := by
  induction n with
  | zero => simp [iteratedDeriv_zero]
  | succ n ih =>
    rw [iteratedDeriv_succ, ih]
    funext x
    exact (Pn_hasDerivAt α a n x).deriv

/-! ## The general back-end equals the spec -/

theorem derivPolyGeneral_eq (α x : ℝ) (hα : 0 ≤ α) (a n : ℕ) :
    derivPolyGeneral α x a n = (Pn α a n).eval x := by
  have hr : Real.sqrt α * Real.sqrt α = α := Real.mul_self_sqrt hα
  unfold derivPolyGeneral
  simp only [Transc.sqrt]
  rw [sumN_eq_sum, Pn_eq_sum, eval_finsetSum]
  apply Finset.sum_congr rfl
  intro h hh
  have hh' : h ≤ n := Nat.lt_succ_iff.mp (Finset.mem_range.mp hh)
  have hE : (E α h).eval x = (-Real.sqrt α) ^ h * (Hpoly h).eval (Real.sqrt α * x) := by
    have := eval_E (Real.sqrt α) x h
    rwa [hr] at this
  simp only [eval_mul, eval_natCast, eval_pow, eval_X, hE, powN_eq_pow, hermite_eq, num_nat,
    choose_eq_choose, perm_eq_descFactorial]
  split_ifs with hlt
  · have : a.descFactorial (n - h) = 0 := Nat.descFactorial_eq_zero_iff_lt.mpr (by omega)
    simp [this]
  · have : a + h - n = a - (n - h) := by omega
    rw [this]; ring

/-- one axis of the general (Hermite expansion) back-end is the `n`-th derivative
of `x^a e^{-αx²}`, for every exponent, order and point (`x = 0` included) -/
theorem axisGeneral_eq (α x : ℝ) (hα : 0 ≤ α) (a n : ℕ) :
    axisGeneral α x a n = (Pn α a n).eval x * Real.exp (-(α * (x * x))) := by
  unfold axisGeneral
  simp only [Transc.exp]
  split_ifs with hn
  · subst hn; simp [powN_eq_pow]
  · rw [derivPolyGeneral_eq α x hα, mul_comm]

theorem axisGeneral_eq_iteratedDeriv (α x : ℝ) (hα : 0 ≤ α) (a n : ℕ) :
    axisGeneral α x a n
      = iteratedDeriv n (fun x : ℝ => x ^ a * Real.exp (-(α * (x * x)))) x := by
  rw [axisGeneral_eq α x hα, iteratedDeriv_gauss]

/-! ## The direct back-end equals the spec for orders `≤ 2` only -/

theorem axisDirect_eq_spec (α x : ℝ) (a n : ℕ) (has1 has2 : Bool) (hn : n ≤ 2)
    (h1 : a = 1 → has1 = true) (h2 : 2 ≤ a → has1 = true ∧ has2 = true) :
    axisDirect α x a n has1 has2 = (Pn α a n).eval x * Real.exp (-(α * (x * x))) := by
  unfold axisDirect
  simp only [Transc.exp]
  match n, hn with
  | 0, _ => simp [powN_eq_pow]
  | 1, _ => simp [directFirst_eq]
  | 2, _ => simp [directSecond_eq α x a has1 has2 h1 h2]

/-- for orders `≤ 2` and truthful flags both back-ends agree -/
theorem axisDirect_eq (α x : ℝ) (hα : 0 ≤ α) (a n : ℕ) (has1 has2 : Bool) (hn : n ≤ 2)
    (h1 : a = 1 → has1 = true) (h2 : 2 ≤ a → has1 = true ∧ has2 = true) :
    axisDirect α x a n has1 has2 = axisGeneral α x a n := by
  rw [axisDirect_eq_spec α x a n has1 has2 hn h1 h2, axisGeneral_eq α x hα]

/-- for an order above 2 the direct back-end leaves the axis out of the product -/
theorem axisDirect_gt_two (α x : ℝ) (a n : ℕ) (has1 has2 : Bool) (hn : 2 < n) :
    axisDirect α x a n has1 has2 = 1 := by
  unfold axisDirect
  have h0 : n ≠ 0 := by omega
  have h1 : n ≠ 1 := by omega
  have h2 : n ≠ 2 := by omega
  simp [h0, h1, h2]

theorem Pn_one_one_three : (Pn (1 : ℝ) 1 3) = -6 + 24 * X ^ 2 - 8 * X ^ 4 := by
  simp only [Pn_succ, Pn_zero]
  simp [derivative_mul, C_ofNat]
  ring

/-- why the dispatcher must reject orders above 2: the direct value is 1, the third derivative of
`x e^{-x²}` at `x = 1/2` is `-e^{-1/4}/2 < 0`. -/
theorem axisDirect_three_ne_spec (has1 has2 : Bool) :
    axisDirect (1 : ℝ) (1/2) 1 3 has1 has2 = 1 ∧
    axisGeneral (1 : ℝ) (1/2) 1 3 < 0 ∧
    axisDirect (1 : ℝ) (1/2) 1 3 has1 has2 ≠ axisGeneral (1 : ℝ) (1/2) 1 3 := by
  have hd := axisDirect_gt_two 1 (1/2) 1 3 has1 has2 (by norm_num)
  have hg : axisGeneral (1 : ℝ) (1/2) 1 3 < 0 := by
    rw [axisGeneral_eq 1 (1/2) zero_le_one, Pn_one_one_three]
    refine mul_neg_of_neg_of_pos ?_ (Real.exp_pos _)
    simp only [eval_add, eval_sub, eval_mul, eval_pow, eval_X, eval_neg, eval_ofNat]
    norm_num
  exact ⟨hd, hg, fun h => by rw [hd] at h; linarith⟩

/-! ## The flags of `evalBlock` are truthful for a full shell -/

theorem exists_mem_defaultCart_ax (l u m : ℕ) (hm : m ≤ l) : ∃ c ∈ defaultCart l, c.ax u = m := by
  match u with
  | 0 => exact ⟨(m, l - m, 0), (mem_defaultCart l _).mpr (by dsimp only; omega), rfl⟩
  | 1 => exact ⟨(0, m, l - m), (mem_defaultCart l _).mpr (by dsimp only; omega), rfl⟩
  | u+2 => exact ⟨(0, l - m, m), (mem_defaultCart l _).mpr (by dsimp only; omega), rfl⟩

/-- with `has1`, `has2` computed from the full default shell as
`evalBlock` does, the hypotheses of `directSecond_eq` hold for every exponent `a ≥ 1` that can
occur (`a ≤ l`). -/
theorem flags_truthful_of_full_shell (l u a : ℕ) (ha : a ≤ l) :
    (a = 1 → (defaultCart l).any (fun c => c.ax u == 1) = true) ∧
    (2 ≤ a → (defaultCart l).any (fun c => c.ax u == 1) = true ∧
              (defaultCart l).any (fun c => decide (c.ax u ≥ 2)) = true) := by
  have h1 : 1 ≤ l → (defaultCart l).any (fun c => c.ax u == 1) = true := fun h =>
    let ⟨c, hc, e⟩ := exists_mem_defaultCart_ax l u 1 h
    List.any_eq_true.mpr ⟨c, hc, beq_iff_eq.mpr e⟩
  have h2 : 2 ≤ l → (defaultCart l).any (fun c => decide (c.ax u ≥ 2)) = true := fun h =>
    let ⟨c, hc, e⟩ := exists_mem_defaultCart_ax l u 2 h
    List.any_eq_true.mpr ⟨c, hc, decide_eq_true e.ge⟩
  exact ⟨fun h => h1 (by omega), fun h => ⟨h1 (by omega), h2 (by omega)⟩⟩

/-! ## Dispatch -/

theorem dispatch_general (o : Comp) : dispatch "general" o = .ok .general := by
  simp [dispatch]

theorem dispatch_direct (o : Comp) :
    dispatch "direct" o
      = if o.1 ≤ 2 ∧ o.2.1 ≤ 2 ∧ o.2.2 ≤ 2 then .ok .direct else .error "ValueError" := by
  have hne : ("direct" == "general") = false := by decide
  simp only [dispatch, hne, Bool.false_eq_true, if_false, beq_self_eq_true, if_true, Bool.or_eq_true,
    decide_eq_true_eq, gt_iff_lt, ← not_le, ← not_and_or, ite_not, and_assoc]

theorem dispatch_direct_iff (o : Comp) :
    dispatch "direct" o = .ok .direct ↔ o.1 ≤ 2 ∧ o.2.1 ≤ 2 ∧ o.2.2 ≤ 2 := by
  rw [dispatch_direct]
  by_cases h : o.1 ≤ 2 ∧ o.2.1 ≤ 2 ∧ o.2.2 ≤ 2 <;> simp [h]

theorem dispatch_direct_error (o : Comp) (h : ¬ (o.1 ≤ 2 ∧ o.2.1 ≤ 2 ∧ o.2.2 ≤ 2)) :
    dispatch "direct" o = .error "ValueError" := by
  rw [dispatch_direct, if_neg h]

theorem dispatch_other (s : String) (o : Comp) (h1 : s ≠ "general") (h2 : s ≠ "direct") :
    dispatch s o = .error "ValueError" := by
  simp [dispatch, h1, h2]

theorem dispatch_ok_direct (s : String) (o : Comp) (h : dispatch s o = .ok .direct) :
    s = "direct" ∧ o.1 ≤ 2 ∧ o.2.1 ≤ 2 ∧ o.2.2 ≤ 2 := by
  by_cases h1 : s = "general"
  · subst h1; rw [dispatch_general] at h; cases h
  · by_cases h2 : s = "direct"
    · subst h2; exact ⟨rfl, (dispatch_direct_iff o).mp h⟩
    · rw [dispatch_other s o h1 h2] at h; cases h

end GB

