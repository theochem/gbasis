import GBProofs.SphericalNorm
import GBProofs.Definiteness
import GBProofs.SmoothInstance
import GBProofs.Layout
import GBProofs.RigidMotion

/-!
# Definiteness of the assembled arrays (C17) and non-negativity of the densities (C06)

All statements are about the arrays the model assembles for a whole basis (`entry2 b b (pairBlocks …)`
and the flat `assemble2 …`): every shell, Cartesian and spherical, after `norm_cont` and the
Cartesian → spherical transformation.

An entry of such an array is the `cw`-weighted double sum of raw Cartesian block entries (§1), so the
array is `T · (raw Cartesian matrix) · Tᵀ` with a rectangular `T` (§2), and sign and symmetry of the raw
matrix (`Definiteness.lean`) pass to the array by the congruence lemmas of `GramLaws.lean` (§3).
§4 identifies the entries with integrals over the basis functions `basisFn` of the array.  §5 (C06)
evaluates a positive semi-definite density matrix on the vector of values of any family of functions.
-/
open MeasureTheory Real

namespace GB

/-! ## 1. The entries of an assembled two-index array as sums over Cartesian components -/
section Entries

noncomputable def shellOf (b : Basis ℝ) (r : ℕ) : Shell ℝ := b[(b.locate r).1]!
def segOf (b : Basis ℝ) (r : ℕ) : ℕ := (b.locate r).2.1
def funOf (b : Basis ℝ) (r : ℕ) : ℕ := (b.locate r).2.2

/-- One expression for both coordinate types, where the model branches on `s.sph` (`stage_eq`): a
Cartesian shell has weight only on its own component `f`. -/
noncomputable def cwS (s : Shell ℝ) (m f a : ℕ) : ℝ :=
  if s.sph then s.weights.get3 m f a else if a = f then s.weights.get3 m f f else 0

noncomputable def cw (b : Basis ℝ) (r a : ℕ) : ℝ := cwS (shellOf b r) (segOf b r) (funOf b r) a

theorem stage_eq (s : Shell ℝ) (m f : ℕ) (hf : f < s.nfun) (B : ℕ → ℝ) :
    (if s.sph then ∑ a ∈ Finset.range s.ncart, s.weights.get3 m f a * B a
      else s.weights.get3 m f f * B f)
      = ∑ a ∈ Finset.range s.ncart, cwS s m f a * B a := by
  unfold cwS
  cases hsph : s.sph with
  | true => simp
  | false =>
    have hf' : f < s.ncart := by simpa [Shell.nfun, hsph, Shell.ncart] using hf
    simp only [Bool.false_eq_true, if_false]
    rw [Finset.sum_eq_single f]
    · simp
    · intro a _ hne; simp [hne]
    · intro h; exact absurd (Finset.mem_range.mpr hf') h

theorem wBlock2_get4_eq_sum (s t : Shell ℝ) (blk : Tab4 ℝ) (m f n g : ℕ) (hf : f < s.nfun)
    (hg : g < t.nfun) :
    (wBlock2 s t s.weights t.weights blk).get4 m f n g
      = ∑ a ∈ Finset.range s.ncart, ∑ a' ∈ Finset.range t.ncart,
          cwS s m f a * cwS t n g a' * blk.get4 m a n a' := by
  simp only [wBlock2, tab4_get, sumN_eq_sum]
  refine (stage_eq t n g hg _).trans ?_
  rw [Finset.sum_comm]
  refine Finset.sum_congr rfl fun a' _ => ?_
  rw [stage_eq s m f hf (fun a => blk.get4 m a n a'), Finset.mul_sum]
  refine Finset.sum_congr rfl fun a _ => ?_
  ring

theorem shellOf_eq (b : Basis ℝ) (r : ℕ) (hi : (b.locate r).1 < b.size) :
    shellOf b r = b[(b.locate r).1] := getElem!_pos b _ hi

theorem entry2_eq_sum_asym (b1 b2 : Basis ℝ) (nextra : ℕ) (blk : ℕ → ℕ → Tab (Tab4 ℝ))
    (r c e : ℕ) (hr : r < b1.total) (hc : c < b2.total) :
    entry2 b1 b2 (pairBlocks b1 b2 nextra blk) r c e
      = ∑ a ∈ Finset.range (shellOf b1 r).ncart, ∑ a' ∈ Finset.range (shellOf b2 c).ncart,
          cw b1 r a * cw b2 c a'
            * ((blk (b1.locate r).1 (b2.locate c).1).get e).get4 (segOf b1 r) a (segOf b2 c) a' := by
  obtain ⟨i, hi, m, f, -, hf, -, hlr⟩ := locate_cases b1 r hr
  obtain ⟨j, hj, n, g, -, hg, -, hlc⟩ := locate_cases b2 c hc
  rw [entry2_of_locate b1 b2 nextra blk e hlr hlc hi hj]
  unfold cw shellOf segOf funOf
  rw [hlr, hlc, getElem!_pos b1 i hi, getElem!_pos b2 j hj]
  exact wBlock2_get4_eq_sum _ _ _ _ _ _ _ hf hg

theorem entry2_eq_sum (b : Basis ℝ) (nextra : ℕ) (blk : ℕ → ℕ → Tab (Tab4 ℝ)) (r c e : ℕ)
    (hr : r < b.total) (hc : c < b.total) :
    entry2 b b (pairBlocks b b nextra blk) r c e
      = ∑ a ∈ Finset.range (shellOf b r).ncart, ∑ a' ∈ Finset.range (shellOf b c).ncart,
          cw b r a * cw b c a'
            * ((blk (b.locate r).1 (b.locate c).1).get e).get4 (segOf b r) a (segOf b c) a' :=
  entry2_eq_sum_asym b b nextra blk r c e hr hc

theorem applyW_eq_sum (s : Shell ℝ) (F : ℕ → ℕ → ℝ) (m f : ℕ) (hf : f < s.nfun) :
    applyW s s.weights F m f = ∑ a ∈ Finset.range s.ncart, cwS s m f a * F m a := by
  simp only [applyW, sumN_eq_sum]
  exact stage_eq s m f hf (fun a => F m a)

end Entries

/-! ## 2. The assembled array is `T M Tᵀ` of the matrix of Cartesian contracted functions -/
section TMT

/-- Index type of the Cartesian contracted functions underlying the basis functions.  Several `r` of
one shell and segment share their Cartesian functions; the duplicates do no harm to a congruence. -/
abbrev CartIx (b : Basis ℝ) : Type := Σ r : Fin b.total, Fin (shellOf b r.1).ncart

noncomputable def cwMat (b : Basis ℝ) (r : Fin b.total) (α : CartIx b) : ℝ :=
  if α.1 = r then cw b α.1.1 α.2.1 else 0

theorem sum_cwMat (b : Basis ℝ) (r : Fin b.total) (g : CartIx b → ℝ) :
    ∑ α, cwMat b r α * g α = ∑ a : Fin (shellOf b r.1).ncart, cw b r.1 a.1 * g ⟨r, a⟩ := by
  rw [Fintype.sum_sigma, Finset.sum_eq_single r]
  · exact Finset.sum_congr rfl fun a _ => by rw [cwMat, if_pos rfl]
  · intro r' _ hne
    exact Finset.sum_eq_zero fun a _ => by rw [cwMat, if_neg hne, zero_mul]
  · intro h; exact absurd (Finset.mem_univ r) h

noncomputable def rawMat (b : Basis ℝ) (blk : ℕ → ℕ → Tab (Tab4 ℝ)) (e : ℕ) (α β : CartIx b) : ℝ :=
  ((blk (b.locate α.1.1).1 (b.locate β.1.1).1).get e).get4 (segOf b α.1.1) α.2.1 (segOf b β.1.1) β.2.1

theorem entry2_eq_TMT (b : Basis ℝ) (nextra : ℕ) (blk : ℕ → ℕ → Tab (Tab4 ℝ)) (e : ℕ)
    (r c : Fin b.total) :
    entry2 b b (pairBlocks b b nextra blk) r.1 c.1 e
      = ∑ α, ∑ β, cwMat b r α * rawMat b blk e α β * cwMat b c β := by
  rw [entry2_eq_sum b nextra blk r.1 c.1 e r.2 c.2]
  have h1 : ∀ α : CartIx b, ∑ β, cwMat b r α * rawMat b blk e α β * cwMat b c β
      = cwMat b r α * ∑ β, cwMat b c β * rawMat b blk e α β := by
    intro α
    rw [Finset.mul_sum]
    refine Finset.sum_congr rfl fun β _ => ?_
    ring
  simp_rw [h1]
  rw [sum_cwMat b r, Finset.sum_range]
  refine Finset.sum_congr rfl fun a _ => ?_
  rw [sum_cwMat b c, Finset.sum_range, Finset.mul_sum]
  refine Finset.sum_congr rfl fun a' _ => ?_
  unfold rawMat
  ring

theorem array_psd_of_raw (b : Basis ℝ) (nextra : ℕ) (blk : ℕ → ℕ → Tab (Tab4 ℝ)) (e : ℕ)
    (hpsd : ∀ y, 0 ≤ quadForm (rawMat b blk e) y) (x : Fin b.total → ℝ) :
    0 ≤ quadForm (fun r c : Fin b.total => entry2 b b (pairBlocks b b nextra blk) r.1 c.1 e) x := by
  simp_rw [entry2_eq_TMT b nextra blk e]
  exact psd_congr _ _ hpsd x

theorem array_nsd_of_raw (b : Basis ℝ) (nextra : ℕ) (blk : ℕ → ℕ → Tab (Tab4 ℝ)) (e : ℕ)
    (hnsd : ∀ y, quadForm (rawMat b blk e) y ≤ 0) (x : Fin b.total → ℝ) :
    quadForm (fun r c : Fin b.total => entry2 b b (pairBlocks b b nextra blk) r.1 c.1 e) x ≤ 0 := by
  simp_rw [entry2_eq_TMT b nextra blk e]
  exact nsd_congr _ _ hnsd x

theorem array_symm_of_raw (b : Basis ℝ) (nextra : ℕ) (blk : ℕ → ℕ → Tab (Tab4 ℝ)) (e : ℕ)
    (hsymm : ∀ α β, rawMat b blk e α β = rawMat b blk e β α) (r c : Fin b.total) :
    entry2 b b (pairBlocks b b nextra blk) r.1 c.1 e
      = entry2 b b (pairBlocks b b nextra blk) c.1 r.1 e := by
  rw [entry2_eq_TMT b nextra blk e, entry2_eq_TMT b nextra blk e]
  exact symm_congr _ _ hsymm r c

end TMT

/-! ## 3. C17 for the overlap, kinetic-energy and point-charge arrays of a basis -/
section Arrays

def Basis.ExpsPos (b : Basis ℝ) : Prop :=
  ∀ (i : ℕ) (hi : i < b.size), ∀ k < b[i].nprim, 0 < b[i].exp! k

/-- In gbasis every component has total degree exactly `l`; the proofs need only `≤ l`. -/
def Basis.CompsLe (b : Basis ℝ) : Prop :=
  ∀ (i : ℕ) (hi : i < b.size), ∀ a < b[i].ncart,
    (b[i].comp! a).1 + (b[i].comp! a).2.1 + (b[i].comp! a).2.2 ≤ b[i].l

theorem Basis.Regular.expsPos {b : Basis ℝ} (hb : b.Regular) : b.ExpsPos := hb.exps_pos

theorem shellOf_exps_pos (b : Basis ℝ) (hb : b.ExpsPos) (r : ℕ) (hr : r < b.total) :
    ∀ k < (shellOf b r).nprim, 0 < (shellOf b r).exp! k := by
  obtain ⟨hi, -⟩ := locate_lt b r hr
  rw [shellOf_eq b r hi]; exact hb _ hi

theorem shellOf_comps_le (b : Basis ℝ) (hb : b.CompsLe) (r : ℕ) (hr : r < b.total) :
    ∀ a < (shellOf b r).ncart, ((shellOf b r).comp! a).1 + ((shellOf b r).comp! a).2.1
      + ((shellOf b r).comp! a).2.2 ≤ (shellOf b r).l := by
  obtain ⟨hi, -⟩ := locate_lt b r hr
  rw [shellOf_eq b r hi]; exact hb _ hi

noncomputable def cartShell (b : Basis ℝ) (α : CartIx b) : Shell ℝ := shellOf b α.1.1
def cartSeg (b : Basis ℝ) (α : CartIx b) : ℕ := segOf b α.1.1
def cartComp (b : Basis ℝ) (α : CartIx b) : ℕ := α.2.1

theorem cartShell_exps_pos (b : Basis ℝ) (hb : b.ExpsPos) (α : CartIx b) :
    ∀ k < (cartShell b α).nprim, 0 < (cartShell b α).exp! k :=
  shellOf_exps_pos b hb α.1.1 α.1.2

theorem cartShell_comps_le (b : Basis ℝ) (hb : b.CompsLe) (α : CartIx b) :
    ((cartShell b α).comp! (cartComp b α)).1 + ((cartShell b α).comp! (cartComp b α)).2.1
      + ((cartShell b α).comp! (cartComp b α)).2.2 ≤ (cartShell b α).l :=
  shellOf_comps_le b hb α.1.1 α.1.2 α.2.1 α.2.2

/-! ### overlap -/

theorem rawMat_overlap (b : Basis ℝ) :
    rawMat b (overlapBlk b) 0 = overlapMat (cartShell b) (cartSeg b) (cartComp b) := by
  funext α β
  simp only [rawMat, overlapBlk, tab_get, overlapMat, cartShell, cartSeg, cartComp, shellOf]

theorem overlap_array_psd (b : Basis ℝ) (hb : b.ExpsPos) (x : Fin b.total → ℝ) :
    0 ≤ ∑ r : Fin b.total, ∑ c : Fin b.total,
      x r * entry2 b b (pairBlocks b b 1 (overlapBlk b)) r c 0 * x c := by
  refine array_psd_of_raw b 1 (overlapBlk b) 0 ?_ x
  rw [rawMat_overlap]
  exact overlap_psd _ _ _ (cartShell_exps_pos b hb)

theorem overlap_array_symm (b : Basis ℝ) (hb : b.ExpsPos) (r c : ℕ) (hr : r < b.total)
    (hc : c < b.total) :
    entry2 b b (pairBlocks b b 1 (overlapBlk b)) r c 0
      = entry2 b b (pairBlocks b b 1 (overlapBlk b)) c r 0 := by
  refine array_symm_of_raw b 1 (overlapBlk b) 0 ?_ ⟨r, hr⟩ ⟨c, hc⟩
  rw [rawMat_overlap]
  exact overlapMat_symm _ _ _ (cartShell_exps_pos b hb)

theorem overlap_array_abs_le_one (b : Basis ℝ) (hb : b.Regular) (r c : ℕ) (hr : r < b.total)
    (hc : c < b.total) :
    |entry2 b b (pairBlocks b b 1 (overlapBlk b)) r c 0| ≤ 1 := by
  have h := psd_abs_le
    (fun r c : Fin b.total => entry2 b b (pairBlocks b b 1 (overlapBlk b)) r.1 c.1 0)
    (fun r c => overlap_array_symm b hb.expsPos r.1 c.1 r.2 c.2)
    (fun x => overlap_array_psd b hb.expsPos x) ⟨r, hr⟩ ⟨c, hc⟩
  simp only [overlap_array_diag_one b hb r hr, overlap_array_diag_one b hb c hc, Real.sqrt_one,
    mul_one] at h
  exact h

/-! ### kinetic energy -/

/-- the `blk` argument with which `Driver.lean` calls `assemble2` for `"kinetic"` -/
noncomputable def kineticBlk (b : Basis ℝ) (i j : ℕ) : Tab (Tab4 ℝ) :=
  tab 1 fun _ => kineticBlock b[i]! b[j]!

theorem rawMat_kinetic (b : Basis ℝ) :
    rawMat b (kineticBlk b) 0 = kineticMat (cartShell b) (cartSeg b) (cartComp b) := by
  funext α β
  simp only [rawMat, kineticBlk, tab_get, kineticMat, cartShell, cartSeg, cartComp, shellOf]

theorem cartShell_comps_le' (b : Basis ℝ) (hb : b.CompsLe) (α : CartIx b) :
    ((cartShell b α).comp! (cartComp b α)).1 ≤ (cartShell b α).l
      ∧ ((cartShell b α).comp! (cartComp b α)).2.1 ≤ (cartShell b α).l
      ∧ ((cartShell b α).comp! (cartComp b α)).2.2 ≤ (cartShell b α).l := by
  have := cartShell_comps_le b hb α
  omega

theorem kinetic_array_psd (b : Basis ℝ) (hb : b.ExpsPos) (hc : b.CompsLe) (x : Fin b.total → ℝ) :
    0 ≤ ∑ r : Fin b.total, ∑ c : Fin b.total,
      x r * entry2 b b (pairBlocks b b 1 (kineticBlk b)) r c 0 * x c := by
  refine array_psd_of_raw b 1 (kineticBlk b) 0 ?_ x
  rw [rawMat_kinetic]
  exact kinetic_psd _ _ _ (cartShell_exps_pos b hb) (cartShell_comps_le' b hc)

theorem kinetic_array_symm (b : Basis ℝ) (hb : b.ExpsPos) (hc : b.CompsLe) (r c : ℕ)
    (hr : r < b.total) (hc' : c < b.total) :
    entry2 b b (pairBlocks b b 1 (kineticBlk b)) r c 0
      = entry2 b b (pairBlocks b b 1 (kineticBlk b)) c r 0 := by
  refine array_symm_of_raw b 1 (kineticBlk b) 0 ?_ ⟨r, hr⟩ ⟨c, hc'⟩
  rw [rawMat_kinetic]
  exact kineticMat_symm _ _ _ (cartShell_exps_pos b hb) (cartShell_comps_le' b hc)

/-! ### point charges -/

/-- the `blk` argument with which `Driver.lean` calls `assemble2` for `"pointcharge"`: one trailing
entry `e` per point charge `qs e` at `pts e` -/
noncomputable def pointChargeBlk (boysT : ℝ → ℕ → Tab ℝ) (b : Basis ℝ) (np : ℕ) (pts : ℕ → ℕ → ℝ)
    (qs : ℕ → ℝ) (i j : ℕ) : Tab (Tab4 ℝ) :=
  tab np fun e => pointChargeBlock boysT b[i]! b[j]! (pts e) (qs e)

theorem rawMat_pointCharge (boysT : ℝ → ℕ → Tab ℝ) (b : Basis ℝ) (np : ℕ) (pts : ℕ → ℕ → ℝ)
    (qs : ℕ → ℝ) (e : ℕ) :
    rawMat b (pointChargeBlk boysT b np pts qs) e
      = pointChargeMat boysT (pts e) (qs e) (cartShell b) (cartSeg b) (cartComp b) := by
  funext α β
  simp only [rawMat, pointChargeBlk, tab_get, pointChargeMat, cartShell, cartSeg, cartComp, shellOf]

theorem pointCharge_array_nsd (boysT : ℝ → ℕ → Tab ℝ)
    (hboys : ∀ T n m, m < n → (boysT T n).get m = boys T m) (b : Basis ℝ) (hb : b.ExpsPos)
    (hc : b.CompsLe) (np : ℕ) (pts : ℕ → ℕ → ℝ) (qs : ℕ → ℝ) (e : ℕ) (hq : 0 ≤ qs e)
    (x : Fin b.total → ℝ) :
    ∑ r : Fin b.total, ∑ c : Fin b.total,
      x r * entry2 b b (pairBlocks b b np (pointChargeBlk boysT b np pts qs)) r c e * x c ≤ 0 := by
  refine array_nsd_of_raw b np (pointChargeBlk boysT b np pts qs) e ?_ x
  rw [rawMat_pointCharge]
  exact pointCharge_nsd boysT hboys _ _ hq _ _ _ (cartShell_exps_pos b hb) (cartShell_comps_le b hc)

theorem pointCharge_array_symm (boysT : ℝ → ℕ → Tab ℝ)
    (hboys : ∀ T n m, m < n → (boysT T n).get m = boys T m) (b : Basis ℝ) (hb : b.ExpsPos)
    (hc : b.CompsLe) (np : ℕ) (pts : ℕ → ℕ → ℝ) (qs : ℕ → ℝ) (e r c : ℕ) (hr : r < b.total)
    (hc' : c < b.total) :
    entry2 b b (pairBlocks b b np (pointChargeBlk boysT b np pts qs)) r c e
      = entry2 b b (pairBlocks b b np (pointChargeBlk boysT b np pts qs)) c r e := by
  refine array_symm_of_raw b np (pointChargeBlk boysT b np pts qs) e ?_ ⟨r, hr⟩ ⟨c, hc'⟩
  rw [rawMat_pointCharge]
  exact pointChargeMat_symm boysT hboys _ _ _ _ _ (cartShell_exps_pos b hb)
    (cartShell_comps_le b hc)

theorem pointCharge_array_nsd_one (boysT : ℝ → ℕ → Tab ℝ)
    (hboys : ∀ T n m, m < n → (boysT T n).get m = boys T m) (b : Basis ℝ) (hb : b.ExpsPos)
    (hc : b.CompsLe) (Cpt : ℕ → ℝ) (q : ℝ) (hq : 0 ≤ q) (x : Fin b.total → ℝ) :
    ∑ r : Fin b.total, ∑ c : Fin b.total,
      x r * entry2 b b (pairBlocks b b 1
        (fun i j => tab 1 fun _ => pointChargeBlock boysT b[i]! b[j]! Cpt q)) r c 0 * x c ≤ 0 :=
  pointCharge_array_nsd boysT hboys b hb hc 1 (fun _ => Cpt) (fun _ => q) 0 hq x

/-- The sum of the slices is what `nuclear_electron_attraction_integral` returns
(`np.sum(point_charge_integral(…), axis=2)`). -/
theorem pointCharge_array_sum_nsd (boysT : ℝ → ℕ → Tab ℝ)
    (hboys : ∀ T n m, m < n → (boysT T n).get m = boys T m) (b : Basis ℝ) (hb : b.ExpsPos)
    (hc : b.CompsLe) (np : ℕ) (pts : ℕ → ℕ → ℝ) (qs : ℕ → ℝ) (hq : ∀ e < np, 0 ≤ qs e)
    (x : Fin b.total → ℝ) :
    ∑ r : Fin b.total, ∑ c : Fin b.total,
      x r * (∑ e ∈ Finset.range np,
        entry2 b b (pairBlocks b b np (pointChargeBlk boysT b np pts qs)) r c e) * x c ≤ 0 :=
  (quadForm_sum (Finset.range np) (fun e (r c : Fin b.total) =>
      entry2 b b (pairBlocks b b np (pointChargeBlk boysT b np pts qs)) r c e) x).trans_le
    (Finset.sum_nonpos fun e he =>
      pointCharge_array_nsd boysT hboys b hb hc np pts qs e (hq e (Finset.mem_range.mp he)) x)

/-! ### a further (user) transformation `T · array · Tᵀ` -/

/-- The library's `transform=` argument multiplies the array by a further matrix `T` (rectangular
allowed) on both sides.  Symmetry of the result is `overlap_array_transform_symm`. -/
theorem overlap_array_transform_psd {κ : Type*} [Fintype κ] (b : Basis ℝ) (hb : b.ExpsPos)
    (T : κ → Fin b.total → ℝ) (x : κ → ℝ) :
    0 ≤ ∑ i, ∑ j, x i * (∑ r : Fin b.total, ∑ c : Fin b.total,
      T i r * entry2 b b (pairBlocks b b 1 (overlapBlk b)) r c 0 * T j c) * x j :=
  psd_congr (fun r c : Fin b.total => entry2 b b (pairBlocks b b 1 (overlapBlk b)) r.1 c.1 0) T
    (fun y => overlap_array_psd b hb y) x

theorem overlap_array_transform_symm {κ : Type*} (b : Basis ℝ) (hb : b.ExpsPos)
    (T : κ → Fin b.total → ℝ) (i j : κ) :
    (∑ r : Fin b.total, ∑ c : Fin b.total,
      T i r * entry2 b b (pairBlocks b b 1 (overlapBlk b)) r c 0 * T j c)
    = ∑ r : Fin b.total, ∑ c : Fin b.total,
      T j r * entry2 b b (pairBlocks b b 1 (overlapBlk b)) r c 0 * T i c :=
  symm_congr (fun r c : Fin b.total => entry2 b b (pairBlocks b b 1 (overlapBlk b)) r.1 c.1 0) T
    (fun r c => overlap_array_symm b hb r.1 c.1 r.2 c.2) i j

theorem kinetic_array_transform_psd {κ : Type*} [Fintype κ] (b : Basis ℝ) (hb : b.ExpsPos)
    (hc : b.CompsLe) (T : κ → Fin b.total → ℝ) (x : κ → ℝ) :
    0 ≤ ∑ i, ∑ j, x i * (∑ r : Fin b.total, ∑ c : Fin b.total,
      T i r * entry2 b b (pairBlocks b b 1 (kineticBlk b)) r c 0 * T j c) * x j :=
  psd_congr (fun r c : Fin b.total => entry2 b b (pairBlocks b b 1 (kineticBlk b)) r.1 c.1 0) T
    (fun y => kinetic_array_psd b hb hc y) x

theorem pointCharge_array_transform_nsd {κ : Type*} [Fintype κ] (boysT : ℝ → ℕ → Tab ℝ)
    (hboys : ∀ T n m, m < n → (boysT T n).get m = boys T m) (b : Basis ℝ) (hb : b.ExpsPos)
    (hc : b.CompsLe) (np : ℕ) (pts : ℕ → ℕ → ℝ) (qs : ℕ → ℝ) (e : ℕ) (hq : 0 ≤ qs e)
    (T : κ → Fin b.total → ℝ) (x : κ → ℝ) :
    ∑ i, ∑ j, x i * (∑ r : Fin b.total, ∑ c : Fin b.total,
      T i r * entry2 b b (pairBlocks b b np (pointChargeBlk boysT b np pts qs)) r c e * T j c) * x j
      ≤ 0 :=
  nsd_congr (fun r c : Fin b.total =>
      entry2 b b (pairBlocks b b np (pointChargeBlk boysT b np pts qs)) r.1 c.1 e) T
    (fun y => pointCharge_array_nsd boysT hboys b hb hc np pts qs e hq y) x

/-! ### the flat arrays `assemble2 …` that the driver prints -/

theorem overlap_flat_abs_le_one (b : Basis ℝ) (hb : b.Regular) (r c : ℕ) (hr : r < b.total)
    (hc : c < b.total) :
    |(assemble2 b b 1 (overlapBlk b))[(r * b.total + c) * 1 + 0]!| ≤ 1 := by
  rw [assemble2_get b b 1 (overlapBlk b) r c 0 hr hc (by omega)]
  exact overlap_array_abs_le_one b hb r c hr hc

theorem overlap_flat_symm (b : Basis ℝ) (hb : b.ExpsPos) (r c : ℕ) (hr : r < b.total)
    (hc : c < b.total) :
    (assemble2 b b 1 (overlapBlk b))[(r * b.total + c) * 1 + 0]!
      = (assemble2 b b 1 (overlapBlk b))[(c * b.total + r) * 1 + 0]! := by
  rw [assemble2_get b b 1 (overlapBlk b) r c 0 hr hc (by omega),
    assemble2_get b b 1 (overlapBlk b) c r 0 hc hr (by omega)]
  exact overlap_array_symm b hb r c hr hc

theorem overlap_flat_psd (b : Basis ℝ) (hb : b.ExpsPos) (x : Fin b.total → ℝ) :
    0 ≤ ∑ r : Fin b.total, ∑ c : Fin b.total,
      x r * (assemble2 b b 1 (overlapBlk b))[(r.1 * b.total + c.1) * 1 + 0]! * x c := by
  simp_rw [fun r c : Fin b.total => assemble2_get b b 1 (overlapBlk b) r.1 c.1 0 r.2 c.2 (by omega)]
  exact overlap_array_psd b hb x

theorem kinetic_flat_psd (b : Basis ℝ) (hb : b.ExpsPos) (hc : b.CompsLe) (x : Fin b.total → ℝ) :
    0 ≤ ∑ r : Fin b.total, ∑ c : Fin b.total,
      x r * (assemble2 b b 1 (kineticBlk b))[(r.1 * b.total + c.1) * 1 + 0]! * x c := by
  simp_rw [fun r c : Fin b.total => assemble2_get b b 1 (kineticBlk b) r.1 c.1 0 r.2 c.2 (by omega)]
  exact kinetic_array_psd b hb hc x

theorem pointCharge_flat_nsd (boysT : ℝ → ℕ → Tab ℝ)
    (hboys : ∀ T n m, m < n → (boysT T n).get m = boys T m) (b : Basis ℝ) (hb : b.ExpsPos)
    (hc : b.CompsLe) (np : ℕ) (pts : ℕ → ℕ → ℝ) (qs : ℕ → ℝ) (e : ℕ) (he : e < np) (hq : 0 ≤ qs e)
    (x : Fin b.total → ℝ) :
    ∑ r : Fin b.total, ∑ c : Fin b.total,
      x r * (assemble2 b b np (pointChargeBlk boysT b np pts qs))[(r.1 * b.total + c.1) * np + e]!
        * x c ≤ 0 := by
  simp_rw [fun r c : Fin b.total =>
    assemble2_get b b np (pointChargeBlk boysT b np pts qs) r.1 c.1 e r.2 c.2 he]
  exact pointCharge_array_nsd boysT hboys b hb hc np pts qs e hq x

end Arrays

/-! ## 4. The basis functions of the array; entries as integrals -/
section BasisFunctions

/-- Basis function `r` of the assembled arrays.  For a spherical shell `weights` is `norm_cont` times the
Cartesian → spherical matrix. -/
noncomputable def basisFn (b : Basis ℝ) (r : ℕ) (x : ℝ × ℝ × ℝ) : ℝ :=
  if (shellOf b r).sph then
    ∑ a ∈ Finset.range (shellOf b r).ncart,
      (shellOf b r).weights.get3 (segOf b r) (funOf b r) a * shellFn (shellOf b r) (segOf b r) a x
  else (shellOf b r).weights.get3 (segOf b r) (funOf b r) (funOf b r)
    * shellFn (shellOf b r) (segOf b r) (funOf b r) x

noncomputable def basisLin {α : Type*} (b : Basis ℝ) (r : ℕ) (F : Shell ℝ → ℕ → ℕ → α → ℝ)
    (x : α) : ℝ :=
  ∑ a ∈ Finset.range (shellOf b r).ncart, cw b r a * F (shellOf b r) (segOf b r) a x

theorem funOf_lt (b : Basis ℝ) (r : ℕ) (hr : r < b.total) : funOf b r < (shellOf b r).nfun := by
  obtain ⟨hi, -, hf, -⟩ := locate_lt b r hr
  rw [shellOf_eq b r hi]; exact hf

theorem basisFn_eq_basisLin (b : Basis ℝ) (r : ℕ) (hr : r < b.total) :
    basisFn b r = basisLin b r shellFn := by
  funext x
  exact stage_eq (shellOf b r) (segOf b r) (funOf b r) (funOf_lt b r hr)
    (fun a => shellFn (shellOf b r) (segOf b r) a x)

theorem integrable_basisLin_mul {α : Type*} [MeasurableSpace α] (μ : Measure α) (b : Basis ℝ)
    (r c : ℕ) (F G : Shell ℝ → ℕ → ℕ → α → ℝ)
    (h : ∀ a a', Integrable (fun x => F (shellOf b r) (segOf b r) a x
      * G (shellOf b c) (segOf b c) a' x) μ) :
    Integrable (fun x => basisLin b r F x * basisLin b c G x) μ :=
  integrable_sum_mul_sum _ _ _ _ _ _ μ fun a _ a' _ => h a a'

theorem integral_basisLin_mul {α : Type*} [MeasurableSpace α] (μ : Measure α) (b : Basis ℝ)
    (r c : ℕ) (F G : Shell ℝ → ℕ → ℕ → α → ℝ)
    (h : ∀ a a', Integrable (fun x => F (shellOf b r) (segOf b r) a x
      * G (shellOf b c) (segOf b c) a' x) μ) :
    ∫ x, basisLin b r F x * basisLin b c G x ∂μ
      = ∑ a ∈ Finset.range (shellOf b r).ncart, ∑ a' ∈ Finset.range (shellOf b c).ncart,
          cw b r a * cw b c a' * ∫ x, F (shellOf b r) (segOf b r) a x
            * G (shellOf b c) (segOf b c) a' x ∂μ :=
  integral_sum_mul_sum _ _ _ _ _ _ μ fun a _ a' _ => h a a'

theorem overlap_entry_eq_integral (b : Basis ℝ) (hb : b.ExpsPos) (r c : ℕ) (hr : r < b.total)
    (hc : c < b.total) :
    entry2 b b (pairBlocks b b 1 (overlapBlk b)) r c 0
      = ∫ x : ℝ × ℝ × ℝ, basisFn b r x * basisFn b c x := by
  rw [entry2_eq_sum b 1 (overlapBlk b) r c 0 hr hc, basisFn_eq_basisLin b r hr,
    basisFn_eq_basisLin b c hc, integral_basisLin_mul volume b r c shellFn shellFn
      fun a a' => integrable_shellFn_mul _ _ _ _ _ _ (shellOf_exps_pos b hb r hr)
        (shellOf_exps_pos b hb c hc)]
  refine Finset.sum_congr rfl fun a _ => Finset.sum_congr rfl fun a' _ => congrArg _ ?_
  simp only [overlapBlk, tab_get]
  exact overlapBlock_eq_integral (shellOf b r) (shellOf b c) (segOf b r) a (segOf b c) a'
    (shellOf_exps_pos b hb r hr) (shellOf_exps_pos b hb c hc)

theorem integrable_basisFn_mul (b : Basis ℝ) (hb : b.ExpsPos) (r c : ℕ) (hr : r < b.total)
    (hc : c < b.total) :
    Integrable (fun x : ℝ × ℝ × ℝ => basisFn b r x * basisFn b c x) := by
  rw [basisFn_eq_basisLin b r hr, basisFn_eq_basisLin b c hc]
  exact integrable_basisLin_mul volume b r c shellFn shellFn
    (fun a a' => integrable_shellFn_mul _ _ _ _ _ _ (shellOf_exps_pos b hb r hr)
      (shellOf_exps_pos b hb c hc))

theorem overlap_array_quadForm_eq (b : Basis ℝ) (hb : b.ExpsPos) (x : Fin b.total → ℝ) :
    ∑ r : Fin b.total, ∑ c : Fin b.total,
        x r * entry2 b b (pairBlocks b b 1 (overlapBlk b)) r c 0 * x c
      = ∫ y : ℝ × ℝ × ℝ, (∑ r : Fin b.total, x r * basisFn b r y) ^ 2 := by
  simp_rw [fun r c : Fin b.total => overlap_entry_eq_integral b hb r.1 c.1 r.2 c.2]
  exact quadForm_integral_sq volume (fun r : Fin b.total => basisFn b r.1)
    (fun r c => integrable_basisFn_mul b hb r.1 c.1 r.2 c.2) x

/-! ### kinetic energy: gradient form over the basis functions of the array -/

noncomputable def basisDerivFn (b : Basis ℝ) (r : ℕ) (o : Comp) : ℝ × ℝ × ℝ → ℝ :=
  basisLin b r (fun s m a => shellDerivFn s m a o)

theorem basisDerivFn_zero (b : Basis ℝ) (r : ℕ) (hr : r < b.total) :
    basisDerivFn b r (0,0,0) = basisFn b r := by
  rw [basisFn_eq_basisLin b r hr]
  funext x
  simp only [basisDerivFn, basisLin, shellDerivFn_zero]

theorem hasDerivAt_basisFn_x (b : Basis ℝ) (r : ℕ) (hr : r < b.total) (x y z : ℝ) :
    HasDerivAt (fun x' => basisFn b r (x', y, z)) (basisDerivFn b r (1,0,0) (x, y, z)) x := by
  rw [basisFn_eq_basisLin b r hr]
  unfold basisDerivFn basisLin
  exact HasDerivAt.fun_sum fun a _ => (hasDerivAt_shellFn_x _ _ _ x y z).const_mul _

theorem hasDerivAt_basisFn_y (b : Basis ℝ) (r : ℕ) (hr : r < b.total) (x y z : ℝ) :
    HasDerivAt (fun y' => basisFn b r (x, y', z)) (basisDerivFn b r (0,1,0) (x, y, z)) y := by
  rw [basisFn_eq_basisLin b r hr]
  unfold basisDerivFn basisLin
  exact HasDerivAt.fun_sum fun a _ => (hasDerivAt_shellFn_y _ _ _ x y z).const_mul _

theorem hasDerivAt_basisFn_z (b : Basis ℝ) (r : ℕ) (hr : r < b.total) (x y z : ℝ) :
    HasDerivAt (fun z' => basisFn b r (x, y, z')) (basisDerivFn b r (0,0,1) (x, y, z)) z := by
  rw [basisFn_eq_basisLin b r hr]
  unfold basisDerivFn basisLin
  exact HasDerivAt.fun_sum fun a _ => (hasDerivAt_shellFn_z _ _ _ x y z).const_mul _

theorem integral_basisDerivFn_mul (b : Basis ℝ) (hb : b.ExpsPos) (r c : ℕ) (hr : r < b.total)
    (hc : c < b.total) (o : Comp) :
    ∫ x : ℝ × ℝ × ℝ, basisDerivFn b r o x * basisDerivFn b c o x
      = ∑ a ∈ Finset.range (shellOf b r).ncart, ∑ a' ∈ Finset.range (shellOf b c).ncart,
          cw b r a * cw b c a' * ∫ x : ℝ × ℝ × ℝ, shellDerivFn (shellOf b r) (segOf b r) a o x
            * shellDerivFn (shellOf b c) (segOf b c) a' o x :=
  integral_basisLin_mul volume b r c _ _ fun _ _ =>
    integrable_shellDeriv_mul _ _ _ _ _ _ _ _ (shellOf_exps_pos b hb r hr) (shellOf_exps_pos b hb c hc)

theorem kinetic_entry_eq_gradient (b : Basis ℝ) (hb : b.ExpsPos) (hcomp : b.CompsLe) (r c : ℕ)
    (hr : r < b.total) (hc : c < b.total) :
    entry2 b b (pairBlocks b b 1 (kineticBlk b)) r c 0
      = 1 / 2 * ((∫ x : ℝ × ℝ × ℝ, basisDerivFn b r (1,0,0) x * basisDerivFn b c (1,0,0) x)
          + (∫ x : ℝ × ℝ × ℝ, basisDerivFn b r (0,1,0) x * basisDerivFn b c (0,1,0) x)
          + (∫ x : ℝ × ℝ × ℝ, basisDerivFn b r (0,0,1) x * basisDerivFn b c (0,0,1) x)) := by
  rw [entry2_eq_sum b 1 (kineticBlk b) r c 0 hr hc, integral_basisDerivFn_mul b hb r c hr hc,
    integral_basisDerivFn_mul b hb r c hr hc, integral_basisDerivFn_mul b hb r c hr hc,
    ← Finset.sum_add_distrib, ← Finset.sum_add_distrib, Finset.mul_sum]
  refine Finset.sum_congr rfl fun a ha => ?_
  rw [← Finset.sum_add_distrib, ← Finset.sum_add_distrib, Finset.mul_sum]
  refine Finset.sum_congr rfl fun a' _ => ?_
  have hle := shellOf_comps_le b hcomp r hr a (Finset.mem_range.mp ha)
  have hK := kineticBlock_eq_gradient (shellOf b r) (shellOf b c) (segOf b r) a (segOf b c) a'
    (shellOf_exps_pos b hb r hr) (shellOf_exps_pos b hb c hc) (by omega)
  simp only [kineticBlk, tab_get]
  have hK' : (kineticBlock b[(b.locate r).1]! b[(b.locate c).1]!).get4 (segOf b r) a (segOf b c) a'
      = _ := hK
  rw [hK']
  ring

/-! ### point charges: attraction integrals over the basis functions of the array -/

noncomputable def basisFnE (b : Basis ℝ) (r : ℕ) : E3 → ℝ := basisLin b r shellFnE

theorem basisFnE_eq (b : Basis ℝ) (r : ℕ) (hr : r < b.total) (x : E3) :
    basisFnE b r x = basisFn b r (e3Equiv x) := by
  rw [basisFn_eq_basisLin b r hr]
  simp only [basisFnE, basisLin, shellFn_e3Equiv]

theorem pointCharge_entry_eq_integral (boysT : ℝ → ℕ → Tab ℝ)
    (hboys : ∀ T n m, m < n → (boysT T n).get m = boys T m) (b : Basis ℝ) (hb : b.ExpsPos)
    (hcomp : b.CompsLe) (np : ℕ) (pts : ℕ → ℕ → ℝ) (qs : ℕ → ℝ) (e r c : ℕ) (hr : r < b.total)
    (hc : c < b.total) :
    entry2 b b (pairBlocks b b np (pointChargeBlk boysT b np pts qs)) r c e
      = -(qs e) * ∫ x : E3, basisFnE b r x * basisFnE b c x / ‖x - toE3 (pts e)‖ := by
  have e1 : ∀ x : E3, basisFnE b r x * basisFnE b c x / ‖x - toE3 (pts e)‖
      = basisLin b r shellFnE x
        * basisLin b c (fun s m a x => shellFnE s m a x / ‖x - toE3 (pts e)‖) x := by
    intro x
    simp only [basisFnE, basisLin, mul_div_assoc, Finset.sum_div]
  simp_rw [e1]
  rw [integral_basisLin_mul volume b r c _ _ fun a a' => by
      simpa only [mul_div_assoc] using integrable_shellFnE_mul_div (shellOf b r) (shellOf b c)
        (segOf b r) a (segOf b c) a' (toE3 (pts e)) (shellOf_exps_pos b hb r hr)
        (shellOf_exps_pos b hb c hc),
    entry2_eq_sum b np (pointChargeBlk boysT b np pts qs) r c e hr hc, Finset.mul_sum]
  refine Finset.sum_congr rfl fun a ha => ?_
  rw [Finset.mul_sum]
  refine Finset.sum_congr rfl fun a' ha' => ?_
  have hP := pointChargeBlock_eq_integral boysT hboys (shellOf b r) (shellOf b c) (pts e) (qs e)
    (segOf b r) a (segOf b c) a' (shellOf_exps_pos b hb r hr) (shellOf_exps_pos b hb c hc)
    (shellOf_comps_le b hcomp r hr a (Finset.mem_range.mp ha))
    (shellOf_comps_le b hcomp c hc a' (Finset.mem_range.mp ha'))
  simp only [pointChargeBlk, tab_get]
  have hP' : (pointChargeBlock boysT b[(b.locate r).1]! b[(b.locate c).1]! (pts e) (qs e)).get4
      (segOf b r) a (segOf b c) a' = _ := hP
  rw [hP']
  simp only [mul_div_assoc]
  ring

end BasisFunctions

/-! ## 5. Non-negativity of the density and of the positive-definite kinetic-energy density (C06) -/
section Density
variable {ι : Type*} [Fintype ι]

theorem psd_values_nonneg (γ : ι → ι → ℝ) (hγ : ∀ x : ι → ℝ, 0 ≤ ∑ a, ∑ b, x a * γ a b * x b)
    (v : ι → ℝ) : 0 ≤ ∑ a, ∑ b, γ a b * v a * v b := by
  have h := hγ v
  have e : ∑ a, ∑ b, γ a b * v a * v b = ∑ a, ∑ b, v a * γ a b * v b :=
    Finset.sum_congr rfl fun a _ => Finset.sum_congr rfl fun b _ => by ring
  rw [e]; exact h

theorem density_nonneg {E : Type*} (γ : ι → ι → ℝ)
    (hγ : ∀ x : ι → ℝ, 0 ≤ ∑ a, ∑ b, x a * γ a b * x b) (φ : ι → E → ℝ) (x : E) :
    0 ≤ ∑ a, ∑ b, γ a b * φ a x * φ b x :=
  psd_values_nonneg γ hγ fun a => φ a x

theorem posdefKE_nonneg_of_values {κ : Type*} [Fintype κ] (γ : ι → ι → ℝ)
    (hγ : ∀ x : ι → ℝ, 0 ≤ ∑ a, ∑ b, x a * γ a b * x b) (D : κ → ι → ℝ) :
    0 ≤ 1 / 2 * ∑ k, ∑ a, ∑ b, γ a b * D k a * D k b :=
  mul_nonneg (by norm_num) (Finset.sum_nonneg fun k _ => psd_values_nonneg γ hγ (D k))

/-- The one-density matrix `C n Cᵀ` of orbitals with occupations `n ≥ 0` satisfies the hypothesis `hγ`
of this section. -/
theorem psd_of_occupations {κ : Type*} [Fintype κ] (C : ι → κ → ℝ) (n : κ → ℝ)
    (hn : ∀ i, 0 ≤ n i) (x : ι → ℝ) :
    0 ≤ ∑ a, ∑ b, x a * (∑ i, C a i * n i * C b i) * x b := by
  have e : (fun a b => ∑ i, C a i * n i * C b i) = fun a b => ∑ i, C a i * C b i * n i :=
    funext₂ fun a b => Finset.sum_congr rfl fun i _ => mul_right_comm _ _ _
  show 0 ≤ quadForm _ x
  rw [e, quadForm_sum]
  refine Finset.sum_nonneg fun i _ => ?_
  rw [quadForm_rank_one]
  exact mul_nonneg (mul_self_nonneg _) (hn i)

/-- C06 for `evaluate_density`, in the instance `Smooth3` (`SmoothInstance.lean`) of the forms
algebra. -/
theorem rho_nonneg (φ : ι → Smooth3) (γ : ι → ι → ℝ)
    (hγ : ∀ x : ι → ℝ, 0 ≤ ∑ a, ∑ b, x a * γ a b * x b) (x : E3) :
    0 ≤ (rho pd φ γ).1 x := by
  rw [rho_apply]
  exact density_nonneg γ hγ (fun a => (φ a).1) x

/-- C06 for `evaluate_posdef_kinetic_energy_density`. -/
theorem posdefKE_nonneg (φ : ι → Smooth3) (γ : ι → ι → ℝ)
    (hγ : ∀ x : ι → ℝ, 0 ≤ ∑ a, ∑ b, x a * γ a b * x b) (x : E3) :
    0 ≤ (Form.evalA pd φ γ posdefForm).1 x := by
  rw [posdefKE_pointwise]
  exact posdefKE_nonneg_of_values γ hγ fun k a => fderiv ℝ (φ a).1 x (ei k)

end Density

end GB
