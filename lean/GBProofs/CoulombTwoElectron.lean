import GBProofs.CoulombGeneral

/-!
# The Rys/Wick-form specification `Espec` with the true Boys function is the six-dimensional
Coulomb integral `[a0|c0]` of four primitive Gaussians

As in `CoulombGeneral`: Gaussian transform of `1/|r₁-r₂|`, Tonelli, factorisation over the axes.
On one axis the two-variable moment integrals `J2` satisfy both RDK recurrences (integration by
parts in each variable); a family satisfying both is determined by its `(0,0)` entry
(`rdk2_unique`), hence `J2` is its normalisation times `rysET` evaluated at `s = u²/(ρ+u²)`.
-/
open MeasureTheory Real Polynomial Set

namespace GB

/-! ## 1. Algebra: uniqueness of solutions of the RDK recurrences, evaluation of `rysET` -/
section Algebra
variable {R R' : Type*} [CommRing R] [CommRing R']

theorem rdk2_unique (c1 c2 a b c : R) (I : ℕ → ℕ → R) (hI : RDK2 c1 c2 a b c I) :
    ∀ n m, I n m = I 0 0 * Ws c1 c2 a b c n m := by
  have h0 : ∀ m, I 0 m = I 0 0 * Ws c1 c2 a b c 0 m := by
    intro m
    induction m using Nat.strong_induction_on with
    | _ m ih =>
      match m with
      | 0 => rw [Ws]; ring
      | 1 =>
        have := hI.c 0 0
        simp only [Nat.cast_zero, mul_zero, zero_mul, add_zero] at this
        rw [this, Ws]; ring
      | m+2 =>
        have := hI.c 0 (m+1)
        simp only [Nat.cast_zero, mul_zero, zero_mul, add_zero, Nat.add_sub_cancel] at this
        rw [this, ih (m+1) (by omega), ih m (by omega), Ws]
        push_cast
        ring
  intro n
  induction n using Nat.strong_induction_on with
  | _ n ih =>
    match n with
    | 0 => exact h0
    | n+1 =>
      intro m
      rw [hI.a n m, Ws_succ, ih n (by omega) m, ih (n-1) (by omega) m, ih n (by omega) (m-1)]
      ring

theorem RDK2.map (φ : R →+* R') {c1 c2 a b c : R} {I : ℕ → ℕ → R} (h : RDK2 c1 c2 a b c I) :
    RDK2 (φ c1) (φ c2) (φ a) (φ b) (φ c) (fun n m => φ (I n m)) where
  a := fun n m => by rw [h.a n m]; simp only [φ.map_add, φ.map_mul, map_natCast]
  c := fun n m => by rw [h.c n m]; simp only [φ.map_add, φ.map_mul, map_natCast]

theorem map_Ws (φ : R →+* R') (c1 c2 a b c : R) (n m : ℕ) :
    φ (Ws c1 c2 a b c n m) = Ws (φ c1) (φ c2) (φ a) (φ b) (φ c) n m := by
  rw [rdk2_unique _ _ _ _ _ _ ((Ws_rdk2 c1 c2 a b c).map φ) n m, Ws, map_one, one_mul]

end Algebra

theorem rysET_eval {K : Type} [Field K] (p q w w' PA QC PQ s : K) (n m : ℕ) :
    (rysET p q w w' PA QC PQ n m).eval s
      = Ws (PA - s * (w * PQ)) (QC + s * (w' * PQ)) ((1/(2*p)) * (1 - w * s))
          ((1/(2*(p+q))) * s) ((1/(2*q)) * (1 - w' * s)) n m := by
  rw [rysET, ← coe_evalRingHom, map_Ws]
  simp only [coe_evalRingHom, eval_mul, eval_sub, eval_add, eval_C, eval_X, eval_one]

/-! ## 2. Two-variable Gaussian integrals -/

/-- one axis of the weight after the Gaussian transform of `1/|r₁-r₂|`, at the point `u` -/
noncomputable def G2 (p q P Q u : ℝ) (y : ℝ × ℝ) : ℝ :=
  exp (-p * (y.1 - P)^2) * exp (-q * (y.2 - Q)^2) * exp (-u^2 * (y.1 - y.2)^2)

noncomputable def T2 (p q P Q u : ℝ) (f g : ℝ[X]) (y : ℝ × ℝ) : ℝ :=
  f.eval y.1 * g.eval y.2 * G2 p q P Q u y

lemma integrable_poly_gauss_shift {p : ℝ} (hp : 0 < p) (P : ℝ) (f : ℝ[X]) :
    Integrable fun x : ℝ => f.eval x * exp (-p * (x - P)^2) := by
  have h := (integrable_poly_mul_gauss hp (f.comp (X + C P))).comp_sub_right P
  refine h.congr (Filter.Eventually.of_forall fun x => ?_)
  simp [eval_comp]

lemma T2_continuous3 (p q P Q : ℝ) (f g : ℝ[X]) :
    Continuous fun z : ℝ × (ℝ × ℝ) => T2 p q P Q z.1 f g z.2 := by
  unfold T2 G2
  have hf : Continuous fun z : ℝ × (ℝ × ℝ) => f.eval z.2.1 :=
    f.continuous.comp (continuous_fst.comp continuous_snd)
  have hg : Continuous fun z : ℝ × (ℝ × ℝ) => g.eval z.2.2 :=
    g.continuous.comp (continuous_snd.comp continuous_snd)
  exact (hf.mul hg).mul (by fun_prop)

lemma T2_continuous (p q P Q u : ℝ) (f g : ℝ[X]) : Continuous (T2 p q P Q u f g) :=
  (T2_continuous3 p q P Q f g).comp (continuous_const.prodMk continuous_id)

lemma T2_eq_mul (p q P Q u : ℝ) (f g : ℝ[X]) (y : ℝ × ℝ) :
    T2 p q P Q u f g y = (f.eval y.1 * exp (-p * (y.1 - P)^2))
      * (g.eval y.2 * exp (-q * (y.2 - Q)^2)) * exp (-u^2 * (y.1 - y.2)^2) := by
  unfold T2 G2; ring

lemma T2_norm_le (p q P Q u : ℝ) (f g : ℝ[X]) (y : ℝ × ℝ) :
    ‖T2 p q P Q u f g y‖ ≤ ‖(f.eval y.1 * exp (-p * (y.1 - P)^2))
      * (g.eval y.2 * exp (-q * (y.2 - Q)^2))‖ := by
  rw [T2_eq_mul, norm_mul]
  refine mul_le_of_le_one_right (norm_nonneg _) ?_
  rw [Real.norm_eq_abs, abs_of_pos (Real.exp_pos _), Real.exp_le_one_iff, neg_mul]
  exact neg_nonpos.mpr (mul_nonneg (sq_nonneg u) (sq_nonneg _))

lemma T2_integrable {p q : ℝ} (hp : 0 < p) (hq : 0 < q) (P Q u : ℝ) (f g : ℝ[X]) :
    Integrable (T2 p q P Q u f g) (volume : Measure (ℝ × ℝ)) := by
  have h12 : Integrable (fun z : ℝ × ℝ => (f.eval z.1 * exp (-p * (z.1 - P)^2))
      * (g.eval z.2 * exp (-q * (z.2 - Q)^2))) ((volume : Measure ℝ).prod volume) :=
    (integrable_poly_gauss_shift hp P f).mul_prod (integrable_poly_gauss_shift hq Q g)
  exact h12.mono (T2_continuous p q P Q u f g).aestronglyMeasurable
    (Filter.Eventually.of_forall fun y => T2_norm_le p q P Q u f g y)

lemma T2_integrable_left {p : ℝ} (hp : 0 < p) (q P Q u : ℝ) (f g : ℝ[X]) (x2 : ℝ) :
    Integrable fun x1 : ℝ => T2 p q P Q u f g (x1, x2) := by
  have h1 := (integrable_poly_gauss_shift hp P f).mul_const (g.eval x2 * exp (-q * (x2 - Q)^2))
  have hc : Continuous fun x1 : ℝ => T2 p q P Q u f g (x1, x2) :=
    (T2_continuous p q P Q u f g).comp (continuous_id.prodMk continuous_const)
  exact h1.mono hc.aestronglyMeasurable
    (Filter.Eventually.of_forall fun x1 => T2_norm_le p q P Q u f g (x1, x2))

lemma T2_hasDerivAt_left (p q P Q u : ℝ) (f g : ℝ[X]) (x1 x2 : ℝ) :
    HasDerivAt (fun x : ℝ => T2 p q P Q u f g (x, x2))
      (T2 p q P Q u (derivative f) g (x1, x2) - 2 * p * T2 p q P Q u ((X - C P) * f) g (x1, x2)
        - 2 * u^2 * (T2 p q P Q u (X * f) g (x1, x2) - T2 p q P Q u f (X * g) (x1, x2))) x1 := by
  have h := ((f.hasDerivAt x1).mul_const (g.eval x2)).mul
    (((hasDerivAt_gauss p P x1).mul_const (exp (-q * (x2 - Q)^2))).mul (hasDerivAt_gauss (u^2) x2 x1))
  refine h.congr_deriv ?_
  simp only [T2, G2, eval_mul, eval_sub, eval_X, eval_C, Pi.mul_apply]
  ring

noncomputable def I2 (p q P Q u : ℝ) (f g : ℝ[X]) : ℝ := ∫ y : ℝ × ℝ, T2 p q P Q u f g y

lemma T2_swap (p q P Q u : ℝ) (f g : ℝ[X]) (y : ℝ × ℝ) :
    T2 q p Q P u g f y.swap = T2 p q P Q u f g y := by
  unfold T2 G2
  simp only [Prod.fst_swap, Prod.snd_swap]
  rw [show (y.2 - y.1)^2 = (y.1 - y.2)^2 by ring]
  ring

lemma I2_swap (p q P Q u : ℝ) (f g : ℝ[X]) : I2 p q P Q u f g = I2 q p Q P u g f := by
  unfold I2
  rw [Measure.volume_eq_prod, ← integral_prod_swap (T2 p q P Q u f g)]
  congr 1
  ext y
  exact T2_swap q p Q P u g f y

lemma I2_add_left {p q : ℝ} (hp : 0 < p) (hq : 0 < q) (P Q u : ℝ) (f1 f2 g : ℝ[X]) :
    I2 p q P Q u (f1 + f2) g = I2 p q P Q u f1 g + I2 p q P Q u f2 g := by
  unfold I2
  rw [← integral_add (T2_integrable hp hq P Q u f1 g) (T2_integrable hp hq P Q u f2 g)]
  congr 1; ext y; unfold T2; rw [eval_add]; ring

lemma I2_C_mul_left (p q P Q u c : ℝ) (f g : ℝ[X]) :
    I2 p q P Q u (C c * f) g = c * I2 p q P Q u f g := by
  unfold I2
  rw [← MeasureTheory.integral_const_mul]
  congr 1; ext y; unfold T2; rw [eval_mul, eval_C]; ring

lemma I2_add_right {p q : ℝ} (hp : 0 < p) (hq : 0 < q) (P Q u : ℝ) (f g1 g2 : ℝ[X]) :
    I2 p q P Q u f (g1 + g2) = I2 p q P Q u f g1 + I2 p q P Q u f g2 := by
  rw [I2_swap p q P Q u f (g1 + g2), I2_add_left hq hp, I2_swap p q P Q u f g1,
    I2_swap p q P Q u f g2]

lemma I2_C_mul_right (p q P Q u c : ℝ) (f g : ℝ[X]) :
    I2 p q P Q u f (C c * g) = c * I2 p q P Q u f g := by
  rw [I2_swap p q P Q u f (C c * g), I2_C_mul_left, I2_swap p q P Q u f g]

lemma integral_prod_deriv_fst_eq_zero {F F' : ℝ × ℝ → ℝ}
    (hd : ∀ x1 x2, HasDerivAt (fun x => F (x, x2)) (F' (x1, x2)) x1)
    (hF : ∀ x2, Integrable fun x1 => F (x1, x2))
    (hF' : Integrable F') : ∫ y, F' y = 0 := by
  rw [Measure.volume_eq_prod] at hF' ⊢
  rw [integral_prod_symm _ hF']
  refine integral_eq_zero_of_ae ?_
  filter_upwards [hF'.prod_left_ae] with x2 h2
  exact integral_eq_zero_of_hasDerivAt_of_integrable (fun x1 => hd x1 x2) h2 (hF x2)

theorem I2_ibp1 {p q : ℝ} (hp : 0 < p) (hq : 0 < q) (P Q u : ℝ) (f g : ℝ[X]) :
    I2 p q P Q u (derivative f) g = 2 * p * I2 p q P Q u ((X - C P) * f) g
      + 2 * u^2 * (I2 p q P Q u (X * f) g - I2 p q P Q u f (X * g)) := by
  have i1 := T2_integrable hp hq P Q u (derivative f) g
  have i2 := (T2_integrable hp hq P Q u ((X - C P) * f) g).const_mul (2 * p)
  have i3 := T2_integrable hp hq P Q u (X * f) g
  have i4 := T2_integrable hp hq P Q u f (X * g)
  have i34 := (i3.sub i4).const_mul (2 * u^2)
  have h0 := integral_prod_deriv_fst_eq_zero (T2_hasDerivAt_left p q P Q u f g)
    (T2_integrable_left hp q P Q u f g) ((i1.sub i2).sub i34)
  rw [integral_sub' (i1.sub i2) i34, integral_sub' i1 i2, MeasureTheory.integral_const_mul,
    MeasureTheory.integral_const_mul, integral_sub' i3 i4] at h0
  unfold I2
  linarith

lemma T2_one_one (p q P Q u : ℝ) : T2 p q P Q u 1 1 = G2 p q P Q u := by
  funext y
  simp only [T2, eval_one, one_mul]

lemma G2_mk (p q P Q u x1 x2 : ℝ) : G2 p q P Q u (x1, x2)
    = exp (-p * (x1 - P)^2) * (exp (-q * (x2 - Q)^2) * exp (-u^2 * (x2 - x1)^2)) := by
  rw [G2, sub_sq_comm x1 x2, mul_assoc]

/-- Integrate over `x₂`, then over `x₁`, each time a product of two one-dimensional Gaussians.
The two normalisations `X`, `Y` and the exponent `k` are given by their relations to
`det = pq + (p+q)u²`, so that the caller may choose their form. -/
theorem G2_integral {p q : ℝ} (hp : 0 < p) (hq : 0 < q) (P Q u : ℝ) {X Y k : ℝ} (hX : 0 < X)
    (hXY : X * Y = p * q + (p + q) * u^2) (hk : k * (p * q + (p + q) * u^2) = p * q * u^2) :
    ∫ y : ℝ × ℝ, G2 p q P Q u y = √(π / X) * (√(π / Y) * exp (-k * (P - Q)^2)) := by
  have hint : Integrable (G2 p q P Q u) ((volume : Measure ℝ).prod volume) :=
    T2_one_one p q P Q u ▸ T2_integrable hp hq P Q u 1 1
  have hqu : 0 < q + u^2 := by positivity
  have hpκ : 0 < p + q * u^2 / (q + u^2) := by positivity
  rw [Measure.volume_eq_prod, integral_prod _ hint]
  simp_rw [G2_mk, MeasureTheory.integral_const_mul, integral_gauss_product hqu, sub_sq_comm Q,
    ← mul_assoc]
  rw [MeasureTheory.integral_mul_const, integral_gauss_product hpκ]
  have hκ : (p + q * u^2 / (q + u^2)) * (q + u^2) = p * q + (p + q) * u^2 := by
    rw [add_mul, div_mul_cancel₀ _ hqu.ne']
    ring
  have hexp : p * (q * u^2 / (q + u^2)) / (p + q * u^2 / (q + u^2)) = k := by
    rw [div_eq_iff hpκ.ne']
    refine mul_right_cancel₀ hqu.ne' ?_
    rw [mul_assoc p, div_mul_cancel₀ _ hqu.ne']
    linear_combination -k * hκ - hk
  have hsq : √(π / (p + q * u^2 / (q + u^2))) * √(π / (q + u^2)) = √(π / X) * √(π / Y) := by
    rw [← Real.sqrt_mul (div_pos pi_pos hpκ).le, ← Real.sqrt_mul (div_pos pi_pos hX).le,
      div_mul_div_comm, div_mul_div_comm, hκ, hXY]
  rw [hexp, mul_assoc, hsq]
  ring

/-! ## 3. The moment family of one axis and its identification with `rysET` -/

noncomputable def J2 (p q P Q A Cc u : ℝ) (n m : ℕ) : ℝ :=
  I2 p q P Q u ((X - C A)^n) ((X - C Cc)^m)

lemma J2_ibp1 {p q : ℝ} (hp : 0 < p) (hq : 0 < q) (P Q A Cc u : ℝ) (n m : ℕ) :
    (n:ℝ) * J2 p q P Q A Cc u (n-1) m
      = 2 * p * (J2 p q P Q A Cc u (n+1) m + (A - P) * J2 p q P Q A Cc u n m)
        + 2 * u^2 * (J2 p q P Q A Cc u (n+1) m + A * J2 p q P Q A Cc u n m
            - (J2 p q P Q A Cc u n (m+1) + Cc * J2 p q P Q A Cc u n m)) := by
  have h := I2_ibp1 hp hq P Q u ((X - C A)^n) ((X - C Cc)^m)
  have e1 : (X - C P) * (X - C A)^n = (X - C A)^(n+1) + C (A - P) * (X - C A)^n := by
    rw [C_sub]; ring
  have e2 : X * (X - C A)^n = (X - C A)^(n+1) + C A * (X - C A)^n := by ring
  have e3 : X * (X - C Cc)^m = (X - C Cc)^(m+1) + C Cc * (X - C Cc)^m := by ring
  rw [derivative_X_sub_C_pow, I2_C_mul_left, e1, e2, e3, I2_add_left hp hq, I2_add_left hp hq,
    I2_add_right hp hq, I2_C_mul_left, I2_C_mul_left, I2_C_mul_right] at h
  exact h

lemma J2_swap (p q P Q A Cc u : ℝ) (n m : ℕ) :
    J2 p q P Q A Cc u n m = J2 q p Q P Cc A u m n := I2_swap ..

lemma J2_ibp2 {p q : ℝ} (hp : 0 < p) (hq : 0 < q) (P Q A Cc u : ℝ) (n m : ℕ) :
    (m:ℝ) * J2 p q P Q A Cc u n (m-1)
      = 2 * q * (J2 p q P Q A Cc u n (m+1) + (Cc - Q) * J2 p q P Q A Cc u n m)
        + 2 * u^2 * (J2 p q P Q A Cc u n (m+1) + Cc * J2 p q P Q A Cc u n m
            - (J2 p q P Q A Cc u (n+1) m + A * J2 p q P Q A Cc u n m)) := by
  have h := J2_ibp1 hq hp Q P Cc A u m n
  simp only [J2_swap q p Q P Cc A u] at h
  exact h

/-- the two integration-by-parts identities solved for `J2 (n+1) m`, for any coefficients that satisfy
their defining relations multiplied out by `D = pq + (p+q)u²` -/
lemma J2_succ_left {p q : ℝ} (hp : 0 < p) (hq : 0 < q) (P Q A Cc u : ℝ) {D c1 a b : ℝ}
    (hD : D = p * q + (p + q) * u^2) (hc1 : D * c1 = D * (P - A) - q * u^2 * (P - Q))
    (ha : 2 * D * a = q + u^2) (hb : 2 * D * b = u^2) (n m : ℕ) :
    J2 p q P Q A Cc u (n+1) m = c1 * J2 p q P Q A Cc u n m
      + a * (n:ℝ) * J2 p q P Q A Cc u (n-1) m + b * (m:ℝ) * J2 p q P Q A Cc u n (m-1) := by
  have hdet : 2 * D ≠ 0 := by rw [hD]; positivity
  refine mul_left_cancel₀ hdet ?_
  subst hD
  linear_combination (-(q + u^2)) * J2_ibp1 hp hq P Q A Cc u n m
    - u^2 * J2_ibp2 hp hq P Q A Cc u n m - 2 * J2 p q P Q A Cc u n m * hc1
    - (n:ℝ) * J2 p q P Q A Cc u (n-1) m * ha - (m:ℝ) * J2 p q P Q A Cc u n (m-1) * hb

/-- both RDK recurrences; the second is the first with the two variables exchanged -/
theorem J2_rdk2_of {p q : ℝ} (hp : 0 < p) (hq : 0 < q) (P Q A Cc u : ℝ) {D c1 c2 a b c : ℝ}
    (hD : D = p * q + (p + q) * u^2) (hc1 : D * c1 = D * (P - A) - q * u^2 * (P - Q))
    (hc2 : D * c2 = D * (Q - Cc) + p * u^2 * (P - Q))
    (ha : 2 * D * a = q + u^2) (hb : 2 * D * b = u^2) (hc : 2 * D * c = p + u^2) :
    RDK2 c1 c2 a b c (J2 p q P Q A Cc u) where
  a := J2_succ_left hp hq P Q A Cc u hD hc1 ha hb
  c := fun n m => by
    have h := J2_succ_left hq hp Q P Cc A u (D := D) (c1 := c2) (hD.trans (by ring))
      (by linear_combination hc2) hc hb m n
    simp only [J2_swap q p Q P Cc A u] at h
    linear_combination h

theorem J2_rdk2 {p q : ℝ} (hp : 0 < p) (hq : 0 < q) (P Q A Cc u : ℝ) :
    RDK2 ((P - A) - q * u^2 / (p * q + (p + q) * u^2) * (P - Q))
      ((Q - Cc) + p * u^2 / (p * q + (p + q) * u^2) * (P - Q))
      ((q + u^2) / (2 * (p * q + (p + q) * u^2))) (u^2 / (2 * (p * q + (p + q) * u^2)))
      ((p + u^2) / (2 * (p * q + (p + q) * u^2))) (J2 p q P Q A Cc u) := by
  have hdet : p * q + (p + q) * u^2 ≠ 0 := by positivity
  have hdet2 : 2 * (p * q + (p + q) * u^2) ≠ 0 := mul_ne_zero two_ne_zero hdet
  exact J2_rdk2_of hp hq P Q A Cc u rfl (by rw [mul_sub, ← mul_assoc, mul_div_cancel₀ _ hdet])
    (by rw [mul_add, ← mul_assoc, mul_div_cancel₀ _ hdet]) (mul_div_cancel₀ _ hdet2)
    (mul_div_cancel₀ _ hdet2) (mul_div_cancel₀ _ hdet2)

noncomputable def axis2 (p q P Q A Cc : ℝ) (n m : ℕ) (u : ℝ) (y : ℝ × ℝ) : ℝ :=
  T2 p q P Q u ((X - C A)^n) ((X - C Cc)^m) y

lemma axis2_apply (p q P Q A Cc : ℝ) (n m : ℕ) (u : ℝ) (y : ℝ × ℝ) :
    axis2 p q P Q A Cc n m u y = (y.1 - A)^n * (y.2 - Cc)^m * G2 p q P Q u y := by
  simp [axis2, T2]

/-- `J2` satisfies the RDK recurrences with the coefficients of `rysET` evaluated at
`s = u²/(ρ+u²)`, so by `rdk2_unique` it is its `(0,0)` entry (`G2_integral`) times that value. -/
theorem axis2_integral {p q : ℝ} (hp : 0 < p) (hq : 0 < q) (ρ w w' : ℝ)
    (hρ : ρ = p * q / (p + q)) (hw : w * (p + q) = q) (hw' : w' * (p + q) = p)
    (P Q A Cc : ℝ) (n m : ℕ) (u : ℝ) :
    ∫ y : ℝ × ℝ, axis2 p q P Q A Cc n m u y
      = √(π / (p + q)) * (√(π / (ρ + u^2)) * exp (-(ρ * u^2 / (ρ + u^2)) * (P - Q)^2)
          * (rysET p q w w' (P - A) (Q - Cc) (P - Q) n m).eval (u^2 / (ρ + u^2))) := by
  have hpq : 0 < p + q := by positivity
  have hρ' : ρ * (p + q) = p * q := by rw [hρ, div_mul_cancel₀ _ hpq.ne']
  have hρu : ρ + u^2 ≠ 0 := by rw [hρ]; positivity
  obtain ⟨s, hs⟩ : ∃ s, s = u^2 / (ρ + u^2) := ⟨_, rfl⟩
  have hDs : (p * q + (p + q) * u^2) * s = (p + q) * u^2 := by
    have hs' : s * (ρ + u^2) = u^2 := by rw [hs, div_mul_cancel₀ _ hρu]
    linear_combination (-s) * hρ' + (p + q) * hs'
  have hK : RDK2 ((P - A) - s * (w * (P - Q))) ((Q - Cc) + s * (w' * (P - Q)))
      (1 / (2 * p) * (1 - w * s)) (1 / (2 * (p + q)) * s) (1 / (2 * q) * (1 - w' * s))
      (J2 p q P Q A Cc u) := by
    refine J2_rdk2_of hp hq P Q A Cc u rfl ?_ ?_ ?_ ?_ ?_
    · linear_combination (-(w * (P - Q))) * hDs - u^2 * (P - Q) * hw
    · linear_combination (w' * (P - Q)) * hDs + u^2 * (P - Q) * hw'
    · field_simp
      linear_combination (-u^2) * hw - w * hDs
    · field_simp
      linear_combination hDs
    · field_simp
      linear_combination (-u^2) * hw' - w' * hDs
  have hXY : (p + q) * (ρ + u^2) = p * q + (p + q) * u^2 := by linear_combination hρ'
  have hk : ρ * u^2 / (ρ + u^2) * (p * q + (p + q) * u^2) = p * q * u^2 := by
    rw [div_mul_eq_mul_div, div_eq_iff hρu]
    linear_combination u^4 * hρ'
  change J2 p q P Q A Cc u n m = _
  rw [rdk2_unique _ _ _ _ _ _ hK n m, J2, I2, pow_zero, pow_zero, T2_one_one,
    G2_integral hp hq P Q u hpq hXY hk, rysET_eval, ← hs]
  ring

/-! ## 4. Six dimensions -/

/-- pairs the coordinates of the two electrons axis by axis -/
noncomputable def pairE : E3 × E3 ≃ᵐ (Fin 3 → ℝ × ℝ) :=
  ((MeasurableEquiv.toLp 2 (Fin 3 → ℝ)).symm.prodCongr
    (MeasurableEquiv.toLp 2 (Fin 3 → ℝ)).symm).trans
    (MeasurableEquiv.arrowProdEquivProdArrow ℝ ℝ (Fin 3)).symm

lemma pairE_apply (z : E3 × E3) (u : Fin 3) : pairE z u = (z.1 u, z.2 u) := rfl

lemma pairE_measurePreserving : MeasurePreserving pairE (volume : Measure (E3 × E3)) volume :=
  (E3_coord_measurePreserving.prod E3_coord_measurePreserving).trans
    (volume_measurePreserving_arrowProdEquivProdArrow ℝ ℝ (Fin 3)).symm

noncomputable def axes2 (p q : ℝ) (P Q A Cc : E3) (n m : Fin 3 → ℕ) (w : ℝ) (z : E3 × E3) : ℝ :=
  ∏ i, axis2 p q (P i) (Q i) (A i) (Cc i) (n i) (m i) w (z.1 i, z.2 i)

lemma axes2_apply (p q : ℝ) (P Q A Cc : E3) (n m : Fin 3 → ℕ) (w : ℝ) (z : E3 × E3) :
    axes2 p q P Q A Cc n m w z
      = (∏ u, (z.1 u - A u)^(n u) * (z.2 u - Cc u)^(m u)) * exp (-p * ‖z.1 - P‖^2)
        * exp (-q * ‖z.2 - Q‖^2) * exp (-w^2 * ‖z.1 - z.2‖^2) := by
  simp only [axes2, EuclideanSpace.real_norm_sq_eq, PiLp.sub_apply, Finset.mul_sum, Real.exp_sum,
    ← Finset.prod_mul_distrib, axis2_apply, G2]
  refine Finset.prod_congr rfl fun u _ => ?_
  ring

lemma axes2_continuous (p q : ℝ) (P Q A Cc : E3) (n m : Fin 3 → ℕ) :
    Continuous fun x : (E3 × E3) × ℝ => axes2 p q P Q A Cc n m x.2 x.1 := by
  simp only [axes2, axis2_apply, G2]
  fun_prop

theorem axes2_integral {p q : ℝ} (hp : 0 < p) (hq : 0 < q) (ρ w w' : ℝ)
    (hρ : ρ = p * q / (p + q)) (hw : w * (p + q) = q) (hw' : w' * (p + q) = p)
    (P Q A Cc : E3) (n m : Fin 3 → ℕ) (u : ℝ) :
    ∫ z : E3 × E3, axes2 p q P Q A Cc n m u z
      = (∏ _i : Fin 3, √(π / (p + q)))
        * (exp (-(ρ * u^2 / (ρ + u^2)) * ∑ i, (P i - Q i)^2) * (π / (ρ + u^2)) ^ ((3:ℝ)/2)
            * (∏ i, rysET p q w w' (P i - A i) (Q i - Cc i) (P i - Q i) (n i) (m i)).eval
                (u^2 / (ρ + u^2))) := by
  have hρ0 : 0 < ρ := by rw [hρ]; positivity
  have hq' : 0 < ρ + u^2 := by positivity
  refine (integral_prod_coord pairE_measurePreserving
    fun i => axis2 p q (P i) (Q i) (A i) (Cc i) (n i) (m i) u).trans ?_
  simp_rw [axis2_integral hp hq ρ w w' hρ hw hw']
  exact prod_axis_closed _ _ _ ρ u hq'

/-- by Tonelli (`integrable_uncurry_of_nonneg`), from the closed form `axes2_integral` of the
spatial integral -/
lemma axes2_joint_integrable_of_nonneg {p q : ℝ} (hp : 0 < p) (hq : 0 < q) (P Q A Cc : E3)
    (n m : Fin 3 → ℕ) (hnn : ∀ z w, 0 ≤ axes2 p q P Q A Cc n m w z) :
    Integrable (Function.uncurry fun (z : E3 × E3) (w : ℝ) => axes2 p q P Q A Cc n m w z)
      ((volume : Measure (E3 × E3)).prod (volume.restrict (Ioi (0:ℝ)))) := by
  have hpq : 0 < p + q := by positivity
  have hρ0 : 0 < p * q / (p + q) := by positivity
  refine integrable_uncurry_of_nonneg (axes2_continuous p q P Q A Cc n m).aestronglyMeasurable hnn
    (fun w => integrable_prod_coord pairE_measurePreserving
      fun i => T2_integrable hp hq (P i) (Q i) w _ _) ?_
  simp_rw [axes2_integral hp hq _ (q / (p + q)) (p / (p + q)) rfl (div_mul_cancel₀ q hpq.ne')
    (div_mul_cancel₀ p hpq.ne')]
  exact (integrableOn_rysK_poly _ _ hρ0 _).const_mul _

/-- dominated by the sum of the integrands with powers `0` and `2n, 2m`: `|T|·G ≤ G + T²·G` for the
monomial `T` of all three axes at once -/
lemma coulomb2_joint_integrable {p q : ℝ} (hp : 0 < p) (hq : 0 < q) (P Q A Cc : E3)
    (n m : Fin 3 → ℕ) :
    Integrable (Function.uncurry fun (z : E3 × E3) (w : ℝ) => axes2 p q P Q A Cc n m w z)
      ((volume : Measure (E3 × E3)).prod (volume.restrict (Ioi (0:ℝ)))) := by
  have h0 := axes2_joint_integrable_of_nonneg hp hq P Q A Cc 0 0 fun z w => by
    simp only [axes2_apply, Pi.zero_apply, pow_zero, mul_one, Finset.prod_const_one]
    positivity
  have h2 := axes2_joint_integrable_of_nonneg hp hq P Q A Cc (fun u => 2 * n u) (fun u => 2 * m u)
    fun z w => by
      rw [axes2_apply]
      have : 0 ≤ ∏ u, (z.1 u - A u)^(2 * n u) * (z.2 u - Cc u)^(2 * m u) :=
        Finset.prod_nonneg fun u _ => by rw [pow_mul, pow_mul]; positivity
      positivity
  refine (h0.add h2).mono' (axes2_continuous p q P Q A Cc n m).aestronglyMeasurable
    (Filter.Eventually.of_forall fun ⟨z, w⟩ => ?_)
  simp only [Function.uncurry_apply_pair, Pi.add_apply, Real.norm_eq_abs, axes2_apply,
    Pi.zero_apply, pow_zero, mul_one, Finset.prod_const_one, one_mul, pow_mul', ← mul_pow,
    Finset.prod_pow, mul_assoc]
  exact abs_mul_le_add_sq_mul _ (by positivity)

lemma coulomb2_pointwise (p q : ℝ) (P Q A Cc : E3) (n m : Fin 3 → ℕ) (z : E3 × E3) :
    (∏ u, (z.1 u - A u)^(n u) * (z.2 u - Cc u)^(m u)) * exp (-p * ‖z.1 - P‖^2)
        * exp (-q * ‖z.2 - Q‖^2) / ‖z.1 - z.2‖
      = 2 / √π * ∫ w in Ioi (0:ℝ), axes2 p q P Q A Cc n m w z := by
  simp_rw [axes2_apply]
  exact div_eq_integral_gauss _ _ (norm_nonneg _)

theorem coulomb2_integrable {p q : ℝ} (hp : 0 < p) (hq : 0 < q) (P Q A Cc : E3)
    (n m : Fin 3 → ℕ) :
    Integrable fun z : E3 × E3 =>
      (∏ u, (z.1 u - A u)^(n u) * (z.2 u - Cc u)^(m u)) * exp (-p * ‖z.1 - P‖^2)
        * exp (-q * ‖z.2 - Q‖^2) / ‖z.1 - z.2‖ := by
  have h := ((coulomb2_joint_integrable hp hq P Q A Cc n m).integral_prod_left).const_mul (2 / √π)
  refine h.congr (Filter.Eventually.of_forall fun z => ?_)
  exact (coulomb2_pointwise p q P Q A Cc n m z).symm

theorem coulomb2_core_fin {p q : ℝ} (hp : 0 < p) (hq : 0 < q) (ρ w w' : ℝ)
    (hρ : ρ = p * q / (p + q)) (hw : w * (p + q) = q) (hw' : w' * (p + q) = p)
    (P Q A Cc : E3) (n m : Fin 3 → ℕ) :
    ∫ z : E3 × E3, (∏ u, (z.1 u - A u)^(n u) * (z.2 u - Cc u)^(m u)) * exp (-p * ‖z.1 - P‖^2)
        * exp (-q * ‖z.2 - Q‖^2) / ‖z.1 - z.2‖
      = 2 * (π^2 * √π) / (p * q * √(p + q))
        * boysF (boys (ρ * ‖P - Q‖^2)) 0
            (∏ u, rysET p q w w' (P u - A u) (Q u - Cc u) (P u - Q u) (n u) (m u)) := by
  have hpq : 0 < p + q := by positivity
  have hρ0 : 0 < ρ := by rw [hρ]; positivity
  have hK := axes2_integral hp hq ρ w w' hρ hw hw' P Q A Cc n m
  have hPQ : ∑ u, (P u - Q u)^2 = ‖P - Q‖^2 := by
    rw [EuclideanSpace.real_norm_sq_eq]
    simp only [PiLp.sub_apply]
  rw [hPQ] at hK
  simp_rw [coulomb2_pointwise]
  rw [MeasureTheory.integral_const_mul,
    integral_integral_swap (coulomb2_joint_integrable hp hq P Q A Cc n m)]
  simp_rw [hK]
  rw [MeasureTheory.integral_const_mul, integral_rysK_poly ρ _ hρ0]
  simp only [Finset.prod_const, Finset.card_univ, Fintype.card_fin]
  generalize boysF (boys (ρ * ‖P - Q‖^2)) 0 _ = B
  rw [Real.sqrt_div pi_pos.le]
  have hsp : 0 < √π := Real.sqrt_pos.mpr pi_pos
  have hsq : 0 < √(p + q) := Real.sqrt_pos.mpr hpq
  rw [hρ]
  field_simp
  rw [Real.sq_sqrt pi_pos.le, Real.sq_sqrt hpq.le]
  ring

/-- the case `[ss|ss]`: what `eriSSSS` (`_compute_two_elec_integrals_angmom_zero`) takes per
primitive quartet, namely the `pref` of `eriBase` without its two Gaussian-product factors, times
`F₀` at the `T` of `eriBase` -/
theorem coulomb2_ssss {p q : ℝ} (hp : 0 < p) (hq : 0 < q) (P Q : E3) :
    ∫ z : E3 × E3, exp (-p * ‖z.1 - P‖^2) * exp (-q * ‖z.2 - Q‖^2) / ‖z.1 - z.2‖
      = 2 * (π^2 * √π) / (p * q * √(p + q)) * boys (p * q / (p + q) * ‖P - Q‖^2) 0 := by
  have hpq : 0 < p + q := by positivity
  have h := coulomb2_core_fin hp hq (p * q / (p + q)) (q / (p + q)) (p / (p + q)) rfl
    (by field_simp) (by field_simp) P Q 0 0 (fun _ => 0) (fun _ => 0)
  have h00 : ∀ PA QC PQ : ℝ, rysET p q (q / (p + q)) (p / (p + q)) PA QC PQ 0 0 = 1 := by
    intro PA QC PQ; rw [rysET, Ws]
  simp only [pow_zero, mul_one, Finset.prod_const_one, one_mul, h00, boysF_one] at h
  exact h

theorem coulomb2_ssss_iterated {p q : ℝ} (hp : 0 < p) (hq : 0 < q) (P Q : E3) :
    ∫ r1 : E3, ∫ r2 : E3, exp (-p * ‖r1 - P‖^2) * exp (-q * ‖r2 - Q‖^2) / ‖r1 - r2‖
      = 2 * (π^2 * √π) / (p * q * √(p + q)) * boys (p * q / (p + q) * ‖P - Q‖^2) 0 := by
  have hi := coulomb2_integrable hp hq P Q 0 0 (fun _ => 0) (fun _ => 0)
  simp only [pow_zero, mul_one, Finset.prod_const_one, one_mul] at hi
  rw [← coulomb2_ssss hp hq P Q, Measure.volume_eq_prod, integral_prod _ hi]

lemma coulomb2_integrand_eq {a b c d : ℝ} (ha : 0 < a) (hb : 0 < b) (hc : 0 < c) (hd : 0 < d)
    (A B C D : E3) (ea ec : Fin 3 → ℕ) (z : E3 × E3) :
    (∏ u, (z.1 u - A u)^(ea u)) * exp (-a * ‖z.1 - A‖^2) * exp (-b * ‖z.1 - B‖^2)
        * ((∏ u, (z.2 u - C u)^(ec u)) * exp (-c * ‖z.2 - C‖^2) * exp (-d * ‖z.2 - D‖^2))
        / ‖z.1 - z.2‖
      = exp (-(a * b / (a + b)) * ‖A - B‖^2) * exp (-(c * d / (c + d)) * ‖C - D‖^2)
        * ((∏ u, (z.1 u - A u)^(ea u) * (z.2 u - C u)^(ec u))
            * exp (-(a + b) * ‖z.1 - (a + b)⁻¹ • (a • A + b • B)‖^2)
            * exp (-(c + d) * ‖z.2 - (c + d)⁻¹ • (c • C + d • D)‖^2) / ‖z.1 - z.2‖) := by
  have h1 := gauss3_product_pointwise a b (by positivity) z.1 A B
  have h2 := gauss3_product_pointwise c d (by positivity) z.2 C D
  rw [Finset.prod_mul_distrib, mul_assoc (∏ u, (z.1 u - A u)^(ea u)), h1,
    mul_assoc (∏ u, (z.2 u - C u)^(ec u)), h2]
  ring

theorem coulomb2_general_integrable {a b c d : ℝ} (ha : 0 < a) (hb : 0 < b) (hc : 0 < c)
    (hd : 0 < d) (A B C D : E3) (ea ec : Fin 3 → ℕ) :
    Integrable fun z : E3 × E3 =>
        (∏ u, (z.1 u - A u)^(ea u)) * exp (-a * ‖z.1 - A‖^2) * exp (-b * ‖z.1 - B‖^2)
        * ((∏ u, (z.2 u - C u)^(ec u)) * exp (-c * ‖z.2 - C‖^2) * exp (-d * ‖z.2 - D‖^2))
        / ‖z.1 - z.2‖ := by
  have hp : 0 < a + b := by positivity
  have hq : 0 < c + d := by positivity
  simp_rw [coulomb2_integrand_eq ha hb hc hd]
  exact (coulomb2_integrable hp hq _ _ A C ea ec).const_mul _

/-- The left side is the Coulomb integral `[a0|c0]` of four un-normalised primitive Cartesian
Gaussians, as an iterated integral over `r₁` and `r₂`.  On the right the prefactor and the Boys
argument are the `(pref, T)` of the model's `eriBase`; `ρ` and `w = ρ/p` are those of `eriGeneral`,
`w' = ρ/q`; `Espec` is taken at the auxiliary order `0`. -/
theorem coulomb2_general {a b c d : ℝ} (ha : 0 < a) (hb : 0 < b) (hc : 0 < c) (hd : 0 < d)
    (A B C D P Q : E3) (hP : P = (a + b)⁻¹ • (a • A + b • B))
    (hQ : Q = (c + d)⁻¹ • (c • C + d • D)) (ρ w w' : ℝ)
    (hρ : ρ = (a + b) * (c + d) / (a + b + (c + d))) (hw : w * (a + b + (c + d)) = c + d)
    (hw' : w' * (a + b + (c + d)) = a + b) (ea ec : ℕ × ℕ × ℕ) :
    ∫ r1 : E3, ∫ r2 : E3,
        ((r1 0 - A 0)^ea.1 * (r1 1 - A 1)^ea.2.1 * (r1 2 - A 2)^ea.2.2)
          * exp (-a * ‖r1 - A‖^2) * exp (-b * ‖r1 - B‖^2)
        * (((r2 0 - C 0)^ec.1 * (r2 1 - C 1)^ec.2.1 * (r2 2 - C 2)^ec.2.2)
          * exp (-c * ‖r2 - C‖^2) * exp (-d * ‖r2 - D‖^2))
        / ‖r1 - r2‖
      = 2 * (π^2 * √π) / ((a + b) * (c + d) * √(a + b + (c + d)))
        * exp (-(a * b / (a + b)) * ‖A - B‖^2) * exp (-(c * d / (c + d)) * ‖C - D‖^2)
        * Espec (boys (ρ * ‖P - Q‖^2)) (a + b) (c + d) w w'
            (comp3 (P - A)) (comp3 (Q - C)) (comp3 (P - Q)) 0 ea ec := by
  subst hP hQ
  have hi := coulomb2_general_integrable ha hb hc hd A B C D
    ![ea.1, ea.2.1, ea.2.2] ![ec.1, ec.2.1, ec.2.2]
  have h := (integral_prod _ hi).symm.trans <|
    (integral_congr_ae (Filter.Eventually.of_forall (coulomb2_integrand_eq ha hb hc hd A B C D
      ![ea.1, ea.2.1, ea.2.2] ![ec.1, ec.2.1, ec.2.2]))).trans <|
    (MeasureTheory.integral_const_mul _ _).trans <| congrArg _ <|
    coulomb2_core_fin (add_pos ha hb) (add_pos hc hd) ρ w w' hρ hw hw' _ _ A C _ _
  simp only [Fin.prod_univ_three, Matrix.cons_val_zero, Matrix.cons_val_one,
    Matrix.cons_val_two, Matrix.head_cons, Matrix.tail_cons] at h
  simp only [Espec, comp3_zero, comp3_one, comp3_two, PiLp.sub_apply]
  rw [h]
  ring

end GB
