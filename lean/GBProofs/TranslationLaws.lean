import GBProofs.DiffTab
import GBProofs.RealInst
import Mathlib.Algebra.Polynomial.Eval.Algebra

/-!
# Rigid translations and axis reflections

Translating both centres of a primitive pair by `d` leaves `h`, `PA`, `PB`, `base` of the
Gaussian-product parameters unchanged and moves `P` by `d` (`pair1D_translate`), so the one-dimensional
tables of a translated shell pair (moment origin translated along) are the same tables, and so is every
block assembled from them.  This holds over any field and for any interpretation of `exp`, `sqrt`, `π`
(`trOps`), given `a + b ≠ 0` for the primitive pairs; `momentBlock_translate_real`,
`overlapBlock_translate_real`, `kineticBlock_translate_real` are the instances over ℝ with positive
exponents.  Reflecting one axis (`PA, PB, PC ↦ -PA, -PB, -PC`) multiplies the one-dimensional factor by
`(-1)^(i+j+k)`, because odd Gaussian moments vanish.
-/
open Polynomial

namespace GB

/-- Field operations plus arbitrary interpretations of the transcendental operations. -/
@[reducible] def trOps {K : Type} [Field K] (e sq : K → K) (pi : K) : Transc K :=
  { toNum := fieldNum, exp := e, sqrt := sq, pi := pi }

theorem realTransc_eq_trOps : realTransc = trOps Real.exp Real.sqrt Real.pi := rfl

section Translate
variable {K : Type} [Field K] (e sq : K → K) (pi : K)

theorem pair1D_translate (a b A B d : K) (hp : a + b ≠ 0) :
    letI := trOps e sq pi
    pair1D a b (A + d) (B + d)
      = { pair1D a b A B with P := (pair1D a b A B).P + d } := by
  have hP : (a * (A + d) + b * (B + d)) / (a + b) = (a * A + b * B) / (a + b) + d := by
    field_simp
    ring
  simp only [pair1D, hP, add_sub_add_right_eq_sub]

theorem momAx_translate (s s' t t' : Shell K) (origin origin' d : ℕ → K) (nk ka kb axis : ℕ) :
    letI := trOps e sq pi
    s'.l = s.l → t'.l = t.l → s'.exps = s.exps → t'.exps = t.exps →
    (∀ i, s'.ctr i = s.ctr i + d i) → (∀ i, t'.ctr i = t.ctr i + d i) →
    (∀ i, origin' i = origin i + d i) →
    s.exp! ka + t.exp! kb ≠ 0 →
    momAx s' t' origin' nk ka kb axis = momAx s t origin nk ka kb axis := by
  intro hl hl' he he' hc hc' ho hp
  let _ := trOps e sq pi
  have e1 : s'.exp! ka = s.exp! ka := by simp only [Shell.exp!, he]
  have e2 : t'.exp! kb = t.exp! kb := by simp only [Shell.exp!, he']
  simp only [momAx, hl, hl', e1, e2, hc, hc', ho]
  rw [pair1D_translate e sq pi _ _ _ _ _ hp, add_sub_add_right_eq_sub]

theorem diffAx_translate (s s' t t' : Shell K) (d : ℕ → K) (dmax ka kb axis : ℕ) :
    letI := trOps e sq pi
    s'.l = s.l → t'.l = t.l → s'.exps = s.exps → t'.exps = t.exps →
    (∀ i, s'.ctr i = s.ctr i + d i) → (∀ i, t'.ctr i = t.ctr i + d i) →
    s.exp! ka + t.exp! kb ≠ 0 →
    diffAx s' t' dmax ka kb axis = diffAx s t dmax ka kb axis := by
  intro hl hl' he he' hc hc' hp
  let _ := trOps e sq pi
  have e1 : s'.exp! ka = s.exp! ka := by simp only [Shell.exp!, he]
  have e2 : t'.exp! kb = t.exp! kb := by simp only [Shell.exp!, he']
  simp only [diffAx, hl, hl', e1, e2, hc, hc']
  rw [pair1D_translate e sq pi _ _ _ _ _ hp]

/-! ### Whole blocks -/

def Shell.translate (s : Shell K) (d : ℕ → K) : Shell K := { s with ctr := fun i => s.ctr i + d i }

theorem momAx_translate' (s t : Shell K) (origin d : ℕ → K) (nk ka kb axis : ℕ) :
    letI := trOps e sq pi
    s.exp! ka + t.exp! kb ≠ 0 →
    momAx (s.translate d) (t.translate d) (fun i => origin i + d i) nk ka kb axis
      = momAx s t origin nk ka kb axis :=
  momAx_translate e sq pi s (s.translate d) t (t.translate d) origin _ d nk ka kb axis rfl rfl rfl rfl
    (fun _ => rfl) (fun _ => rfl) (fun _ => rfl)

theorem diffAx_translate' (s t : Shell K) (d : ℕ → K) (dmax ka kb axis : ℕ) :
    letI := trOps e sq pi
    s.exp! ka + t.exp! kb ≠ 0 →
    diffAx (s.translate d) (t.translate d) dmax ka kb axis = diffAx s t dmax ka kb axis :=
  diffAx_translate e sq pi s (s.translate d) t (t.translate d) d dmax ka kb axis rfl rfl rfl rfl
    (fun _ => rfl) (fun _ => rfl)

theorem momAx_order0_origin (s t : Shell K) (origin origin' : ℕ → K) (nk ka kb axis j i : ℕ) :
    letI := trOps e sq pi
    (momAx s t origin nk ka kb axis).get3 0 j i = (momAx s t origin' nk ka kb axis).get3 0 j i := by
  simp only [momAx, momTab, Tab.get3, tab_get, momPlanes]

theorem contract_congr_prim (s t : Shell K) (na nb : Tab (Tab K))
    (prim prim' : ℕ → ℕ → Comp → Comp → K) (ma ca mb cb : ℕ) :
    letI := trOps e sq pi
    (∀ ka < s.nprim, ∀ kb < t.nprim, ∀ a b, prim ka kb a b = prim' ka kb a b) →
    contract s t na nb prim ma ca mb cb = contract s t na nb prim' ma ca mb cb := by
  intro h
  simp only [contract, sumN_eq_sum]
  refine Finset.sum_congr rfl fun ka hka => Finset.sum_congr rfl fun kb hkb => ?_
  rw [h ka (Finset.mem_range.mp hka) kb (Finset.mem_range.mp hkb)]

theorem momentBlock_translate (s t : Shell K) (origin d : ℕ → K) (orders : List Comp)
    (k ma ca mb cb : ℕ) :
    letI := trOps e sq pi
    (∀ ka < s.nprim, ∀ kb < t.nprim, s.exp! ka + t.exp! kb ≠ 0) →
    ((momentBlock (s.translate d) (t.translate d) (fun i => origin i + d i) orders).get k).get4
        ma ca mb cb
      = ((momentBlock s t origin orders).get k).get4 ma ca mb cb := by
  intro hp
  simp only [momentBlock, tab_get, blockTab, tab4_get]
  refine contract_congr_prim e sq pi s t _ _ _ _ ma ca mb cb fun ka hka kb hkb a b => ?_
  simp only [prod3, pairTabs, tab3_get, momAx_translate' e sq pi s t origin d _ ka kb _ (hp ka hka kb hkb)]

theorem momentBlock_order0_origin (s t : Shell K) (origin origin' : ℕ → K) (ma ca mb cb : ℕ) :
    letI := trOps e sq pi
    ((momentBlock s t origin [(0,0,0)]).get 0).get4 ma ca mb cb
      = ((momentBlock s t origin' [(0,0,0)]).get 0).get4 ma ca mb cb := by
  simp only [momentBlock, tab_get, blockTab, tab4_get]
  refine contract_congr_prim e sq pi _ _ _ _ _ _ ma ca mb cb fun ka hka kb hkb a b => ?_
  simp only [prod3, pairTabs, tab3_get, List.getD_cons_zero, momAx_order0_origin e sq pi _ _ origin origin']

theorem overlapBlock_translate (s t : Shell K) (d : ℕ → K) (ma ca mb cb : ℕ) :
    letI := trOps e sq pi
    (∀ ka < s.nprim, ∀ kb < t.nprim, s.exp! ka + t.exp! kb ≠ 0) →
    (overlapBlock (s.translate d) (t.translate d)).get4 ma ca mb cb
      = (overlapBlock s t).get4 ma ca mb cb := by
  intro hp
  simp only [overlapBlock]
  rw [momentBlock_order0_origin e sq pi (s.translate d) (t.translate d) (fun _ => Num.nat 0)
    (fun i => (fun _ => Num.nat 0) i + d i)]
  exact momentBlock_translate e sq pi s t (fun _ => Num.nat 0) d [(0,0,0)] 0 ma ca mb cb hp

theorem diffBlock_translate (s t : Shell K) (d : ℕ → K) (orders : List Comp) (k ma ca mb cb : ℕ) :
    letI := trOps e sq pi
    (∀ ka < s.nprim, ∀ kb < t.nprim, s.exp! ka + t.exp! kb ≠ 0) →
    ((diffBlock (s.translate d) (t.translate d) orders).get k).get4 ma ca mb cb
      = ((diffBlock s t orders).get k).get4 ma ca mb cb := by
  intro hp
  simp only [diffBlock, tab_get, blockTab, tab4_get]
  refine contract_congr_prim e sq pi s t _ _ _ _ ma ca mb cb fun ka hka kb hkb a b => ?_
  simp only [prod3, pairTabs, tab3_get, diffAx_translate' e sq pi s t d _ ka kb _ (hp ka hka kb hkb)]

theorem kineticBlock_translate (s t : Shell K) (d : ℕ → K) (ma ca mb cb : ℕ) :
    letI := trOps e sq pi
    (∀ ka < s.nprim, ∀ kb < t.nprim, s.exp! ka + t.exp! kb ≠ 0) →
    (kineticBlock (s.translate d) (t.translate d)).get4 ma ca mb cb
      = (kineticBlock s t).get4 ma ca mb cb := by
  intro hp
  simp only [kineticBlock, blockTab, tab4_get]
  rw [diffBlock_translate e sq pi s t d _ 0 ma ca mb cb hp,
    diffBlock_translate e sq pi s t d _ 1 ma ca mb cb hp,
    diffBlock_translate e sq pi s t d _ 2 ma ca mb cb hp]

end Translate

/-! ### The same over ℝ with the instance of the property files, positive exponents -/

theorem momentBlock_translate_real (s t : Shell ℝ) (origin d : ℕ → ℝ) (orders : List Comp)
    (k ma ca mb cb : ℕ) (hs : ∀ ka < s.nprim, 0 < s.exp! ka) (ht : ∀ kb < t.nprim, 0 < t.exp! kb) :
    ((momentBlock (s.translate d) (t.translate d) (fun i => origin i + d i) orders).get k).get4
        ma ca mb cb
      = ((momentBlock s t origin orders).get k).get4 ma ca mb cb :=
  momentBlock_translate Real.exp Real.sqrt Real.pi s t origin d orders k ma ca mb cb
    fun ka hka kb hkb => (add_pos (hs ka hka) (ht kb hkb)).ne'

theorem overlapBlock_translate_real (s t : Shell ℝ) (d : ℕ → ℝ) (ma ca mb cb : ℕ)
    (hs : ∀ ka < s.nprim, 0 < s.exp! ka) (ht : ∀ kb < t.nprim, 0 < t.exp! kb) :
    (overlapBlock (s.translate d) (t.translate d)).get4 ma ca mb cb
      = (overlapBlock s t).get4 ma ca mb cb :=
  overlapBlock_translate Real.exp Real.sqrt Real.pi s t d ma ca mb cb
    fun ka hka kb hkb => (add_pos (hs ka hka) (ht kb hkb)).ne'

theorem kineticBlock_translate_real (s t : Shell ℝ) (d : ℕ → ℝ) (ma ca mb cb : ℕ)
    (hs : ∀ ka < s.nprim, 0 < s.exp! ka) (ht : ∀ kb < t.nprim, 0 < t.exp! kb) :
    (kineticBlock (s.translate d) (t.translate d)).get4 ma ca mb cb
      = (kineticBlock s t).get4 ma ca mb cb :=
  kineticBlock_translate Real.exp Real.sqrt Real.pi s t d ma ca mb cb
    fun ka hka kb hkb => (add_pos (hs ka hka) (ht kb hkb)).ne'

/-! ## Reflection of an axis -/
section Reflect
variable {K : Type} [Field K] [CharZero K]

omit [CharZero K] in
theorem gmom_odd (p : K) (n : ℕ) : gmom p (2 * n + 1) = 0 := by
  induction n with
  | zero => rfl
  | succ n ih => rw [Nat.mul_succ, Nat.add_right_comm, gmom, ih, mul_zero]

theorem G_comp_neg (p : K) (q : K[X]) : G p (q.comp (-X)) = G p q := by
  induction q using Polynomial.induction_on' with
  | add a b ha hb => rw [add_comp, map_add, map_add, ha, hb]
  | monomial n a =>
    rw [monomial_comp, ← C_mul_X_pow_eq_monomial]
    rcases Nat.even_or_odd n with hn | ⟨m, rfl⟩
    · rw [hn.neg_pow]
    · rw [Odd.neg_pow ⟨m, rfl⟩, mul_neg, map_neg, G_C_mul, G_X_pow, gmom_odd, mul_zero, neg_zero]

omit [CharZero K] in
lemma X_add_C_neg_pow (a : K) (n : ℕ) :
    (X + C (-a) : K[X])^n = C ((-1)^n) * ((X + C a)^n).comp (-X) := by
  have h : (X + C (-a) : K[X]) = -(X + C a).comp (-X) := by
    rw [add_comp, X_comp, C_comp, neg_add, neg_neg, C_neg]
  rw [h, neg_pow, pow_comp, map_pow, map_neg, map_one]

theorem S3_neg (p PA PB PC : K) (i j k : ℕ) :
    S3 p (-PA) (-PB) (-PC) i j k = (-1)^(i+j+k) * S3 p PA PB PC i j k := by
  rw [S3, S3, X_add_C_neg_pow PA, X_add_C_neg_pow PB, X_add_C_neg_pow PC,
    mul_mul_mul_comm (C ((-1)^i)), mul_mul_mul_comm (C _ * C _), ← mul_comp, ← mul_comp, ← C_mul, ← C_mul, ← pow_add, ← pow_add, G_C_mul,
    G_comp_neg]

omit [CharZero K] in
lemma Dtw_C_mul (b PB c : K) (q : K[X]) : Dtw b PB (C c * q) = C c * Dtw b PB q := by
  rw [Dtw, Dtw, derivative_C_mul]; ring

omit [CharZero K] in
lemma Dtw_comp_neg (b PB : K) (q : K[X]) :
    Dtw b (-PB) (q.comp (-X)) = C (-1) * (Dtw b PB q).comp (-X) := by
  rw [Dtw, Dtw, derivative_comp, derivative_neg, derivative_X, sub_comp, mul_comp, mul_comp, add_comp, X_comp,
    C_comp, C_comp, C_neg, C_neg, C_1]
  ring

omit [CharZero K] in
lemma Dtw_neg (b PB : K) (q : K[X]) : Dtw b PB (-q) = - Dtw b PB q := by
  rw [Dtw, Dtw, derivative_neg]; ring

omit [CharZero K] in
lemma Dtw_iterate_comp_neg (b PB c : K) (k : ℕ) (q : K[X]) :
    (Dtw b (-PB))^[k] (C c * q.comp (-X)) = C (c * (-1)^k) * ((Dtw b PB)^[k] q).comp (-X) := by
  induction k generalizing c q with
  | zero => rw [pow_zero, mul_one]; rfl
  | succ k ih =>
    rw [Function.iterate_succ_apply, Function.iterate_succ_apply, Dtw_C_mul, Dtw_comp_neg, ← mul_assoc, ← C_mul,
      ih, pow_succ', mul_assoc]

theorem Dspec_neg (p b PA PB : K) (k i j : ℕ) :
    Dspec p b (-PA) (-PB) k i j = (-1)^(i+j+k) * Dspec p b PA PB k i j := by
  rw [Dspec, Dspec, X_add_C_neg_pow PA, X_add_C_neg_pow PB, Dtw_iterate_comp_neg, mul_mul_mul_comm,
    ← mul_comp, ← C_mul, G_C_mul, G_comp_neg, pow_add, pow_add]
  ring

end Reflect


end GB
