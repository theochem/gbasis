import GBProofs.AngMom

/-!
# Multipole-moment blocks under rigid motions (C12): a Cartesian tensor

`momentBlock s t O orders` holds, for every exponent triple `o` of the list `orders`, the integrals
`∫ φ_a (r - O)^o φ_b`.  When the two shells and the origin `O` are carried along by the same
affine isometry `g` (linear part `R`), the blocks of a full list of orders of total degree `n`
transform as a Cartesian tensor of rank `n` on the order index (`monoRep R orders`, the coefficients
of `u^{orders[d']}` in `(R u)^{orders[d]}`) and by the representation matrices of the two shells on
the two component indices.
-/
open MeasureTheory Real Finset

namespace GB

section MomentMotion
open MvPolynomial

/-! ## 1. The block as an integral over `E3` -/

lemma monoFn_e3Equiv (O : ℕ → ℝ) (o : Comp) (r : E3) :
    monoFn O o (e3Equiv r) = monoE o (fun i : Fin 3 => r i - O i) := rfl

lemma integrable_shellFnE_mono_mul (s t : Shell ℝ) (O : ℕ → ℝ) (o : Comp) (ma ca mb cb : ℕ)
    (hs : ∀ k < s.nprim, 0 < s.exp! k) (ht : ∀ k < t.nprim, 0 < t.exp! k) :
    Integrable fun r : E3 =>
      shellFnE s ma ca r * monoE o (fun i : Fin 3 => r i - O i) * shellFnE t mb cb r :=
  integrable_e3 (fun r => by rw [shellFn_e3Equiv, shellFn_e3Equiv, monoFn_e3Equiv, mul_right_comm])
    (integrable_shell_mul s t O o ma ca mb cb hs ht)

/-- Outside the list the model uses the order `(0,0,0)`, so no bound on `d` is needed;
`momentBlock_eq_integral_E3'` has the spelling `orders[d]`. -/
theorem momentBlock_eq_integral_E3 (s t : Shell ℝ) (O : ℕ → ℝ) (orders : List Comp)
    (d ma ca mb cb : ℕ)
    (hs : ∀ k < s.nprim, 0 < s.exp! k) (ht : ∀ k < t.nprim, 0 < t.exp! k) :
    ((momentBlock s t O orders).get d).get4 ma ca mb cb
      = ∫ r : E3, shellFnE s ma ca r
          * monoE (orders.getD d (0,0,0)) (fun i : Fin 3 => r i - O i) * shellFnE t mb cb r := by
  rw [momentBlock_eq_integral_mono s t O orders d ma ca mb cb hs ht]
  exact integral_e3 fun r => by rw [shellFn_e3Equiv, shellFn_e3Equiv, monoFn_e3Equiv, mul_right_comm]

theorem momentBlock_eq_integral_E3' (s t : Shell ℝ) (O : ℕ → ℝ) (orders : List Comp)
    (d ma ca mb cb : ℕ) (hd : d < orders.length)
    (hs : ∀ k < s.nprim, 0 < s.exp! k) (ht : ∀ k < t.nprim, 0 < t.exp! k) :
    ((momentBlock s t O orders).get d).get4 ma ca mb cb
      = ∫ r : E3, shellFnE s ma ca r
          * monoE (orders[d]) (fun i : Fin 3 => r i - O i) * shellFnE t mb cb r := by
  rw [momentBlock_eq_integral_E3 s t O orders d ma ca mb cb hs ht,
    ← List.getElem_eq_getD (h := hd) (0,0,0)]

/-! ## 2. The tensor representation on the order index -/

/-- `monoRep R orders d d'` is the coefficient of the un-normalised monomial `u^{orders[d']}` in
`(R u)^{orders[d]}`. -/
noncomputable def monoRep (R : E3 →ₗ[ℝ] E3) (orders : List Comp) (d d' : ℕ) : ℝ :=
  rotCoef R (orders.getD d (0,0,0)) (orders.getD d' (0,0,0))

theorem repMat_eq_monoRep (R : E3 →ₗ[ℝ] E3) (cart : List Comp) (c c' : ℕ) :
    repMat R cart c c'
      = monoRep R cart c c' * normAng (cart.getD c (0,0,0)) / normAng (cart.getD c' (0,0,0)) := rfl

theorem monoE_rot_eq_monoRep (R : E3 →ₗ[ℝ] E3) {n : ℕ} {orders : List Comp}
    (hf : FullCart n orders) {d : ℕ} (hd : d < orders.length) (u : E3) :
    monoE (orders.getD d (0,0,0)) (fun i => R u i)
      = ∑ d' ∈ range orders.length,
          monoRep R orders d d' * monoE (orders.getD d' (0,0,0)) (fun i => u i) :=
  monoE_rot_expand R hf _ (hf.degree hd) u

theorem monoRep_order0 (R : E3 →ₗ[ℝ] E3) : monoRep R [(0,0,0)] 0 0 = 1 :=
  rotCoef_order0 R

theorem monoRep_order1 (R : E3 →ₗ[ℝ] E3) (i j : Fin 3) :
    monoRep R [(1,0,0), (0,1,0), (0,0,1)] i j = matOf R i j :=
  rotCoef_order1 R i j

theorem monoRep_defaultCart1 (R : E3 →ₗ[ℝ] E3) (i j : Fin 3) :
    monoRep R (defaultCart 1) i j = matOf R i j := by
  rw [defaultCart_p, monoRep_order1]

theorem monoRep_defaultCart0 (R : E3 →ₗ[ℝ] E3) : monoRep R (defaultCart 0) 0 0 = 1 := by
  rw [defaultCart_s, monoRep_order0]

lemma matOf_of_id (R : E3 →ₗ[ℝ] E3) (hR : ∀ u, R u = u) (i j : Fin 3) :
    matOf R i j = if i = j then 1 else 0 := by
  unfold matOf
  rw [hR]
  simp

lemma rotLin_of_id (R : E3 →ₗ[ℝ] E3) (hR : ∀ u, R u = u) (i : Fin 3) :
    rotLin (matOf R) i = X i := by
  unfold rotLin
  simp only [matOf_of_id R hR]
  rw [Finset.sum_eq_single i]
  · simp
  · intro j _ hji
    simp [Ne.symm hji]
  · simp

lemma rotPoly_of_id (R : E3 →ₗ[ℝ] E3) (hR : ∀ u, R u = u) (c : Comp) :
    rotPoly (matOf R) c = monomial (compFs c) 1 := by
  unfold rotPoly
  simp only [rotLin_of_id R hR]
  rw [monomial_eq]
  simp only [C_1, one_mul]
  rw [Finsupp.prod_fintype _ _ (fun i => pow_zero _), Fin.prod_univ_three]
  simp only [compFs_zero, compFs_one, compFs_two]

/-- The Kronecker delta is of the order triples, not of the indices: the order list may have
duplicates. -/
theorem monoRep_id (R : E3 →ₗ[ℝ] E3) (hR : ∀ u, R u = u) (orders : List Comp) (d d' : ℕ) :
    monoRep R orders d d'
      = if orders.getD d (0,0,0) = orders.getD d' (0,0,0) then 1 else 0 := by
  classical
  unfold monoRep rotCoef
  rw [rotPoly_of_id R hR, coeff_monomial]
  by_cases h : orders.getD d (0,0,0) = orders.getD d' (0,0,0)
  · rw [if_pos h, if_pos (congrArg compFs h)]
  · rw [if_neg h, if_neg]
    exact fun h' => h (compFs_injective h')

theorem monoRep_id_nodup (R : E3 →ₗ[ℝ] E3) (hR : ∀ u, R u = u) (orders : List Comp)
    (hnd : orders.Nodup) {d d' : ℕ} (hd : d < orders.length) (hd' : d' < orders.length) :
    monoRep R orders d d' = if d = d' then 1 else 0 := by
  rw [monoRep_id R hR]
  rw [← List.getElem_eq_getD (h := hd) (0,0,0), ← List.getElem_eq_getD (h := hd') (0,0,0)]
  by_cases h : d = d'
  · subst h; simp
  · rw [if_neg h, if_neg]
    intro h'
    exact h ((List.Nodup.getElem_inj_iff hnd).mp h')

lemma linPart_translation (v u : E3) : linPart (translation v) u = u := by
  unfold linPart
  simp only [LinearEquiv.coe_coe, LinearIsometryEquiv.coe_toLinearEquiv]
  exact translation_linear v u

/-! ## 3. The moved origin and the pointwise covariance of the moment monomial -/

lemma movedPt_coord (g : E3 → E3) (O : ℕ → ℝ) (i : Fin 3) :
    movedPt g O i = g (toE3 O) i := by
  show toE3 (movedPt g O) i = _
  rw [toE3_movedPt]

lemma moved_disp (g : E3 ≃ᵃⁱ[ℝ] E3) (O : ℕ → ℝ) (r : E3) (i : Fin 3) :
    g r i - movedPt g O i = linPart g (r - toE3 O) i := by
  rw [movedPt_coord, ← PiLp.sub_apply, affineIso_sub]
  rfl

theorem momentMono_moved (g : E3 ≃ᵃⁱ[ℝ] E3) {n : ℕ} {orders : List Comp} (hf : FullCart n orders)
    (O : ℕ → ℝ) {d : ℕ} (hd : d < orders.length) (r : E3) :
    monoE (orders.getD d (0,0,0)) (fun i : Fin 3 => g r i - movedPt g O i)
      = ∑ d' ∈ range orders.length, monoRep (linPart g) orders d d'
          * monoE (orders.getD d' (0,0,0)) (fun i : Fin 3 => r i - O i) := by
  simp only [moved_disp]
  rw [monoE_rot_eq_monoRep (linPart g) hf hd (r - toE3 O)]
  simp only [PiLp.sub_apply, toE3_apply]

/-! ## 4. The covariance theorem -/

lemma sum_mul_tensor_mul_sum {κ ι₁ ι₂ : Type*} (J : Finset κ) (S₁ : Finset ι₁) (S₂ : Finset ι₂)
    (T : κ → ℝ) (D₁ : ι₁ → ℝ) (D₂ : ι₂ → ℝ) (x : ι₁ → ℝ) (m : κ → ℝ) (y : ι₂ → ℝ) :
    (∑ a ∈ S₁, D₁ a * x a) * (∑ j ∈ J, T j * m j) * (∑ b ∈ S₂, D₂ b * y b)
      = ∑ j ∈ J, T j * ∑ a ∈ S₁, ∑ b ∈ S₂, D₁ a * D₂ b * (x a * m j * y b) := by
  rw [mul_right_comm, sum_mul_sum_pair, mul_comm, Finset.sum_mul]
  refine Finset.sum_congr rfl fun j _ => ?_
  rw [mul_assoc, mul_sum_sum]
  refine congrArg _ (Finset.sum_congr rfl fun a _ => Finset.sum_congr rfl fun b _ => ?_)
  rw [mul_left_comm (m j), ← mul_assoc (x a)]

/-- The tensor coefficient stands in front of the transformed block, the form of
`momentumBlock_moved`. -/
theorem momentBlock_moved_tensor (g : E3 ≃ᵃⁱ[ℝ] E3) (s t : Shell ℝ) (O : ℕ → ℝ) {n : ℕ}
    (orders : List Comp) (d ma ca mb cb : ℕ)
    (hs : ∀ k, k < s.nprim → 0 < s.exp! k) (ht : ∀ k, k < t.nprim → 0 < t.exp! k)
    (hfs : FullCart s.l s.cart) (hft : FullCart t.l t.cart) (hfo : FullCart n orders)
    (hd : d < orders.length) (hca : ca < s.ncart) (hcb : cb < t.ncart) :
    ((momentBlock (s.moved g) (t.moved g) (movedPt g O) orders).get d).get4 ma ca mb cb
      = ∑ d' ∈ range orders.length, monoRep (linPart g) orders d d' *
          ∑ ca' ∈ range s.ncart, ∑ cb' ∈ range t.ncart,
            repMat (linPart g) s.cart ca ca' * repMat (linPart g) t.cart cb cb'
              * ((momentBlock s t O orders).get d').get4 ma ca' mb cb' := by
  rw [momentBlock_eq_integral_E3 (s.moved g) (t.moved g) (movedPt g O) orders d ma ca mb cb hs ht,
    lift_tensor g (range orders.length) (range s.ncart) (range t.ncart) _
      (fun j a b r => shellFnE s ma a r
        * monoE (orders.getD j (0,0,0)) (fun i : Fin 3 => r i - O i) * shellFnE t mb b r)
      (monoRep (linPart g) orders d)
      (fun a b => repMat (linPart g) s.cart ca a * repMat (linPart g) t.cart cb b)
      (fun r => by
        rw [shellFnE_moved g s hfs ma ca hca, shellFnE_moved g t hft mb cb hcb,
          momentMono_moved g hfo O hd r, sum_mul_tensor_mul_sum])
      (fun j _ a _ b _ => integrable_shellFnE_mono_mul s t O _ ma a mb b hs ht)]
  refine Finset.sum_congr rfl fun j _ => congrArg _ (Finset.sum_congr rfl fun a _ =>
    Finset.sum_congr rfl fun b _ => ?_)
  rw [momentBlock_eq_integral_E3 s t O orders j ma a mb b hs ht]

/-- C12, multipole moments under a rigid motion: a Cartesian tensor.  `monoRep R orders` is the rank-`n`
symmetric tensor representation in the monomial basis.

The hypotheses are needed: `d < orders.length` (outside the list the model uses the order
`(0,0,0)`, which is not of degree `n`), `ca`, `cb` inside the component lists, full component lists
(a rotated monomial needs all monomials of its degree), positive exponents (integrability). -/
theorem momentBlock_moved (g : E3 ≃ᵃⁱ[ℝ] E3) (s t : Shell ℝ) (O : ℕ → ℝ) {n : ℕ}
    (orders : List Comp) (d ma ca mb cb : ℕ)
    (hs : ∀ k, k < s.nprim → 0 < s.exp! k) (ht : ∀ k, k < t.nprim → 0 < t.exp! k)
    (hfs : FullCart s.l s.cart) (hft : FullCart t.l t.cart) (hfo : FullCart n orders)
    (hd : d < orders.length) (hca : ca < s.ncart) (hcb : cb < t.ncart) :
    ((momentBlock (s.moved g) (t.moved g) (movedPt g O) orders).get d).get4 ma ca mb cb
      = ∑ d' ∈ range orders.length, ∑ ca' ∈ range s.ncart, ∑ cb' ∈ range t.ncart,
          monoRep (linPart g) orders d d'
            * repMat (linPart g) s.cart ca ca' * repMat (linPart g) t.cart cb cb'
            * ((momentBlock s t O orders).get d').get4 ma ca' mb cb' := by
  rw [momentBlock_moved_tensor g s t O orders d ma ca mb cb hs ht hfs hft hfo hd hca hcb]
  simp only [Finset.mul_sum, ← mul_assoc]

theorem momentBlock_moved_order0 (g : E3 ≃ᵃⁱ[ℝ] E3) (s t : Shell ℝ) (O : ℕ → ℝ)
    (ma ca mb cb : ℕ)
    (hs : ∀ k, k < s.nprim → 0 < s.exp! k) (ht : ∀ k, k < t.nprim → 0 < t.exp! k)
    (hfs : FullCart s.l s.cart) (hft : FullCart t.l t.cart)
    (hca : ca < s.ncart) (hcb : cb < t.ncart) :
    ((momentBlock (s.moved g) (t.moved g) (movedPt g O) [(0,0,0)]).get 0).get4 ma ca mb cb
      = ∑ ca' ∈ range s.ncart, ∑ cb' ∈ range t.ncart,
          repMat (linPart g) s.cart ca ca' * repMat (linPart g) t.cart cb cb'
            * ((momentBlock s t O [(0,0,0)]).get 0).get4 ma ca' mb cb' := by
  have hfo : FullCart 0 [(0,0,0)] := defaultCart_s ▸ fullCart_defaultCart 0
  rw [momentBlock_moved_tensor g s t O [(0,0,0)] 0 ma ca mb cb hs ht hfs hft hfo Nat.one_pos hca hcb]
  simp only [List.length_singleton, Finset.sum_range_one, monoRep_order0, one_mul]

/-- Order 1: the dipole block is a vector. -/
theorem momentBlock_moved_order1 (g : E3 ≃ᵃⁱ[ℝ] E3) (s t : Shell ℝ) (O : ℕ → ℝ) (k : Fin 3)
    (ma ca mb cb : ℕ)
    (hs : ∀ k, k < s.nprim → 0 < s.exp! k) (ht : ∀ k, k < t.nprim → 0 < t.exp! k)
    (hfs : FullCart s.l s.cart) (hft : FullCart t.l t.cart)
    (hca : ca < s.ncart) (hcb : cb < t.ncart) :
    ((momentBlock (s.moved g) (t.moved g) (movedPt g O) [(1,0,0), (0,1,0), (0,0,1)]).get k).get4
        ma ca mb cb
      = ∑ j : Fin 3, matOf (linPart g) k j *
          ∑ ca' ∈ range s.ncart, ∑ cb' ∈ range t.ncart,
            repMat (linPart g) s.cart ca ca' * repMat (linPart g) t.cart cb cb'
              * ((momentBlock s t O [(1,0,0), (0,1,0), (0,0,1)]).get j).get4 ma ca' mb cb' := by
  have hfo : FullCart 1 [(1,0,0), (0,1,0), (0,0,1)] := defaultCart_p ▸ fullCart_defaultCart 1
  rw [momentBlock_moved_tensor g s t O _ k ma ca mb cb hs ht hfs hft hfo k.isLt hca hcb,
    show ([(1,0,0), (0,1,0), (0,0,1)] : List Comp).length = 3 from rfl, Finset.sum_range]
  simp only [monoRep_order1]

/-! ## 5. Translations -/

/-- No `FullCart` hypotheses for translations: this is `momentBlock_translate_real`, not an instance of
`momentBlock_moved`. -/
theorem momentBlock_moved_translation (v : E3) (s t : Shell ℝ) (O : ℕ → ℝ) (orders : List Comp)
    (d ma ca mb cb : ℕ)
    (hs : ∀ k, k < s.nprim → 0 < s.exp! k) (ht : ∀ k, k < t.nprim → 0 < t.exp! k) :
    ((momentBlock (s.moved (translation v)) (t.moved (translation v))
        (movedPt (translation v) O) orders).get d).get4 ma ca mb cb
      = ((momentBlock s t O orders).get d).get4 ma ca mb cb := by
  rw [moved_translation_eq_translate, moved_translation_eq_translate, movedPt_translation_eq]
  exact momentBlock_translate_real s t O (vecOf v) orders d ma ca mb cb hs ht

theorem monoRep_translation (v : E3) (orders : List Comp) (hnd : orders.Nodup) {d d' : ℕ}
    (hd : d < orders.length) (hd' : d' < orders.length) :
    monoRep (linPart (translation v)) orders d d' = if d = d' then 1 else 0 :=
  monoRep_id_nodup _ (linPart_translation v) orders hnd hd hd'

end MomentMotion

end GB
