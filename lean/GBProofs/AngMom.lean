import GBProofs.Definiteness
import GBProofs.TranslationLaws
import GBProofs.TraceLaws

/-!
# C08 / C12 — momentum and angular-momentum blocks: exact integrals, anti-symmetry, origin law

`momentumBlock s t` / `angmomBlock s t` are the real arrays `∫ φ_a ∂_k φ_b` / `∫ φ_a (r×∇)_k φ_b`
(the arrays of the code are `-i` times them).  The integral representations assume positive exponents
and (`hc`) that no exponent of the left component exceeds the angular momentum of its shell;
anti-symmetry needs the latter for both components, `momentumBlock_translate` does not need it, and the
rigid-motion law of §7 assumes full Cartesian component lists (`FullCart`) instead.

Everything goes through `Wint`, the contracted integral `∫ ∂^o φ_a ∂^{o'} φ_b r^p` (an instance of
`integral_shellW`); anti-symmetry is integration by parts along an axis the weight does not depend on
(`Wint_ibp_unit`).
-/
open MeasureTheory Real Polynomial

namespace GB

/-! ## 1. The contracted weighted integral -/

noncomputable def Wint (s t : Shell ℝ) (ma ca mb cb : ℕ) (o o' p : Comp) : ℝ :=
  ∫ r : ℝ × ℝ × ℝ, shellDerivFn s ma ca o r * shellDerivFn t mb cb o' r * monoFn (fun _ => 0) p r

lemma Wint_comm (s t : Shell ℝ) (ma ca mb cb : ℕ) (o o' p : Comp) :
    Wint s t ma ca mb cb o o' p = Wint t s mb cb ma ca o' o p := by
  unfold Wint
  refine integral_congr_ae (Filter.Eventually.of_forall fun r => ?_)
  ring

lemma Wint_ibp_unit (s t : Shell ℝ) (ma ca mb cb w : ℕ) (hw : w < 3) (p : Comp)
    (hp : Comp.ax p w = 0)
    (hs : ∀ k < s.nprim, 0 < s.exp! k) (ht : ∀ k < t.nprim, 0 < t.exp! k) :
    Wint s t ma ca mb cb (0,0,0) (Comp.e w) p = - Wint s t ma ca mb cb (Comp.e w) (0,0,0) p := by
  have h := shellW_ibp s t (fun _ => 0) 0 0 p (Comp.e w) ma ca mb cb hs ht
    (by interval_cases w
        exacts [.inl ⟨rfl, hp⟩, .inr (.inl ⟨rfl, hp⟩), .inr (.inr ⟨rfl, hp⟩)])
  rwa [zero_add] at h

/-! ## 2. The blocks of the model in terms of `Wint` -/

lemma momAx_entry_kw1 (s t : Shell ℝ) (nk ka kb axis k j i : ℕ)
    (ha : 0 < s.exp! ka) (hb : 0 < t.exp! kb) :
    (momAx s t (fun _ => Num.nat 0) nk ka kb axis).get3 k j i
      = ∫ x, kw1 (s.exp! ka) (t.exp! kb) (s.ctr axis) (t.ctr axis) 0 i j 0 0 k x := by
  rw [C01.table_entry_eq_integral s t _ nk ka kb axis k j i ha hb]
  simp only [kw1_moment, num_nat, Nat.cast_zero]

lemma diffAx_entry_kw1 (s t : Shell ℝ) (dmax ka kb axis k j i : ℕ) (O : ℝ)
    (ha : 0 < s.exp! ka) (hb : 0 < t.exp! kb) (hk : k ≤ dmax) (hi : i ≤ s.l) :
    (diffAx s t dmax ka kb axis).get3 k j i
      = ∫ x, kw1 (s.exp! ka) (t.exp! kb) (s.ctr axis) (t.ctr axis) O i j 0 k 0 x := by
  rw [C02.table_entry_eq_integral s t dmax ka kb axis k j i ha hb hk hi]
  simp only [kw1_deriv]

lemma integral_shell_deriv_eq_Wint (s t : Shell ℝ) (ma ca mb cb : ℕ) (o : Comp) :
    ∫ r : ℝ × ℝ × ℝ, shellFn s ma ca r * shellDerivFn t mb cb o r
      = Wint s t ma ca mb cb (0,0,0) o (0,0,0) := by
  unfold Wint
  refine integral_congr_ae (Filter.Eventually.of_forall fun r => ?_)
  simp only [monoFn, shellDerivFn_zero, pow_zero, mul_one]


/-- `(k, v, w) = (k, k+1, k+2) mod 3` is cyclic: `∫ φ_a (r_v ∂_w − r_w ∂_v) φ_b`. -/
theorem angmomBlock_eq_Wint (s t : Shell ℝ) (k ma ca mb cb : ℕ) (hk : k < 3)
    (hs : ∀ k < s.nprim, 0 < s.exp! k) (ht : ∀ k < t.nprim, 0 < t.exp! k)
    (hc : (s.comp! ca).1 ≤ s.l ∧ (s.comp! ca).2.1 ≤ s.l ∧ (s.comp! ca).2.2 ≤ s.l) :
    ((angmomBlock s t).get k).get4 ma ca mb cb
      = Wint s t ma ca mb cb (0,0,0) (Comp.e ((k+2)%3)) (Comp.e ((k+1)%3))
        - Wint s t ma ca mb cb (0,0,0) (Comp.e ((k+1)%3)) (Comp.e ((k+2)%3)) := by
  have hax : ∀ w, Comp.ax (s.comp! ca) w ≤ s.l := fun w => by
    rcases w with _ | _ | w
    exacts [hc.1, hc.2.1, hc.2.2]
  unfold Wint
  rw [integral_shellW s t _ _ _ _ ma ca mb cb hs ht, integral_shellW s t _ _ _ _ ma ca mb cb hs ht,
    ← Finset.sum_sub_distrib]
  simp only [angmomBlock, tab_get, blockTab, tab4_get, contract, Shell.normTab, tab2_get, pairTabs,
    tab3_get]
  rw [sumN_eq_sum]
  refine Finset.sum_congr rfl fun ka hka => ?_
  rw [sumN_eq_sum, ← Finset.sum_sub_distrib]
  refine Finset.sum_congr rfl fun kb hkb => ?_
  have ha := hs ka (Finset.mem_range.mp hka)
  have hb := ht kb (Finset.mem_range.mp hkb)
  simp only [momAx_entry_kw1 s t 2 ka kb _ _ _ _ ha hb,
    diffAx_entry_kw1 s t 1 ka kb _ 1 _ _ 0 ha hb le_rfl (hax _), integral_primW]
  unfold cN
  interval_cases k <;>
  · simp only [Comp.ax, Nat.reduceAdd, Nat.reduceMod, zero_add, Comp.e]
    ring

/-! ## 3. Uniform statements: coordinates, unit orders, `(r × ∇)_k` -/

def coord (r : ℝ × ℝ × ℝ) : ℕ → ℝ
  | 0 => r.1
  | 1 => r.2.1
  | _ => r.2.2

/-- Component `k` of `(r × ∇) φ`, about the coordinate origin. -/
noncomputable def rotDerivFn (t : Shell ℝ) (m c k : ℕ) (r : ℝ × ℝ × ℝ) : ℝ :=
  coord r ((k+1)%3) * shellDerivFn t m c (Comp.e ((k+2)%3)) r
    - coord r ((k+2)%3) * shellDerivFn t m c (Comp.e ((k+1)%3)) r

lemma coord_eq_monoFn (r : ℝ × ℝ × ℝ) (v : ℕ) :
    coord r v = monoFn (fun _ => 0) (Comp.e v) r := by
  rcases v with _ | _ | v <;>
    simp only [monoFn, Comp.e, coord, pow_zero, pow_one, sub_zero, mul_one, one_mul]

lemma shell_coord_deriv_eq (s t : Shell ℝ) (ma ca mb cb v w : ℕ) (r : ℝ × ℝ × ℝ) :
    shellFn s ma ca r * (coord r v * shellDerivFn t mb cb (Comp.e w) r)
      = shellDerivFn s ma ca (0,0,0) r * shellDerivFn t mb cb (Comp.e w) r
        * monoFn (fun _ => 0) (Comp.e v) r := by
  rw [coord_eq_monoFn, shellDerivFn_zero, mul_left_comm, mul_comm, mul_assoc]

lemma integrable_shell_coord_deriv (s t : Shell ℝ) (ma ca mb cb v w : ℕ)
    (hs : ∀ k < s.nprim, 0 < s.exp! k) (ht : ∀ k < t.nprim, 0 < t.exp! k) :
    Integrable fun r : ℝ × ℝ × ℝ =>
      shellFn s ma ca r * (coord r v * shellDerivFn t mb cb (Comp.e w) r) := by
  simp_rw [shell_coord_deriv_eq]
  exact integrable_shellW s t (fun _ => 0) (0,0,0) (Comp.e w) (Comp.e v) ma ca mb cb hs ht

lemma integral_shell_coord_deriv (s t : Shell ℝ) (ma ca mb cb v w : ℕ) :
    ∫ r : ℝ × ℝ × ℝ, shellFn s ma ca r * (coord r v * shellDerivFn t mb cb (Comp.e w) r)
      = Wint s t ma ca mb cb (0,0,0) (Comp.e w) (Comp.e v) := by
  simp_rw [shell_coord_deriv_eq]
  rfl

lemma integrable_shell_rotDeriv (s t : Shell ℝ) (ma ca mb cb k : ℕ)
    (hs : ∀ k < s.nprim, 0 < s.exp! k) (ht : ∀ k < t.nprim, 0 < t.exp! k) :
    Integrable fun r : ℝ × ℝ × ℝ => shellFn s ma ca r * rotDerivFn t mb cb k r := by
  have h := (integrable_shell_coord_deriv s t ma ca mb cb ((k+1)%3) ((k+2)%3) hs ht).sub
    (integrable_shell_coord_deriv s t ma ca mb cb ((k+2)%3) ((k+1)%3) hs ht)
  refine h.congr (Filter.Eventually.of_forall fun r => ?_)
  simp only [rotDerivFn, Pi.sub_apply]
  ring

lemma integral_shell_rotDeriv (s t : Shell ℝ) (ma ca mb cb k : ℕ)
    (hs : ∀ k < s.nprim, 0 < s.exp! k) (ht : ∀ k < t.nprim, 0 < t.exp! k) :
    ∫ r : ℝ × ℝ × ℝ, shellFn s ma ca r * rotDerivFn t mb cb k r
      = Wint s t ma ca mb cb (0,0,0) (Comp.e ((k+2)%3)) (Comp.e ((k+1)%3))
        - Wint s t ma ca mb cb (0,0,0) (Comp.e ((k+1)%3)) (Comp.e ((k+2)%3)) := by
  rw [← integral_shell_coord_deriv, ← integral_shell_coord_deriv,
    ← integral_sub (integrable_shell_coord_deriv s t ma ca mb cb _ _ hs ht)
      (integrable_shell_coord_deriv s t ma ca mb cb _ _ hs ht)]
  refine integral_congr_ae (Filter.Eventually.of_forall fun r => ?_)
  simp only [rotDerivFn]
  ring

/-- C08, angular momentum: block `k` of the model of
`AngularMomentumIntegral.construct_array_contraction`, divided by `-i`; `r × ∇` is about the
coordinate origin. -/
theorem angmomBlock_eq_integral (s t : Shell ℝ) (k ma ca mb cb : ℕ) (hk : k < 3)
    (hs : ∀ k < s.nprim, 0 < s.exp! k) (ht : ∀ k < t.nprim, 0 < t.exp! k)
    (hc : (s.comp! ca).1 ≤ s.l ∧ (s.comp! ca).2.1 ≤ s.l ∧ (s.comp! ca).2.2 ≤ s.l) :
    ((angmomBlock s t).get k).get4 ma ca mb cb
      = ∫ r : ℝ × ℝ × ℝ, shellFn s ma ca r * rotDerivFn t mb cb k r := by
  rw [integral_shell_rotDeriv s t ma ca mb cb k hs ht]
  exact angmomBlock_eq_Wint s t k ma ca mb cb hk hs ht hc

theorem angmomBlock_eq_integral_x (s t : Shell ℝ) (ma ca mb cb : ℕ)
    (hs : ∀ k < s.nprim, 0 < s.exp! k) (ht : ∀ k < t.nprim, 0 < t.exp! k)
    (hc : (s.comp! ca).1 ≤ s.l ∧ (s.comp! ca).2.1 ≤ s.l ∧ (s.comp! ca).2.2 ≤ s.l) :
    ((angmomBlock s t).get 0).get4 ma ca mb cb
      = ∫ r : ℝ × ℝ × ℝ, shellFn s ma ca r
          * (r.2.1 * shellDerivFn t mb cb (0,0,1) r - r.2.2 * shellDerivFn t mb cb (0,1,0) r) :=
  angmomBlock_eq_integral s t 0 ma ca mb cb (by norm_num) hs ht hc

theorem angmomBlock_eq_integral_y (s t : Shell ℝ) (ma ca mb cb : ℕ)
    (hs : ∀ k < s.nprim, 0 < s.exp! k) (ht : ∀ k < t.nprim, 0 < t.exp! k)
    (hc : (s.comp! ca).1 ≤ s.l ∧ (s.comp! ca).2.1 ≤ s.l ∧ (s.comp! ca).2.2 ≤ s.l) :
    ((angmomBlock s t).get 1).get4 ma ca mb cb
      = ∫ r : ℝ × ℝ × ℝ, shellFn s ma ca r
          * (r.2.2 * shellDerivFn t mb cb (1,0,0) r - r.1 * shellDerivFn t mb cb (0,0,1) r) :=
  angmomBlock_eq_integral s t 1 ma ca mb cb (by norm_num) hs ht hc

theorem angmomBlock_eq_integral_z (s t : Shell ℝ) (ma ca mb cb : ℕ)
    (hs : ∀ k < s.nprim, 0 < s.exp! k) (ht : ∀ k < t.nprim, 0 < t.exp! k)
    (hc : (s.comp! ca).1 ≤ s.l ∧ (s.comp! ca).2.1 ≤ s.l ∧ (s.comp! ca).2.2 ≤ s.l) :
    ((angmomBlock s t).get 2).get4 ma ca mb cb
      = ∫ r : ℝ × ℝ × ℝ, shellFn s ma ca r
          * (r.1 * shellDerivFn t mb cb (0,1,0) r - r.2.1 * shellDerivFn t mb cb (1,0,0) r) :=
  angmomBlock_eq_integral s t 2 ma ca mb cb (by norm_num) hs ht hc

/-- C08, momentum.  `shellDerivFn … (Comp.e k)` is the `k`-th partial derivative of `shellFn`
(`hasDerivAt_shellFn_x`, `_y`, `_z`). -/
theorem momentumBlock_eq_integral (s t : Shell ℝ) (k ma ca mb cb : ℕ) (hk : k < 3)
    (hs : ∀ k < s.nprim, 0 < s.exp! k) (ht : ∀ k < t.nprim, 0 < t.exp! k)
    (hc : (s.comp! ca).1 ≤ s.l ∧ (s.comp! ca).2.1 ≤ s.l ∧ (s.comp! ca).2.2 ≤ s.l) :
    ((momentumBlock s t).get k).get4 ma ca mb cb
      = ∫ r : ℝ × ℝ × ℝ, shellFn s ma ca r * shellDerivFn t mb cb (Comp.e k) r := by
  unfold momentumBlock
  rw [diffBlock_eq_integral s t _ k ma ca mb cb hs ht hc]
  interval_cases k <;> rfl


/-! ## 4. Anti-symmetry (the operators `-i∇` and `-i r×∇` are Hermitian) -/

/-- C08: so `-i` times the block, the array of the code, is Hermitian (§6). -/
theorem momentumBlock_antisymm (s t : Shell ℝ) (k ma ca mb cb : ℕ) (hk : k < 3)
    (hs : ∀ k < s.nprim, 0 < s.exp! k) (ht : ∀ k < t.nprim, 0 < t.exp! k)
    (hca : (s.comp! ca).1 ≤ s.l ∧ (s.comp! ca).2.1 ≤ s.l ∧ (s.comp! ca).2.2 ≤ s.l)
    (hcb : (t.comp! cb).1 ≤ t.l ∧ (t.comp! cb).2.1 ≤ t.l ∧ (t.comp! cb).2.2 ≤ t.l) :
    ((momentumBlock s t).get k).get4 ma ca mb cb
      = - ((momentumBlock t s).get k).get4 mb cb ma ca := by
  rw [momentumBlock_eq_integral s t k ma ca mb cb hk hs ht hca,
    momentumBlock_eq_integral t s k mb cb ma ca hk ht hs hcb,
    integral_shell_deriv_eq_Wint, integral_shell_deriv_eq_Wint,
    Wint_ibp_unit s t ma ca mb cb k hk (0,0,0) (by interval_cases k <;> rfl) hs ht,
    Wint_comm]

/-- C08.  The weight `r_v` does not depend on the coordinate `w` along which one integrates by parts. -/
theorem angmomBlock_antisymm (s t : Shell ℝ) (k ma ca mb cb : ℕ) (hk : k < 3)
    (hs : ∀ k < s.nprim, 0 < s.exp! k) (ht : ∀ k < t.nprim, 0 < t.exp! k)
    (hca : (s.comp! ca).1 ≤ s.l ∧ (s.comp! ca).2.1 ≤ s.l ∧ (s.comp! ca).2.2 ≤ s.l)
    (hcb : (t.comp! cb).1 ≤ t.l ∧ (t.comp! cb).2.1 ≤ t.l ∧ (t.comp! cb).2.2 ≤ t.l) :
    ((angmomBlock s t).get k).get4 ma ca mb cb
      = - ((angmomBlock t s).get k).get4 mb cb ma ca := by
  rw [angmomBlock_eq_integral s t k ma ca mb cb hk hs ht hca,
    angmomBlock_eq_integral t s k mb cb ma ca hk ht hs hcb,
    integral_shell_rotDeriv s t ma ca mb cb k hs ht, integral_shell_rotDeriv t s mb cb ma ca k ht hs,
    Wint_ibp_unit s t ma ca mb cb ((k+2)%3) (Nat.mod_lt _ (by norm_num)) (Comp.e ((k+1)%3))
      (by interval_cases k <;> rfl) hs ht,
    Wint_ibp_unit s t ma ca mb cb ((k+1)%3) (Nat.mod_lt _ (by norm_num)) (Comp.e ((k+2)%3))
      (by interval_cases k <;> rfl) hs ht,
    Wint_comm s t, Wint_comm s t]
  ring


/-! ## 5. Origin law (C12): a common translation by `d` adds `d × p` -/

def vec3 (d : ℕ → ℝ) : ℝ × ℝ × ℝ := (d 0, d 1, d 2)

lemma integral_comp_sub_vec (F : ℝ × ℝ × ℝ → ℝ) (D : ℝ × ℝ × ℝ) :
    ∫ r, F (r - D) = ∫ r, F r := by
  have inst : (volume : Measure (ℝ × ℝ × ℝ)).IsAddLeftInvariant := by
    rw [Measure.volume_eq_prod ℝ (ℝ × ℝ), Measure.volume_eq_prod ℝ ℝ]
    exact Measure.prod.instIsAddLeftInvariant
  have h := integral_add_left_eq_self (μ := volume) F (-D)
  simpa [neg_add_eq_sub] using h

lemma coord_sub_vec3 (r : ℝ × ℝ × ℝ) (d : ℕ → ℝ) (j : ℕ) (hj : j < 3) :
    coord (r - vec3 d) j = coord r j - d j := by
  interval_cases j <;> simp [coord, vec3]

lemma prim1_translate (α A d : ℝ) (n : ℕ) :
    prim1 α (A + d) n = fun x => prim1 α A n (x - d) := by
  funext x
  simp only [prim1, sub_add_eq_sub_sub_swap]

lemma primDerivFn_translate (α : ℝ) (A d : ℕ → ℝ) (c o : Comp) (r : ℝ × ℝ × ℝ) :
    primDerivFn α (fun i => A i + d i) c o r = primDerivFn α A c o (r - vec3 d) := by
  simp only [primDerivFn, prim1_translate, iteratedDeriv_comp_sub_const, vec3, Prod.fst_sub,
    Prod.snd_sub]

theorem shellDerivFn_translate (s : Shell ℝ) (d : ℕ → ℝ) (m c : ℕ) (o : Comp) (r : ℝ × ℝ × ℝ) :
    shellDerivFn (s.translate d) m c o r = shellDerivFn s m c o (r - vec3 d) := by
  unfold shellDerivFn
  refine Finset.sum_congr rfl fun k _ => ?_
  rw [← primDerivFn_translate]
  rfl

theorem shellFn_translate (s : Shell ℝ) (d : ℕ → ℝ) (m c : ℕ) (r : ℝ × ℝ × ℝ) :
    shellFn (s.translate d) m c r = shellFn s m c (r - vec3 d) := by
  rw [← shellDerivFn_zero, ← shellDerivFn_zero, shellDerivFn_translate]

/-- C12, origin law of the angular momentum: moving both shells by the vector `d` (equivalently, the
origin by `-d`) adds `(d × p)_k` to block `k`, with `p` the momentum blocks. -/
theorem angmomBlock_translate (s t : Shell ℝ) (d : ℕ → ℝ) (k ma ca mb cb : ℕ) (hk : k < 3)
    (hs : ∀ k < s.nprim, 0 < s.exp! k) (ht : ∀ k < t.nprim, 0 < t.exp! k)
    (hc : (s.comp! ca).1 ≤ s.l ∧ (s.comp! ca).2.1 ≤ s.l ∧ (s.comp! ca).2.2 ≤ s.l) :
    ((angmomBlock (s.translate d) (t.translate d)).get k).get4 ma ca mb cb
      = ((angmomBlock s t).get k).get4 ma ca mb cb
        + (d ((k+1)%3) * ((momentumBlock s t).get ((k+2)%3)).get4 ma ca mb cb
            - d ((k+2)%3) * ((momentumBlock s t).get ((k+1)%3)).get4 ma ca mb cb) := by
  have hv : (k+1)%3 < 3 := Nat.mod_lt _ (by norm_num)
  have hw : (k+2)%3 < 3 := Nat.mod_lt _ (by norm_num)
  rw [angmomBlock_eq_integral (s.translate d) (t.translate d) k ma ca mb cb hk hs ht hc,
    angmomBlock_eq_integral s t k ma ca mb cb hk hs ht hc,
    momentumBlock_eq_integral s t _ ma ca mb cb hw hs ht hc,
    momentumBlock_eq_integral s t _ ma ca mb cb hv hs ht hc]
  -- the integrand of the translated pair is a translate of `F`
  set F : ℝ × ℝ × ℝ → ℝ := fun r =>
    shellFn s ma ca r * rotDerivFn t mb cb k r
      + (d ((k+1)%3) * (shellFn s ma ca r * shellDerivFn t mb cb (Comp.e ((k+2)%3)) r)
          - d ((k+2)%3) * (shellFn s ma ca r * shellDerivFn t mb cb (Comp.e ((k+1)%3)) r)) with hF
  have e : ∀ r : ℝ × ℝ × ℝ,
      shellFn (s.translate d) ma ca r * rotDerivFn (t.translate d) mb cb k r = F (r - vec3 d) := by
    intro r
    have c1 := coord_sub_vec3 r d _ hv
    have c2 := coord_sub_vec3 r d _ hw
    simp only [hF, rotDerivFn, shellFn_translate, shellDerivFn_translate, c1, c2]
    ring
  simp_rw [e]
  rw [integral_comp_sub_vec F (vec3 d)]
  simp only [hF]
  have i := fun (c : ℝ) (o : Comp) =>
    (integrable_shell_mul_deriv s t o ma ca mb cb hs ht).const_mul c
  have i12 : Integrable fun r : ℝ × ℝ × ℝ =>
      d ((k+1)%3) * (shellFn s ma ca r * shellDerivFn t mb cb (Comp.e ((k+2)%3)) r)
        - d ((k+2)%3) * (shellFn s ma ca r * shellDerivFn t mb cb (Comp.e ((k+1)%3)) r) :=
    (i _ _).sub (i _ _)
  rw [integral_add (integrable_shell_rotDeriv s t ma ca mb cb k hs ht) i12,
    integral_sub (i _ _) (i _ _), integral_const_mul, integral_const_mul]

theorem momentumBlock_translate (s t : Shell ℝ) (d : ℕ → ℝ) (k ma ca mb cb : ℕ)
    (hs : ∀ k < s.nprim, 0 < s.exp! k) (ht : ∀ k < t.nprim, 0 < t.exp! k) :
    ((momentumBlock (s.translate d) (t.translate d)).get k).get4 ma ca mb cb
      = ((momentumBlock s t).get k).get4 ma ca mb cb :=
  diffBlock_translate Real.exp Real.sqrt Real.pi s t d _ k ma ca mb cb
    fun ka hka kb hkb => (add_pos (hs ka hka) (ht kb hkb)).ne'

/-! ## 6. The complex arrays of the code are Hermitian -/

/-- Entry of `MomentumIntegral.construct_array_contraction`. -/
noncomputable def momentumEntry (s t : Shell ℝ) (k ma ca mb cb : ℕ) : ℂ :=
  -Complex.I * (((momentumBlock s t).get k).get4 ma ca mb cb : ℝ)

/-- Entry of `AngularMomentumIntegral.construct_array_contraction`. -/
noncomputable def angmomEntry (s t : Shell ℝ) (k ma ca mb cb : ℕ) : ℂ :=
  -Complex.I * (((angmomBlock s t).get k).get4 ma ca mb cb : ℝ)

theorem momentumEntry_hermitian (s t : Shell ℝ) (k ma ca mb cb : ℕ) (hk : k < 3)
    (hs : ∀ k < s.nprim, 0 < s.exp! k) (ht : ∀ k < t.nprim, 0 < t.exp! k)
    (hca : (s.comp! ca).1 ≤ s.l ∧ (s.comp! ca).2.1 ≤ s.l ∧ (s.comp! ca).2.2 ≤ s.l)
    (hcb : (t.comp! cb).1 ≤ t.l ∧ (t.comp! cb).2.1 ≤ t.l ∧ (t.comp! cb).2.2 ≤ t.l) :
    momentumEntry s t k ma ca mb cb = (starRingEnd ℂ) (momentumEntry t s k mb cb ma ca) := by
  unfold momentumEntry
  rw [momentumBlock_antisymm s t k ma ca mb cb hk hs ht hca hcb]
  simp

theorem angmomEntry_hermitian (s t : Shell ℝ) (k ma ca mb cb : ℕ) (hk : k < 3)
    (hs : ∀ k < s.nprim, 0 < s.exp! k) (ht : ∀ k < t.nprim, 0 < t.exp! k)
    (hca : (s.comp! ca).1 ≤ s.l ∧ (s.comp! ca).2.1 ≤ s.l ∧ (s.comp! ca).2.2 ≤ s.l)
    (hcb : (t.comp! cb).1 ≤ t.l ∧ (t.comp! cb).2.1 ≤ t.l ∧ (t.comp! cb).2.2 ≤ t.l) :
    angmomEntry s t k ma ca mb cb = (starRingEnd ℂ) (angmomEntry t s k mb cb ma ca) := by
  unfold angmomEntry
  rw [angmomBlock_antisymm s t k ma ca mb cb hk hs ht hca hcb]
  simp

/-! ## 7. Momentum under every rigid motion (C12) -/
section Rigid
open Finset InnerProductSpace

lemma clm_expand (L : E3 →L[ℝ] ℝ) (v : E3) : L v = ∑ j : Fin 3, v j * L (ei j) := by
  conv_lhs => rw [e3_eq_sum_single v]
  simp only [map_sum, map_smul, smul_eq_mul, ei]

lemma symm_ei_apply (g : E3 ≃ᵃⁱ[ℝ] E3) (k j : Fin 3) :
    (g.linearIsometryEquiv.symm (ei k)) j = matOf (linPart g) k j :=
  matOf_symm g.linearIsometryEquiv k j

lemma fderiv_moved_ax {κ : Type*} (g : E3 ≃ᵃⁱ[ℝ] E3) (S : Finset κ) (ψ : E3 → ℝ)
    (φ : κ → E3 → ℝ) (D : κ → ℝ) (h : ∀ r, ψ (g r) = ∑ j ∈ S, D j * φ j r)
    (hψ : Differentiable ℝ ψ) (hφ : ∀ j, Differentiable ℝ (φ j)) (r : E3) (k : Fin 3) :
    fderiv ℝ ψ (g r) (ei k)
      = ∑ j : Fin 3, matOf (linPart g) k j * ∑ l ∈ S, D l * fderiv ℝ (φ l) r (ei j) := by
  have h1 := fderiv_comp_moved g S ψ φ D h hψ hφ r
  have h2 := congrArg (fun L : E3 →L[ℝ] ℝ => L (g.linearIsometryEquiv.symm (ei k))) h1
  simp only [ContinuousLinearMap.comp_apply, _root_.sum_apply,
    _root_.smul_apply, smul_eq_mul] at h2
  have e : ((g.linearIsometryEquiv : E3 ≃ₗᵢ[ℝ] E3) : E3 →L[ℝ] E3)
      (g.linearIsometryEquiv.symm (ei k)) = ei k := g.linearIsometryEquiv.apply_symm_apply _
  rw [e] at h2
  rw [h2]
  simp_rw [clm_expand (fderiv ℝ (φ _) r) (g.linearIsometryEquiv.symm (ei k)), symm_ei_apply,
    Finset.mul_sum]
  rw [Finset.sum_comm]
  exact Finset.sum_congr rfl fun j _ => Finset.sum_congr rfl fun l _ => by ring


lemma integrable_shellFnE_mul_fderiv (s t : Shell ℝ) (ma ca mb cb : ℕ) (k : Fin 3)
    (hs : ∀ k < s.nprim, 0 < s.exp! k) (ht : ∀ k < t.nprim, 0 < t.exp! k) :
    Integrable fun r : E3 => shellFnE s ma ca r * fderiv ℝ (shellFnE t mb cb) r (ei k) :=
  integrable_e3 (fun r => by rw [shellFn_e3Equiv, fderiv_shellFnE_ax])
    (integrable_shell_mul_deriv s t (Comp.e k) ma ca mb cb hs ht)

theorem momentumBlock_eq_integral_E3 (s t : Shell ℝ) (k : Fin 3) (ma ca mb cb : ℕ)
    (hs : ∀ k < s.nprim, 0 < s.exp! k) (ht : ∀ k < t.nprim, 0 < t.exp! k)
    (hc : (s.comp! ca).1 ≤ s.l ∧ (s.comp! ca).2.1 ≤ s.l ∧ (s.comp! ca).2.2 ≤ s.l) :
    ((momentumBlock s t).get k).get4 ma ca mb cb
      = ∫ r : E3, shellFnE s ma ca r * fderiv ℝ (shellFnE t mb cb) r (ei k) := by
  rw [momentumBlock_eq_integral s t k ma ca mb cb k.isLt hs ht hc]
  exact integral_e3 fun r => by rw [shellFn_e3Equiv, fderiv_shellFnE_ax]

/-- C12, momentum under a rigid motion: the three blocks transform as a vector under the linear part
of `g`, and by the representation matrices of the two shells on the two component indices. -/
theorem momentumBlock_moved (g : E3 ≃ᵃⁱ[ℝ] E3) (s t : Shell ℝ) (k : Fin 3) (ma ca mb cb : ℕ)
    (hs : ∀ k, k < s.nprim → 0 < s.exp! k) (ht : ∀ k, k < t.nprim → 0 < t.exp! k)
    (hfs : FullCart s.l s.cart) (hft : FullCart t.l t.cart)
    (hca : ca < s.ncart) (hcb : cb < t.ncart) :
    ((momentumBlock (s.moved g) (t.moved g)).get k).get4 ma ca mb cb
      = ∑ j : Fin 3, matOf (linPart g) k j *
          ∑ ca' ∈ range s.ncart, ∑ cb' ∈ range t.ncart,
            repMat (linPart g) s.cart ca ca' * repMat (linPart g) t.cart cb cb'
              * ((momentumBlock s t).get j).get4 ma ca' mb cb' := by
  rw [momentumBlock_eq_integral_E3 (s.moved g) (t.moved g) k ma ca mb cb hs ht (hfs.each_le hca),
    lift_tensor g univ (range s.ncart) (range t.ncart) _
      (fun j a b r => shellFnE s ma a r * fderiv ℝ (shellFnE t mb b) r (ei j))
      (matOf (linPart g) k)
      (fun a b => repMat (linPart g) s.cart ca a * repMat (linPart g) t.cart cb b)
      (fun r => by
        rw [shellFnE_moved g s hfs ma ca hca,
          fderiv_moved_ax g (range t.ncart) _ (fun b => shellFnE t mb b) _
            (shellFnE_moved g t hft mb cb hcb) (differentiable_shellFnE _ _ _)
            (fun _ => differentiable_shellFnE _ _ _) r k,
          sum_mul_tensor_sum])
      (fun j _ a _ b _ => integrable_shellFnE_mul_fderiv s t ma a mb b j hs ht)]
  refine Finset.sum_congr rfl fun j _ => congrArg _ (Finset.sum_congr rfl fun a ha =>
    Finset.sum_congr rfl fun b _ => ?_)
  rw [momentumBlock_eq_integral_E3 s t j ma a mb b hs ht (hfs.each_le (Finset.mem_range.mp ha))]

end Rigid

end GB

