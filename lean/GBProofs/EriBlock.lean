import GBProofs.PointChargeBlock
import Mathlib.Logic.Function.Iterate

/-!
# The electron-repulsion block is the contracted Rys form

Purely algebraic: any field of characteristic 0, an arbitrary Boys table.  `E4 AB CD E` closes a
two-index family `E a c` (here `Espec`, the specification of `[a 0|c 0]`) under the two horizontal
relations
`g(a, b+e_u, c, d) = g(a+e_u, b, c, d) + AB_u g(a, b, c, d)` and
`g(a, b, c, d+e_u) = g(a, b, c+e_u, d) + CD_u g(a, b, c, d)`
by iterating six pairwise commuting shift operators, so that both families hold at all indices.  The
whole code path of `eriGeneral` (vertical recursion, electron transfer, contraction, the horizontal
recursions `c → d` and `a → b`, selections, angular norms) computes the contracted form `eriRys` built
on `E4`; so do the closed form `eriSSSS` for four s shells and hence the dispatch `eriBlock`.  That
`eriRys` with the true Boys function is the Coulomb integral is analytic: `eriRys_eq_eriExact` in
`EriIntegral`.
-/
open Finset

namespace GB

/-! ## Step 1: closing a two-index family under the horizontal relations -/
section E4
variable {K : Type} [Field K]

/-- `a + e_u` (`u ≥ 2` is the z axis) -/
def bump : ℕ → Comp → Comp
  | 0, a => (a.1 + 1, a.2.1, a.2.2)
  | 1, a => (a.1, a.2.1 + 1, a.2.2)
  | _, a => (a.1, a.2.1, a.2.2 + 1)

lemma bump_comm (u v : ℕ) (a : Comp) : bump u (bump v a) = bump v (bump u a) := by
  rcases u with _ | _ | u <;> rcases v with _ | _ | v <;> rfl

def shiftA (u : ℕ) (k : K) (G : Comp → Comp → K) : Comp → Comp → K :=
  fun a c => G (bump u a) c + k * G a c

def shiftC (u : ℕ) (k : K) (G : Comp → Comp → K) : Comp → Comp → K :=
  fun a c => G a (bump u c) + k * G a c

lemma shiftA_comm (u v : ℕ) (k k' : K) : Function.Commute (shiftA u k) (shiftA v k') := by
  intro G; funext a c; simp only [shiftA, bump_comm u v]; ring

lemma shiftC_comm (u v : ℕ) (k k' : K) : Function.Commute (shiftC u k) (shiftC v k') := by
  intro G; funext a c; simp only [shiftC, bump_comm u v]; ring

lemma shiftA_shiftC_comm (u v : ℕ) (k k' : K) : Function.Commute (shiftA u k) (shiftC v k') := by
  intro G; funext a c; simp only [shiftA, shiftC]; ring

/-- The four-index family with the values `E a c` at `b = d = 0` that satisfies both families of
horizontal relations: one `shiftA u (AB u)` per unit of `b_u`, one `shiftC u (CD u)` per unit of `d_u`.
The order of the six iterates is a choice; the shifts commute. -/
def E4 (AB CD : ℕ → K) (E : Comp → Comp → K) (a b c d : Comp) : K :=
  ((shiftA 0 (AB 0))^[b.1] ((shiftA 1 (AB 1))^[b.2.1] ((shiftA 2 (AB 2))^[b.2.2]
    ((shiftC 0 (CD 0))^[d.1] ((shiftC 1 (CD 1))^[d.2.1] ((shiftC 2 (CD 2))^[d.2.2] E)))))) a c

variable (AB CD : ℕ → K) (E : Comp → Comp → K)

@[simp] theorem E4_zero (a c : Comp) : E4 AB CD E a (0,0,0) c (0,0,0) = E a c := rfl

/-- the additional shift moves to the front through the iterates it commutes with -/
theorem E4_horizAB (c d : Comp) : HorizRel AB (fun a b => E4 AB CD E a b c d) where
  x := fun ax ay az bx by' bz => by
    simp only [E4, Function.iterate_succ_apply']
    rfl
  y := fun ax ay az bx by' bz => by
    simp only [E4, Function.iterate_succ_apply', ((shiftA_comm _ _ _ _).iterate_left _).eq]
    rfl
  z := fun ax ay az bx by' bz => by
    simp only [E4, Function.iterate_succ_apply', ((shiftA_comm _ _ _ _).iterate_left _).eq]
    rfl

/-- as `E4_horizAB`; the additional shift on `c` also has to pass the three iterates of shifts on `a` -/
theorem E4_horizCD (a b : Comp) : HorizRel CD (fun c d => E4 AB CD E a b c d) where
  x := fun cx cy cz dx dy dz => by
    simp only [E4, Function.iterate_succ_apply', ((shiftA_shiftC_comm _ _ _ _).iterate_left _).eq]
    rfl
  y := fun cx cy cz dx dy dz => by
    simp only [E4, Function.iterate_succ_apply', ((shiftC_comm _ _ _ _).iterate_left _).eq,
      ((shiftA_shiftC_comm _ _ _ _).iterate_left _).eq]
    rfl
  z := fun cx cy cz dx dy dz => by
    simp only [E4, Function.iterate_succ_apply', ((shiftC_comm _ _ _ _).iterate_left _).eq,
      ((shiftA_shiftC_comm _ _ _ _).iterate_left _).eq]
    rfl
end E4

/-! ## Step 2: `eriGeneral` -/
section Spec
variable {K : Type} [Field K]

theorem HorizRel.sum' {ι : Type} (AB : ℕ → K) (s : Finset ι)
    (g : ι → ℕ × ℕ × ℕ → ℕ × ℕ × ℕ → K) (hg : ∀ i ∈ s, HorizRel AB (g i)) :
    HorizRel AB (fun a b => ∑ i ∈ s, g i a b) := by
  have h := HorizRel.sum AB s (fun _ => 1) g hg
  simpa only [one_mul] using h

/-- the code's contraction (one primitive index at a time, in the order `a, c, b, d`) as one sum over
the four primitive indices -/
theorem sum4_contract (A B C D : Finset ℕ) (f : ℕ → ℕ → ℕ → ℕ → K)
    (wa va wb vb wc vc wd vd : ℕ → K) :
    ∑ kd ∈ D, (∑ kb ∈ B, (∑ kc ∈ C, (∑ ka ∈ A, f ka kb kc kd * wa ka * va ka) * wc kc * vc kc)
        * wb kb * vb kb) * wd kd * vd kd
      = ∑ ka ∈ A, ∑ kb ∈ B, ∑ kc ∈ C, ∑ kd ∈ D,
          va ka * wa ka * (vb kb * wb kb) * (vc kc * wc kc) * (vd kd * wd kd) * f ka kb kc kd := by
  simp only [Finset.sum_mul]
  rw [Finset.sum_comm]
  refine (Finset.sum_congr rfl fun kb _ => ?_).trans Finset.sum_comm
  rw [Finset.sum_comm]
  refine (Finset.sum_congr rfl fun kc _ => ?_).trans Finset.sum_comm
  rw [Finset.sum_comm]
  refine Finset.sum_congr rfl fun ka _ => Finset.sum_congr rfl fun kd _ => ?_
  ring

variable (e sq : K → K) (pi : K)

/-- Rys form of one primitive quartet; `e`, `sq`, `pi` interpret `exp`, `sqrt`, `π` in `K`, and `Fb T m`
is the Boys function:
`2π^{5/2}/(pq√(p+q)) e^{-(αβ/p)|AB|²} e^{-(γδ/q)|CD|²} ·
   E4 (A-B) (C-D) (Espec (Fb (ρ|PQ|²)) p q (ρ/p) (ρ/q) (P-A) (Q-C) (P-Q) 0) a b c d`,
`p = α+β`, `q = γ+δ`, `ρ = pq/(p+q)`, `P = (αA+βB)/p`, `Q = (γC+δD)/q`. -/
noncomputable def eriQuartet (Fb : K → ℕ → K) (α β γ δ : K) (A B C D : ℕ → K)
    (a b c d : Comp) : K :=
  2 * (pi * pi * sq pi) / ((α + β) * (γ + δ) * sq ((α + β) + (γ + δ)))
    * e (-(α * β / (α + β) * ∑ i ∈ range 3, (A i - B i) * (A i - B i)))
    * e (-(γ * δ / (γ + δ) * ∑ i ∈ range 3, (C i - D i) * (C i - D i)))
    * E4 (fun i => A i - B i) (fun i => C i - D i)
        (Espec
          (Fb ((α + β) * (γ + δ) / ((α + β) + (γ + δ)) * ∑ i ∈ range 3,
            ((α * A i + β * B i) / (α + β) - (γ * C i + δ * D i) / (γ + δ))
              * ((α * A i + β * B i) / (α + β) - (γ * C i + δ * D i) / (γ + δ))))
          (α + β) (γ + δ)
          ((α + β) * (γ + δ) / ((α + β) + (γ + δ)) / (α + β))
          ((α + β) * (γ + δ) / ((α + β) + (γ + δ)) / (γ + δ))
          (fun i => (α * A i + β * B i) / (α + β) - A i)
          (fun i => (γ * C i + δ * D i) / (γ + δ) - C i)
          (fun i => (α * A i + β * B i) / (α + β) - (γ * C i + δ * D i) / (γ + δ)) 0)
        a b c d

noncomputable def eriPrim (Fb : K → ℕ → K) (sa sb sc sd : Shell K) (ka kb kc kd : ℕ)
    (a b c d : Comp) : K :=
  letI := fieldTransc e sq pi
  eriQuartet e sq pi Fb (sa.exp! ka) (sb.exp! kb) (sc.exp! kc) (sd.exp! kd)
    sa.ctr sb.ctr sc.ctr sd.ctr a b c d

/-- Carries only the radial norms `normRad`, as the code's contraction does: the angular norms depend on
the component and would break the horizontal relations; they are applied last, in `eriRys`. -/
noncomputable def eriContr (Fb : K → ℕ → K) (sa sb sc sd : Shell K) (ma mb mc md : ℕ)
    (a b c d : Comp) : K :=
  letI := fieldTransc e sq pi
  ∑ ka ∈ range sa.nprim, ∑ kb ∈ range sb.nprim, ∑ kc ∈ range sc.nprim, ∑ kd ∈ range sd.nprim,
    (sa.coef! ka ma * normRad (sa.exp! ka) sa.l * (sb.coef! kb mb * normRad (sb.exp! kb) sb.l)
      * (sc.coef! kc mc * normRad (sc.exp! kc) sc.l) * (sd.coef! kd md * normRad (sd.exp! kd) sd.l))
    * eriPrim e sq pi Fb sa sb sc sd ka kb kc kd a b c d

/-- the entry `[ma][ca][mb][cb][mc][cc][md][cd]` of `(ab|cd)`: `m·` number the segmented contractions of
a shell, `c·` its angular components -/
noncomputable def eriRys (Fb : K → ℕ → K) (sa sb sc sd : Shell K)
    (ma ca mb cb mc cc md cd : ℕ) : K :=
  letI := fieldTransc e sq pi
  eriContr e sq pi Fb sa sb sc sd ma mb mc md (sa.comp! ca) (sb.comp! cb) (sc.comp! cc)
      (sd.comp! cd)
    * normAng (sa.comp! ca) * normAng (sb.comp! cb) * normAng (sc.comp! cc) * normAng (sd.comp! cd)

theorem horizAB_eriQuartet (Fb : K → ℕ → K) (α β γ δ : K) (A B C D : ℕ → K) (c d : Comp) :
    HorizRel (fun i => A i - B i) (fun a b => eriQuartet e sq pi Fb α β γ δ A B C D a b c d) :=
  HorizRel.smul _ _ _ (E4_horizAB _ _ _ c d)

theorem horizCD_eriQuartet (Fb : K → ℕ → K) (α β γ δ : K) (A B C D : ℕ → K) (a b : Comp) :
    HorizRel (fun i => C i - D i) (fun c d => eriQuartet e sq pi Fb α β γ δ A B C D a b c d) :=
  HorizRel.smul _ _ _ (E4_horizCD _ _ _ a b)

theorem horizAB_eriContr (Fb : K → ℕ → K) (sa sb sc sd : Shell K) (ma mb mc md : ℕ) (c d : Comp) :
    HorizRel (fun i => sa.ctr i - sb.ctr i)
      (fun a b => eriContr e sq pi Fb sa sb sc sd ma mb mc md a b c d) := by
  unfold eriContr
  refine HorizRel.sum' _ _ _ fun ka _ => HorizRel.sum' _ _ _ fun kb _ =>
    HorizRel.sum' _ _ _ fun kc _ => HorizRel.sum' _ _ _ fun kd _ => HorizRel.smul _ _ _ ?_
  exact horizAB_eriQuartet e sq pi Fb _ _ _ _ _ _ _ _ c d

theorem horizCD_eriContr (Fb : K → ℕ → K) (sa sb sc sd : Shell K) (ma mb mc md : ℕ) (a b : Comp) :
    HorizRel (fun i => sc.ctr i - sd.ctr i)
      (fun c d => eriContr e sq pi Fb sa sb sc sd ma mb mc md a b c d) := by
  unfold eriContr
  refine HorizRel.sum' _ _ _ fun ka _ => HorizRel.sum' _ _ _ fun kb _ =>
    HorizRel.sum' _ _ _ fun kc _ => HorizRel.sum' _ _ _ fun kd _ => HorizRel.smul _ _ _ ?_
  exact horizCD_eriQuartet e sq pi Fb _ _ _ _ _ _ _ _ a b

theorem eriBase_eq (α β γ δ : K) (A B C D : ℕ → K) :
    letI := fieldTransc e sq pi
    eriBase α β γ δ A B C D
      = (2 * (pi * pi * sq pi) / ((α + β) * (γ + δ) * sq ((α + β) + (γ + δ)))
          * e (-(α * β / (α + β) * ∑ i ∈ range 3, (A i - B i) * (A i - B i)))
          * e (-(γ * δ / (γ + δ) * ∑ i ∈ range 3, (C i - D i) * (C i - D i))),
        (α + β) * (γ + δ) / ((α + β) + (γ + δ)) * ∑ i ∈ range 3,
            ((α * A i + β * B i) / (α + β) - (γ * C i + δ * D i) / (γ + δ))
              * ((α * A i + β * B i) / (α + β) - (γ * C i + δ * D i) / (γ + δ))) := by
  simp only [eriBase, sumN_eq_sum, num_nat, Nat.cast_ofNat]
  rfl

end Spec

section Quartet
variable {K : Type} [Field K] [CharZero K]

/-- `etransf_vert2_eq_Espec` with the left side spelled exactly as `simp only [eriGeneral, …]` leaves the
primitive-quartet table in `eriGeneral_eq_rys`, so that `rw` finds it there. -/
theorem eriQuartetTab_eq (Ftab : Tab K) (Fb' : ℕ → K) (α β γ δ : K) (A B C D : ℕ → K) (pref : K)
    (mMax lcd : ℕ) (hF : ∀ m, m < mMax → Ftab.get m = Fb' m)
    (hp : α + β ≠ 0) (hq : γ + δ ≠ 0) (hpq : (α + β) + (γ + δ) ≠ 0)
    (cz cy cx ax ay az : ℕ) (hm : ax + ay + az + cx + cy + cz < mMax) :
    ((etransf
        (fun i => (γ * C i + δ * D i) / (γ + δ) - C i
          + (α + β) / (γ + δ) * ((α * A i + β * B i) / (α + β) - A i))
        ((α + β) / (γ + δ)) (Num.nat 1 / (Num.nat 2 * (γ + δ))) mMax lcd
        (tab mMax fun ax => tab (mMax - ax) fun ay => tab (mMax - ax - ay) fun az =>
          (vert2 (fun i => (α * A i + β * B i) / (α + β) - A i)
            (fun i => (α + β) * (γ + δ) / ((α + β) + (γ + δ)) / (α + β)
              * ((α * A i + β * B i) / (α + β) - (γ * C i + δ * D i) / (γ + δ)))
            (Num.nat 1 / (Num.nat 2 * (α + β)))
            ((α + β) * (γ + δ) / ((α + β) + (γ + δ)) / (α + β)) mMax
            (fun m => pref * Ftab.get m)).get4 az ay ax 0)).get3 cz cy cx).get3 ax ay az
      = pref * Espec Fb' (α + β) (γ + δ)
          ((α + β) * (γ + δ) / ((α + β) + (γ + δ)) / (α + β))
          ((α + β) * (γ + δ) / ((α + β) + (γ + δ)) / (γ + δ))
          (fun i => (α * A i + β * B i) / (α + β) - A i)
          (fun i => (γ * C i + δ * D i) / (γ + δ) - C i)
          (fun i => (α * A i + β * B i) / (α + β) - (γ * C i + δ * D i) / (γ + δ)) 0
          (ax, ay, az) (cx, cy, cz) := by
  refine etransf_vert2_eq_Espec Fb' (α + β) (γ + δ) _ _ pref _ _
    (fun i => (α * A i + β * B i) / (α + β) - (γ * C i + δ * D i) / (γ + δ))
    hp hq hpq ?_ ?_ mMax lcd (fun m => pref * Ftab.get m) (fun m hm => by rw [hF m hm]) _ ?_
    cz cy cx ax ay az hm
  · field_simp
  · field_simp
  · intro ax ay az _
    simp only [get3_tab, get2_tab, tab_get]

end Quartet

section Main
variable {K : Type} [Field K] [CharZero K] (e sq : K → K) (pi : K)

/-- `eriGeneral` models `_compute_two_elec_integrals` with the final transposition of
`construct_array_contraction`.  Only the first `l_a+l_b+l_c+l_d+1` entries of the Boys table are read;
`p`, `q`, `p+q` must not vanish because the code divides by them; nothing is claimed for a listed
component of total degree `> l`. -/
theorem eriGeneral_eq_rys (boys : K → ℕ → Tab K) (Fb : K → ℕ → K) (sa sb sc sd : Shell K)
    (ma ca mb cb mc cc md cd : ℕ) :
    letI := fieldTransc e sq pi
    (∀ T m, m < sa.l + sb.l + sc.l + sd.l + 1 →
      (boys T (sa.l + sb.l + sc.l + sd.l + 1)).get m = Fb T m) →
    (∀ ka kb, ka < sa.nprim → kb < sb.nprim → sa.exp! ka + sb.exp! kb ≠ 0) →
    (∀ kc kd, kc < sc.nprim → kd < sd.nprim → sc.exp! kc + sd.exp! kd ≠ 0) →
    (∀ ka kb kc kd, ka < sa.nprim → kb < sb.nprim → kc < sc.nprim → kd < sd.nprim →
      (sa.exp! ka + sb.exp! kb) + (sc.exp! kc + sd.exp! kd) ≠ 0) →
    (sa.comp! ca).1 + (sa.comp! ca).2.1 + (sa.comp! ca).2.2 ≤ sa.l →
    (sb.comp! cb).1 + (sb.comp! cb).2.1 + (sb.comp! cb).2.2 ≤ sb.l →
    (sc.comp! cc).1 + (sc.comp! cc).2.1 + (sc.comp! cc).2.2 ≤ sc.l →
    (sd.comp! cd).1 + (sd.comp! cd).2.1 + (sd.comp! cd).2.2 ≤ sd.l →
    (eriGeneral boys sa sb sc sd).get8 ma ca mb cb mc cc md cd
      = eriRys e sq pi Fb sa sb sc sd ma ca mb cb mc cc md cd := by
  let _ := fieldTransc e sq pi
  intro hF hp hq hpq ha hb hc hd
  simp only [eriGeneral, Tab.get8, tab4_get, tab2_get, tab_get, get3_tab, get2_tab]
  rw [horiz3_get_guard (horizAB_eriContr e sq pi Fb sa sb sc sd ma mb mc md
    (sc.comp! cc) (sd.comp! cd))]
  · rfl
  · intro ax ay az hlt
    rw [horiz3_get_guard (horizCD_eriContr e sq pi Fb sa sb sc sd ma mb mc md (ax, ay, az) (0,0,0))]
    · intro cx cy cz hlt2
      simp only [sumN_eq_sum]
      rw [sum4_contract]
      unfold eriContr
      refine Finset.sum_congr rfl fun ka hka => Finset.sum_congr rfl fun kb hkb =>
        Finset.sum_congr rfl fun kc hkc => Finset.sum_congr rfl fun kd hkd => ?_
      have hka' := Finset.mem_range.mp hka
      have hkb' := Finset.mem_range.mp hkb
      have hkc' := Finset.mem_range.mp hkc
      have hkd' := Finset.mem_range.mp hkd
      rw [eriQuartetTab_eq (Fb' := Fb _) (hF := fun m hm => hF _ m hm) (hp := hp ka kb hka' hkb')
        (hq := hq kc kd hkc' hkd') (hpq := hpq ka kb kc kd hka' hkb' hkc' hkd') (hm := by omega)]
      simp only [eriPrim, eriQuartet, E4_zero, eriBase_eq e sq pi]
    · omega
  · omega

end Main

/-! ## Step 3: the all-s closed form and the dispatch -/
section SSSS
variable {K : Type} [Field K] (e sq : K → K) (pi : K)

lemma comp_eq_zero_of_le {x : Comp} {l : ℕ} (h : x.1 + x.2.1 + x.2.2 ≤ l) (hl : l = 0) :
    x = (0,0,0) :=
  Prod.ext (by simp only; omega) (Prod.ext (by simp only; omega) (by simp only; omega))

/-- The closed form `_compute_two_elec_integrals_angmom_zero` carries no angular norm, while
`normAng (0,0,0) = 1/sqrt 1`; hence the hypothesis `sq 1 = 1` on the interpretation of `sqrt`. -/
theorem eriSSSS_eq_rys (boys : K → ℕ → Tab K) (Fb : K → ℕ → K) (sa sb sc sd : Shell K)
    (ma ca mb cb mc cc md cd : ℕ) :
    letI := fieldTransc e sq pi
    sq 1 = 1 → sa.l = 0 → sb.l = 0 → sc.l = 0 → sd.l = 0 →
    (∀ T, (boys T 1).get 0 = Fb T 0) →
    sa.comp! ca = (0,0,0) → sb.comp! cb = (0,0,0) → sc.comp! cc = (0,0,0) →
    sd.comp! cd = (0,0,0) →
    (eriSSSS boys sa sb sc sd).get4 ma mb mc md
      = eriRys e sq pi Fb sa sb sc sd ma ca mb cb mc cc md cd := by
  let _ := fieldTransc e sq pi
  intro hsq la lb lc ld hF hca hcb hcc hcd
  have hN : normAng (K := K) (0,0,0) = 1 := by
    simp [normAng, dfactOdd]
    exact hsq
  simp only [eriSSSS, tab4_get, tab_get, sumN_eq_sum]
  unfold eriRys eriContr
  rw [hca, hcb, hcc, hcd, la, lb, lc, ld, hN]
  simp only [mul_one]
  refine Finset.sum_congr rfl fun ka _ => Finset.sum_congr rfl fun kb _ =>
    Finset.sum_congr rfl fun kc _ => Finset.sum_congr rfl fun kd _ => ?_
  simp only [eriPrim, eriQuartet, E4_zero, eriBase_eq e sq pi, Espec_c0, Vspec2_zero, hF]
  ring

end SSSS

section Block
variable {K : Type} [Field K] [CharZero K] (e sq : K → K) (pi : K)

/-- C04, algebraic half: the model `eriBlock` of `ElectronRepulsionIntegral.construct_array_contraction`
(which dispatches to the closed form when all four shells are s) computes `eriRys`, over any field of
characteristic 0 and for any `Fb` with which the Boys table agrees on the entries read. -/
theorem eriBlock_eq_rys (boys : K → ℕ → Tab K) (Fb : K → ℕ → K) (sa sb sc sd : Shell K)
    (ma ca mb cb mc cc md cd : ℕ) :
    letI := fieldTransc e sq pi
    sq 1 = 1 →
    (∀ T m, m < sa.l + sb.l + sc.l + sd.l + 1 →
      (boys T (sa.l + sb.l + sc.l + sd.l + 1)).get m = Fb T m) →
    (∀ ka kb, ka < sa.nprim → kb < sb.nprim → sa.exp! ka + sb.exp! kb ≠ 0) →
    (∀ kc kd, kc < sc.nprim → kd < sd.nprim → sc.exp! kc + sd.exp! kd ≠ 0) →
    (∀ ka kb kc kd, ka < sa.nprim → kb < sb.nprim → kc < sc.nprim → kd < sd.nprim →
      (sa.exp! ka + sb.exp! kb) + (sc.exp! kc + sd.exp! kd) ≠ 0) →
    (sa.comp! ca).1 + (sa.comp! ca).2.1 + (sa.comp! ca).2.2 ≤ sa.l →
    (sb.comp! cb).1 + (sb.comp! cb).2.1 + (sb.comp! cb).2.2 ≤ sb.l →
    (sc.comp! cc).1 + (sc.comp! cc).2.1 + (sc.comp! cc).2.2 ≤ sc.l →
    (sd.comp! cd).1 + (sd.comp! cd).2.1 + (sd.comp! cd).2.2 ≤ sd.l →
    (eriBlock boys sa sb sc sd).get8 ma ca mb cb mc cc md cd
      = eriRys e sq pi Fb sa sb sc sd ma ca mb cb mc cc md cd := by
  intro hsq hF hp hq hpq ha hb hc hd
  unfold eriBlock
  split
  · rename_i h
    simp only [Bool.and_eq_true, beq_iff_eq] at h
    obtain ⟨⟨⟨la, lb⟩, lc⟩, ld⟩ := h
    simp only [Tab.get8, tab4_get]
    refine eriSSSS_eq_rys e sq pi boys Fb sa sb sc sd ma ca mb cb mc cc md cd hsq la lb lc ld ?_
      (comp_eq_zero_of_le ha la) (comp_eq_zero_of_le hb lb) (comp_eq_zero_of_le hc lc)
      (comp_eq_zero_of_le hd ld)
    intro T
    have := hF T 0 (by omega)
    rwa [la, lb, lc, ld] at this
  · exact eriGeneral_eq_rys e sq pi boys Fb sa sb sc sd ma ca mb cb mc cc md cd hF hp hq hpq
      ha hb hc hd

/-- no hypothesis on the Boys table: whatever numbers it holds, the block is the Rys form of those -/
theorem eriBlock_eq_rys_self (boys : K → ℕ → Tab K) (sa sb sc sd : Shell K)
    (ma ca mb cb mc cc md cd : ℕ) :
    letI := fieldTransc e sq pi
    sq 1 = 1 →
    (∀ ka kb, ka < sa.nprim → kb < sb.nprim → sa.exp! ka + sb.exp! kb ≠ 0) →
    (∀ kc kd, kc < sc.nprim → kd < sd.nprim → sc.exp! kc + sd.exp! kd ≠ 0) →
    (∀ ka kb kc kd, ka < sa.nprim → kb < sb.nprim → kc < sc.nprim → kd < sd.nprim →
      (sa.exp! ka + sb.exp! kb) + (sc.exp! kc + sd.exp! kd) ≠ 0) →
    (sa.comp! ca).1 + (sa.comp! ca).2.1 + (sa.comp! ca).2.2 ≤ sa.l →
    (sb.comp! cb).1 + (sb.comp! cb).2.1 + (sb.comp! cb).2.2 ≤ sb.l →
    (sc.comp! cc).1 + (sc.comp! cc).2.1 + (sc.comp! cc).2.2 ≤ sc.l →
    (sd.comp! cd).1 + (sd.comp! cd).2.1 + (sd.comp! cd).2.2 ≤ sd.l →
    (eriBlock boys sa sb sc sd).get8 ma ca mb cb mc cc md cd
      = eriRys e sq pi (fun T m => (boys T (sa.l + sb.l + sc.l + sd.l + 1)).get m)
          sa sb sc sd ma ca mb cb mc cc md cd :=
  fun hsq => eriBlock_eq_rys e sq pi boys _ sa sb sc sd ma ca mb cb mc cc md cd hsq
    (fun _ _ _ => rfl)

end Block

end GB

