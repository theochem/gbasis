import GBProofs.Basic
import Mathlib.Tactic.Ring
import Mathlib.Tactic.Linarith
import Mathlib.Data.List.Basic
import Mathlib.Data.List.Perm.Basic
import Mathlib.Data.List.Perm.Subperm
import Mathlib.Data.List.Nodup
import Mathlib.Algebra.BigOperators.Group.List.Basic
import Mathlib.Algebra.BigOperators.Group.Finset.Basic
import Mathlib.Algebra.BigOperators.Ring.Finset

/-!
# Soundness of the symbolic axis calculus (C09) for all shapes

`GBModel/Arr.lean` gives the NumPy instruction set of the assembly code (`ArrOp`), its index-wise
meaning on concrete arrays (`ArrOp.apply`, `runOps`) and a symbolic execution on shapes (`symStep`,
`symEval`) that `pipelineOk` / `lincombOk` decide for every program extracted from `base_*.py`.
Here the symbolic execution is shown sound for arrays of every shape (`symEval_sound`): a symbolic
array denotes a value under an assignment of its labels (`den`), a concrete array may represent it
(`Repr`), and every step preserves that.  Independent factors may be reordered (`den_perm`); this
gives the value a checked pipeline computes (`pipelineOk_sound`, as nested sums `c09_general`) and
the same for `construct_array_lincomb` (`lincombOk_sound`).
-/

namespace GB

/-! ## flat indices on fused axes -/

def axSize (env : Label → ℕ) (ax : List Label) : ℕ := (ax.map env).prod

/-- row-major flat index of the assignment `σ` on the fused axis `ax` -/
def flatIdx (env : Label → ℕ) (σ : Label → ℕ) : List Label → ℕ
  | [] => 0
  | l :: ls => σ l * axSize env ls + flatIdx env σ ls

@[simp] theorem axSize_nil (env : Label → ℕ) : axSize env [] = 1 := by simp [axSize]
@[simp] theorem axSize_cons (env : Label → ℕ) (l ls) : axSize env (l :: ls) = env l * axSize env ls := by
  simp [axSize]
theorem axSize_append (env : Label → ℕ) (a b) : axSize env (a ++ b) = axSize env a * axSize env b := by
  simp [axSize]
@[simp] theorem flatIdx_nil (env σ) : flatIdx env σ [] = 0 := rfl
@[simp] theorem flatIdx_cons (env σ l ls) :
    flatIdx env σ (l :: ls) = σ l * axSize env ls + flatIdx env σ ls := rfl
theorem axSize_single (env : Label → ℕ) (l) : axSize env [l] = env l := by simp
theorem flatIdx_single (env σ l) : flatIdx env σ [l] = σ l := by simp

theorem flatIdx_lt (env σ) (ax : List Label) (h : ∀ l ∈ ax, σ l < env l) :
    flatIdx env σ ax < axSize env ax := by
  induction ax with
  | nil => simp
  | cons l ls ih =>
    have h1 : σ l < env l := h l (by simp)
    have h2 := ih (fun l' hl' => h l' (by simp [hl']))
    simp only [flatIdx_cons, axSize_cons]
    calc σ l * axSize env ls + flatIdx env σ ls
        < σ l * axSize env ls + axSize env ls := by omega
      _ = (σ l + 1) * axSize env ls := by ring
      _ ≤ env l * axSize env ls := Nat.mul_le_mul_right _ h1

theorem flatIdx_append (env σ) (a b : List Label) :
    flatIdx env σ (a ++ b) = flatIdx env σ a * axSize env b + flatIdx env σ b := by
  induction a with
  | nil => simp
  | cons l ls ih =>
    simp only [List.cons_append, flatIdx_cons, ih, axSize_append]
    ring

theorem flatIdx_append_div (env σ) (a b : List Label) (hb : ∀ l ∈ b, σ l < env l) :
    flatIdx env σ (a ++ b) / axSize env b = flatIdx env σ a ∧
    flatIdx env σ (a ++ b) % axSize env b = flatIdx env σ b := by
  have hlt := flatIdx_lt env σ b hb
  rw [flatIdx_append]
  constructor
  · rw [Nat.add_comm, Nat.add_mul_div_right _ _ (by omega), Nat.div_eq_of_lt hlt]; simp
  · rw [Nat.add_comm, Nat.add_mul_mod_self_right, Nat.mod_eq_of_lt hlt]

theorem flatIdx_congr (env) {σ τ : Label → ℕ} (ax : List Label) (h : ∀ l ∈ ax, σ l = τ l) :
    flatIdx env σ ax = flatIdx env τ ax := by
  induction ax with
  | nil => rfl
  | cons l ls ih =>
    simp only [flatIdx_cons]
    rw [h l (by simp), ih (fun l' hl' => h l' (by simp [hl']))]

/-! ## list lemmas for `swapL` / `insertAt` -/

theorem swapL_of_lt {β : Type} (l : List β) {i j : ℕ} (hi : i < l.length) (hj : j < l.length) :
    swapL l i j = (l.set i l[j]).set j l[i] := by
  simp [swapL, List.getElem?_eq_getElem hi, List.getElem?_eq_getElem hj]

theorem swapL_length {β : Type} (l : List β) (i j : ℕ) : (swapL l i j).length = l.length := by
  unfold swapL
  split <;> simp

theorem swapL_map {β γ : Type} (f : β → γ) (l : List β) (i j : ℕ) :
    swapL (l.map f) i j = (swapL l i j).map f := by
  simp only [swapL, List.getElem?_map]
  cases l[i]? <;> cases l[j]? <;> simp only [Option.map_none, Option.map_some, List.map_set]

theorem swapL_swapL {β : Type} (l : List β) {i j : ℕ} (hi : i < l.length) (hj : j < l.length) :
    swapL (swapL l i j) i j = l := by
  rcases eq_or_ne i j with rfl | hne
  · simp only [swapL_of_lt, hi, List.set_getElem_self]
  · rw [swapL_of_lt _ (by rw [swapL_length]; exact hi) (by rw [swapL_length]; exact hj)]
    simp only [swapL_of_lt l hi hj, List.getElem_set_self, List.getElem_set_ne hne.symm,
      List.set_comm _ _ hne.symm, List.set_set, List.set_getElem_self]

theorem swapL_append {β : Type} (l e : List β) {i j : ℕ} (hi : i < l.length) (hj : j < l.length) :
    swapL (l ++ e) i j = swapL l i j ++ e := by
  simp only [swapL, List.getElem?_append_left hi, List.getElem?_append_left hj,
    List.getElem?_eq_getElem hi, List.getElem?_eq_getElem hj, List.set_append_left _ _ hi,
    List.set_append_left _ _ (List.length_set ▸ hj)]

theorem set_getElem_perm_cons {β : Type} (l : List β) (x : β) {j : ℕ} (hj : j < l.length) :
    (l[j] :: l.set j x).Perm (x :: l) := by
  have h1 := List.set_perm_cons_eraseIdx hj x
  have h2 := List.getElem_cons_eraseIdx_perm hj
  exact ((h1.cons l[j]).trans (List.Perm.swap _ _ _)).trans (h2.cons x)

theorem swapL_perm {β : Type} (l : List β) (i j : ℕ) : (swapL l i j).Perm l := by
  unfold swapL
  split
  · next a b ei ej =>
    obtain ⟨hi, rfl⟩ := List.getElem?_eq_some_iff.mp ei
    obtain ⟨hj, rfl⟩ := List.getElem?_eq_some_iff.mp ej
    clear ei ej
    induction l generalizing i j with
    | nil => cases hi
    | cons x l ih =>
      rcases i with _ | i <;> rcases j with _ | j
      · exact .refl _
      · exact set_getElem_perm_cons l x (Nat.lt_of_succ_lt_succ hj)
      · exact set_getElem_perm_cons l x (Nat.lt_of_succ_lt_succ hi)
      · exact (ih i j (Nat.lt_of_succ_lt_succ hi) (Nat.lt_of_succ_lt_succ hj)).cons x
  · rfl

theorem getElem?_split {β : Type} {l : List β} {k : ℕ} {x : β} (h : l[k]? = some x) :
    ∃ l1 l2, l = l1 ++ x :: l2 ∧ l1.length = k := by
  obtain ⟨hk, hx⟩ := List.getElem?_eq_some_iff.mp h
  refine ⟨l.take k, l.drop (k + 1), ?_, by simp [Nat.le_of_lt hk]⟩
  rw [← hx, List.getElem_cons_drop, List.take_append_drop]

theorem insertAt_append {β : Type} (l1 l2 : List β) (c : β) {k : ℕ} (hk : l1.length = k) :
    insertAt (l1 ++ l2) k c = l1 ++ c :: l2 := by
  subst hk
  simp only [insertAt, List.take_left', List.drop_left']

theorem eraseIdx_append_cons {β : Type} (l1 l2 : List β) (x : β) {k : ℕ} (hk : l1.length = k) :
    (l1 ++ x :: l2).eraseIdx k = l1 ++ l2 := by
  subst hk
  rw [List.eraseIdx_append_of_length_le (Nat.le_refl _)]
  simp

theorem flatten_middle {β : Type} (l1 l2 : List (List β)) (a : β) :
    (l1 ++ [a] :: l2).flatten.Perm (a :: (l1 ++ l2).flatten) := by
  simp only [List.flatten_append, List.flatten_cons, List.singleton_append]
  exact List.perm_middle

/-! ## the symbolic step as a relation -/

/-- the graph of `symStep.go`: the first `n` pairs of axes are fused -/
inductive Fuse : ℕ → List (List Label) → List (List Label) → Prop
  | zero (as : List (List Label)) : Fuse 0 as as
  | succ {n : ℕ} {a0 a1 : List Label} {as r : List (List Label)} :
      Fuse n as r → Fuse (n + 1) (a0 :: a1 :: as) ((a0 ++ a1) :: r)

theorem go_eq_some_iff {n : ℕ} {as r : List (List Label)} :
    symStep.go n as = some r ↔ Fuse n as r := by
  constructor
  · intro h
    fun_induction symStep.go n as generalizing r with
    | case1 as => exact Option.some.inj h ▸ .zero as
    | case2 n a0 a1 as ih =>
      obtain ⟨r', hr', rfl⟩ := Option.map_eq_some_iff.mp h
      exact .succ (ih hr')
    | case3 => cases h
  · intro h
    induction h with
    | zero => rfl
    | succ _ ih => simp only [symStep.go, ih, Option.map_some]

theorem Fuse.flatten {n : ℕ} {as r : List (List Label)} (h : Fuse n as r) :
    r.flatten = as.flatten := by
  induction h with
  | zero => rfl
  | succ _ ih => simp only [List.flatten_cons, ih, List.append_assoc]

theorem Fuse.frame (e : List (List Label)) {n : ℕ} {as r : List (List Label)} (h : Fuse n as r) :
    Fuse n (as ++ e) (r ++ e) := by
  induction h with
  | zero => exact .zero _
  | succ _ ih => exact .succ ih

/-- the graph of `symStep`, one constructor per way a step succeeds -/
inductive SymStep : ArrOp → Sym → Sym → Prop
  | swap {i j : ℕ} {axes : List (List Label)} {fs : List Factor} :
      i < axes.length → j < axes.length → SymStep (.swap i j) ⟨axes, fs⟩ ⟨swapL axes i j, fs⟩
  | merge0 {a0 a1 : List Label} {rest : List (List Label)} {fs : List Factor} :
      SymStep .merge0 ⟨a0 :: a1 :: rest, fs⟩ ⟨(a0 ++ a1) :: rest, fs⟩
  | tdot {t slot : ℕ} {l1 l2 : List (List Label)} {fs : List Factor} :
      SymStep (.tdot t l1.length) ⟨l1 ++ [.cart slot] :: l2, fs⟩
        ⟨[.sph slot] :: (l1 ++ l2), fs ++ [.trans t (.sph slot) (.cart slot)]⟩
  | scale {n pos : ℕ} {m c : Label} {axes : List (List Label)} {fs : List Factor} :
      axes[pos]? = some [m] → axes[pos + 1]? = some [c] →
      SymStep (.scale n pos) ⟨axes, fs⟩ ⟨axes, fs ++ [.norm n m c]⟩
  | fuse {np : ℕ} {axes ax : List (List Label)} {fs : List Factor} :
      Fuse np axes ax → SymStep (.fusePairs np) ⟨axes, fs⟩ ⟨ax, fs⟩

theorem symStep_iff {op : ArrOp} {S S' : Sym} : symStep op S = some S' ↔ SymStep op S S' := by
  obtain ⟨axes, fs⟩ := S
  constructor
  · intro h
    cases op with
    | swap i j =>
      simp only [symStep] at h
      split_ifs at h with hij
      cases h
      exact .swap hij.1 hij.2
    | merge0 =>
      simp only [symStep] at h
      split at h <;> cases h
      exact .merge0
    | tdot t k =>
      simp only [symStep] at h
      split at h <;> cases h
      rename_i slot heq
      obtain ⟨l1, l2, rfl, rfl⟩ := getElem?_split heq
      rw [eraseIdx_append_cons _ _ _ rfl]
      exact .tdot
    | scale n pos =>
      simp only [symStep] at h
      split at h <;> cases h
      rename_i m c hm hc
      exact .scale hm hc
    | fusePairs np =>
      simp only [symStep, Option.map_eq_some_iff, go_eq_some_iff] at h
      obtain ⟨ax, hgo, rfl⟩ := h
      exact .fuse hgo
  · intro h
    cases h with
    | swap hi hj => simp only [symStep, hi, hj, and_self, if_true]
    | merge0 => rfl
    | tdot =>
      simp only [symStep, List.getElem?_append_right (Nat.le_refl _), Nat.sub_self,
        List.getElem?_cons_zero, eraseIdx_append_cons _ _ _ rfl]
    | scale hm hc => simp only [symStep, hm, hc]
    | fuse h => simp only [symStep, go_eq_some_iff.mpr h, Option.map_some]

theorem symEval_cons_eq_some {op : ArrOp} {prog : List ArrOp} {S S' : Sym} :
    symEval (op :: prog) S = some S' ↔ ∃ S1, SymStep op S S1 ∧ symEval prog S1 = some S' := by
  simp only [symEval, List.foldlM_cons, Option.bind_eq_bind, Option.bind_eq_some_iff, symStep_iff]

theorem SymStep.factors {op : ArrOp} {S S' : Sym} (h : SymStep op S S') :
    S.factors ⊆ S'.factors := by
  cases h with
  | swap _ _ | merge0 | fuse _ => exact List.Subset.refl _
  | tdot | scale _ _ => exact List.subset_append_left _ _

theorem symEval_factors (prog : List ArrOp) {S S' : Sym} (hs : symEval prog S = some S') :
    S.factors ⊆ S'.factors := by
  induction prog generalizing S with
  | nil => exact Option.some.inj hs ▸ List.Subset.refl _
  | cons op prog ih =>
    obtain ⟨S1, h1, h2⟩ := symEval_cons_eq_some.mp hs
    exact List.Subset.trans h1.factors (ih h2)

/-! ## denotation of symbolic arrays -/

section Sound
variable {K : Type} [Field K]
variable (env : Label → ℕ) (mats norms : ℕ → Arr K) (blk : Arr K) (start : List (List Label))

/-- denotation of a factor list, outermost (= applied last) factor first.  A `trans` factor binds its
`old` label (summed over `range (env old)`), a `norm` factor reads the current assignment. -/
def den : List Factor → (Label → ℕ) → K
  | [], σ => blk.get (start.map (flatIdx env σ))
  | Factor.trans t new old :: fs, σ =>
      ∑ c ∈ Finset.range (env old), (mats t).get [σ new, c] * den fs (Function.update σ old c)
  | Factor.norm n m c :: fs, σ => den fs σ * (norms n).get [σ m, σ c]

/-- the value denoted by `S` under the assignment `σ` of its free labels (`S.factors` is in order of
application, so the last one is outermost) -/
def denote (S : Sym) (σ : Label → ℕ) : K := den env mats norms blk start S.factors.reverse σ

def ix (axes : List (List Label)) (σ : Label → ℕ) : List ℕ := axes.map (flatIdx env σ)

structure Repr (S : Sym) (a : Arr K) : Prop where
  dims : a.dims = S.axes.map (axSize env)
  get : ∀ σ : Label → ℕ, (∀ l ∈ S.axes.flatten, σ l < env l) →
    a.get (ix env S.axes σ) = denote env mats norms blk start S σ

/-- well-formed symbolic states: atomic labels pairwise distinct, and the spherical label of a slot
is not present together with its Cartesian label (so `tdot` creates a fresh label) -/
structure WF (S : Sym) : Prop where
  nodup : S.axes.flatten.Nodup
  fresh : ∀ s, Label.sph s ∈ S.axes.flatten → Label.cart s ∉ S.axes.flatten

/-- the matrices have the shapes the symbolic factors attribute to them -/
def MatsOk (fs : List Factor) : Prop :=
  ∀ t new old, Factor.trans t new old ∈ fs → (mats t).dims = [env new, env old]

variable {env mats norms blk start}

theorem repr_swap {S : Sym} {a : Arr K} (i j : ℕ) (h : Repr env mats norms blk start S a)
    (hi : i < S.axes.length) (hj : j < S.axes.length) :
    Repr env mats norms blk start { S with axes := swapL S.axes i j }
      ((ArrOp.swap i j).apply mats norms a) := by
  constructor
  · simp only [ArrOp.apply, h.dims, swapL_map]
  · intro σ hσ
    simp only [ArrOp.apply, ix, swapL_map, swapL_swapL _ hi hj]
    exact h.get σ (fun l hl => hσ l ((swapL_perm S.axes i j).flatten.mem_iff.mpr hl))

theorem WF.of_perm {S S' : Sym} (h : WF S) (hp : S'.axes.flatten.Perm S.axes.flatten) : WF S' :=
  ⟨hp.nodup_iff.mpr h.nodup, fun s hs hc => h.fresh s (hp.mem_iff.mp hs) (hp.mem_iff.mp hc)⟩

theorem repr_scale {S : Sym} {a : Arr K} (n pos : ℕ) (m c : Label)
    (h : Repr env mats norms blk start S a)
    (hm : S.axes[pos]? = some [m]) (hc : S.axes[pos + 1]? = some [c]) :
    Repr env mats norms blk start { S with factors := S.factors ++ [Factor.norm n m c] }
      ((ArrOp.scale n pos).apply mats norms a) := by
  constructor
  · simp only [ArrOp.apply, h.dims]
  · intro σ hσ
    simp only [ArrOp.apply, denote, List.reverse_append, List.reverse_cons, List.reverse_nil,
      List.nil_append, List.singleton_append, den, h.get σ hσ]
    simp only [ix, List.getD_eq_getElem?_getD, List.getElem?_map, hm, hc, Option.map_some,
      Option.getD_some, flatIdx_single]

theorem ix_update {axes : List (List Label)} {l : Label} (h : l ∉ axes.flatten) (σ : Label → ℕ)
    (c : ℕ) : ix env axes (Function.update σ l c) = ix env axes σ :=
  List.map_congr_left fun ax hax => flatIdx_congr env ax fun l' hl' =>
    Function.update_of_ne (fun e : l' = l => h (List.mem_flatten.mpr ⟨ax, hax, e ▸ hl'⟩)) c σ

theorem repr_tdot {l1 l2 : List (List Label)} {fs : List Factor} {a : Arr K} (t slot : ℕ)
    (h : Repr env mats norms blk start ⟨l1 ++ [Label.cart slot] :: l2, fs⟩ a)
    (hwf : WF ⟨l1 ++ [Label.cart slot] :: l2, fs⟩)
    (hT : (mats t).dims = [env (Label.sph slot), env (Label.cart slot)]) :
    Repr env mats norms blk start
      ⟨[Label.sph slot] :: (l1 ++ l2), fs ++ [Factor.trans t (Label.sph slot) (Label.cart slot)]⟩
      ((ArrOp.tdot t l1.length).apply mats norms a) := by
  obtain ⟨hd, hg⟩ := h
  have hp := flatten_middle l1 l2 (Label.cart slot)
  have hc : Label.cart slot ∉ (l1 ++ l2).flatten := (List.nodup_cons.mp (hp.nodup_iff.mp hwf.nodup)).1
  simp only [List.map_append, List.map_cons, axSize_single] at hd
  constructor
  · simp only [ArrOp.apply, hd, hT, List.headD_cons, List.map_append, List.map_cons, axSize_single,
      eraseIdx_append_cons _ _ _ (List.length_map _)]
  · intro σ hσ
    simp only [ArrOp.apply, ix, List.map_cons, denote, List.reverse_append, List.reverse_cons,
      List.reverse_nil, List.nil_append, List.singleton_append, den, flatIdx_single, hd,
      List.getD_eq_getElem?_getD, List.getElem?_append_right (Nat.le_of_eq (List.length_map _)),
      List.length_map, Nat.sub_self, List.getElem?_cons_zero, Option.getD_some, sumN_eq_sum]
    refine Finset.sum_congr rfl fun c hc' => congrArg _ ?_
    have hins : insertAt ((l1 ++ l2).map (flatIdx env σ)) l1.length c
        = ix env (l1 ++ [Label.cart slot] :: l2) (Function.update σ (Label.cart slot) c) := by
      rw [← ix, ← ix_update hc σ c]
      simp only [ix, List.map_append, List.map_cons, flatIdx_single, Function.update_self,
        insertAt_append _ _ _ (List.length_map _)]
    rw [hins]
    refine hg _ fun l hl => ?_
    obtain rfl | hl := List.mem_cons.mp (hp.mem_iff.mp hl)
    · rw [Function.update_self]
      exact Finset.mem_range.mp hc'
    · rw [Function.update_of_ne fun e : l = Label.cart slot => hc (e ▸ hl)]
      exact hσ l (List.mem_cons_of_mem _ hl)

theorem wf_tdot {l1 l2 : List (List Label)} {fs fs' : List Factor} (slot : ℕ)
    (hwf : WF ⟨l1 ++ [Label.cart slot] :: l2, fs⟩) :
    WF ⟨[Label.sph slot] :: (l1 ++ l2), fs'⟩ := by
  have hp := flatten_middle l1 l2 (Label.cart slot)
  have old {l : Label} (h : l ∈ (l1 ++ l2).flatten) := hp.mem_iff.mpr (List.mem_cons_of_mem _ h)
  obtain ⟨hc, hrest⟩ := List.nodup_cons.mp (hp.nodup_iff.mp hwf.nodup)
  refine ⟨List.nodup_cons.mpr ⟨fun hs => hwf.fresh slot (old hs) (hp.mem_iff.mpr List.mem_cons_self),
    hrest⟩, fun s hs hcs => ?_⟩
  have hcs := (List.mem_cons.mp hcs).resolve_left nofun
  obtain e | hs := List.mem_cons.mp hs
  · exact hc (Label.sph.inj e ▸ hcs)
  · exact hwf.fresh s (old hs) (old hcs)

theorem Fuse.dims {n : ℕ} {as r : List (List Label)} (h : Fuse n as r) :
    ArrOp.apply.fuseDims n (as.map (axSize env)) = r.map (axSize env) := by
  induction h with
  | zero => rfl
  | succ _ ih => simp only [List.map_cons, ArrOp.apply.fuseDims, ih, axSize_append]

theorem Fuse.split (σ : Label → ℕ) {n : ℕ} {as r : List (List Label)} (h : Fuse n as r)
    (hσ : ∀ l ∈ as.flatten, σ l < env l) :
    ArrOp.apply.split n (as.map (axSize env)) (r.map (flatIdx env σ)) = as.map (flatIdx env σ) := by
  induction h with
  | zero => rfl
  | @succ n a0 a1 as r _ ih =>
    simp only [List.flatten_cons, List.mem_append] at hσ
    obtain ⟨d1, d2⟩ := flatIdx_append_div env σ a0 a1 fun l hl => hσ l (.inr (.inl hl))
    simp only [List.map_cons, ArrOp.apply.split, d1, d2, ih fun l hl => hσ l (.inr (.inr hl))]

theorem repr_fuse {S : Sym} {a : Arr K} {np : ℕ} {ax : List (List Label)}
    (h : Repr env mats norms blk start S a) (hf : Fuse np S.axes ax) :
    Repr env mats norms blk start { S with axes := ax } ((ArrOp.fusePairs np).apply mats norms a) := by
  constructor
  · simp only [ArrOp.apply, h.dims, hf.dims]
  · intro σ hσ
    simp only [hf.flatten] at hσ
    simp only [ArrOp.apply, ix, h.dims, hf.split σ hσ]
    exact h.get σ hσ

/-- `np.concatenate(·, axis=0)` is the reshape that fuses one pair -/
theorem apply_merge0 {a : Arr K} {d0 d1 : ℕ} {ds : List ℕ} (h : a.dims = d0 :: d1 :: ds) :
    ArrOp.merge0.apply mats norms a = (ArrOp.fusePairs 1).apply mats norms a := by
  simp only [ArrOp.apply, h, ArrOp.apply.fuseDims, Arr.mk.injEq, true_and]
  funext ix
  cases ix <;> rfl

theorem repr_merge0 {a0 a1 : List Label} {rest : List (List Label)} {fs : List Factor} {a : Arr K}
    (h : Repr env mats norms blk start ⟨a0 :: a1 :: rest, fs⟩ a) :
    Repr env mats norms blk start ⟨(a0 ++ a1) :: rest, fs⟩ (ArrOp.merge0.apply mats norms a) :=
  apply_merge0 h.dims ▸ repr_fuse h (.succ (.zero rest))

/-! ## one step and whole programs -/

theorem symStep_sound {op : ArrOp} {S S' : Sym} {a : Arr K} (hwf : WF S)
    (hr : Repr env mats norms blk start S a) (hs : symStep op S = some S')
    (hm : MatsOk env mats S'.factors) :
    Repr env mats norms blk start S' (op.apply mats norms a) ∧ WF S' := by
  cases symStep_iff.mp hs with
  | swap hi hj => exact ⟨repr_swap _ _ hr hi hj, hwf.of_perm (swapL_perm _ _ _).flatten⟩
  | merge0 => exact ⟨repr_merge0 hr, hwf.of_perm (.of_eq (List.append_assoc ..))⟩
  | tdot =>
    exact ⟨repr_tdot _ _ hr hwf (hm _ _ _ (List.mem_append_right _ List.mem_cons_self)),
      wf_tdot _ hwf⟩
  | scale hm' hc' => exact ⟨repr_scale _ _ _ _ hr hm' hc', ⟨hwf.nodup, hwf.fresh⟩⟩
  | fuse hf => exact ⟨repr_fuse hr hf, hwf.of_perm (.of_eq hf.flatten)⟩

theorem symEval_sound : ∀ (prog : List ArrOp) {S S' : Sym} {a : Arr K}, WF S →
    Repr env mats norms blk start S a → symEval prog S = some S' →
    MatsOk env mats S'.factors →
    Repr env mats norms blk start S' (runOps mats norms prog a) ∧ WF S' := by
  intro prog
  induction prog with
  | nil => exact fun hwf hr hs _ => Option.some.inj hs ▸ ⟨hr, hwf⟩
  | cons op prog ih =>
    intro S S' a hwf hr hs hm
    obtain ⟨S1, h1, h2⟩ := symEval_cons_eq_some.mp hs
    obtain ⟨hr1, hwf1⟩ := symStep_sound hwf hr (symStep_iff.mpr h1)
      fun t new old hmem => hm t new old (symEval_factors prog h2 hmem)
    exact ih hwf1 hr1 h2 hm

/-! ## the order of independent factors is irrelevant -/

variable (env mats norms blk start) in
/-- two adjacent factors may be exchanged (semantically) -/
def SemComm (g f : Factor) : Prop :=
  ∀ rest σ, den env mats norms blk start (g :: f :: rest) σ = den env mats norms blk start (f :: g :: rest) σ

theorem SemComm.symm {g f : Factor} (h : SemComm env mats norms blk start g f) :
    SemComm env mats norms blk start f g := fun rest σ => (h rest σ).symm

theorem semComm_norm_norm (n m c n' m' c') :
    SemComm env mats norms blk start (Factor.norm n m c) (Factor.norm n' m' c') :=
  fun _ _ => mul_right_comm _ _ _

theorem semComm_trans_norm {t new old n m c} (hm : old ≠ m) (hc : old ≠ c) :
    SemComm env mats norms blk start (Factor.trans t new old) (Factor.norm n m c) := by
  intro rest σ
  simp only [den, Finset.sum_mul]
  refine Finset.sum_congr rfl fun x _ => ?_
  rw [Function.update_of_ne hm.symm, Function.update_of_ne hc.symm, mul_assoc]

theorem semComm_trans_trans {t new old t' new' old'} (ho : old ≠ old') (h1 : new ≠ old')
    (h2 : new' ≠ old) :
    SemComm env mats norms blk start (Factor.trans t new old) (Factor.trans t' new' old') := by
  intro rest σ
  simp only [den, Finset.mul_sum]
  rw [Finset.sum_comm]
  refine Finset.sum_congr rfl fun x _ => Finset.sum_congr rfl fun y _ => ?_
  rw [Function.update_of_ne h2, Function.update_of_ne h1, Function.update_comm ho, mul_left_comm]

theorem semComm_slots {t t' s s' : ℕ} (h : s ≠ s') :
    SemComm env mats norms blk start (Factor.trans t (Label.sph s) (Label.cart s))
      (Factor.trans t' (Label.sph s') (Label.cart s')) :=
  semComm_trans_trans (fun e => h (Label.cart.inj e)) nofun nofun

theorem den_congr (g : Factor) {a b : List Factor}
    (h : ∀ σ, den env mats norms blk start a σ = den env mats norms blk start b σ) :
    ∀ σ, den env mats norms blk start (g :: a) σ = den env mats norms blk start (g :: b) σ := by
  intro σ
  cases g <;> simp [den, h]

theorem den_move_front (f : Factor) (l1 l2 : List Factor)
    (h : ∀ g ∈ l1, SemComm env mats norms blk start g f) (σ : Label → ℕ) :
    den env mats norms blk start (l1 ++ f :: l2) σ = den env mats norms blk start (f :: (l1 ++ l2)) σ := by
  induction l1 generalizing σ with
  | nil => rfl
  | cons g l1 ih =>
    rw [List.cons_append, den_congr g (ih fun g' hg' => h g' (List.mem_cons_of_mem _ hg')) σ]
    exact h g List.mem_cons_self (l1 ++ l2) σ

/-- a factor list may be brought into any order `L` as long as every pair whose
relative order changes commutes -/
theorem den_perm : ∀ (L fs : List Factor), fs.Perm L →
    (∀ g f, [g, f].Sublist fs → [f, g].Sublist L → SemComm env mats norms blk start g f) →
    ∀ σ, den env mats norms blk start fs σ = den env mats norms blk start L σ := by
  intro L
  induction L with
  | nil => exact fun fs hp _ σ => by rw [hp.eq_nil]
  | cons f L ih =>
    intro fs hp hc σ
    obtain ⟨l1, l2, rfl⟩ := List.append_of_mem (hp.mem_iff.mpr List.mem_cons_self)
    have hp' : (l1 ++ l2).Perm L := (List.perm_middle.symm.trans hp).cons_inv
    rw [den_move_front f l1 l2 (fun g hg => hc g f
      ((List.singleton_sublist.mpr hg).append (List.singleton_sublist.mpr List.mem_cons_self))
      ((List.singleton_sublist.mpr (hp'.mem_iff.mp (List.mem_append_left _ hg))).cons_cons f)) σ]
    exact den_congr f (ih (l1 ++ l2) hp' fun g' f' h1 h2 => hc g' f'
      (h1.trans ((List.Sublist.refl _).append (List.sublist_cons_self _ _)))
      (h2.trans (List.sublist_cons_self _ _))) σ

/-- evaluate symbolically from the block, then bring the factors into the order `L` -/
theorem symEval_den {prog : List ArrOp} {r : Sym} {L : List Factor} (hwf : WF ⟨start, []⟩)
    (hblk : blk.dims = start.map (axSize env)) (hr : symEval prog ⟨start, []⟩ = some r)
    (hnd : L.Nodup) (hperm : L.Perm r.factors) (hm : MatsOk env mats L)
    (hc : ∀ g f, g ≠ f → [f, g].Sublist r.factors → [g, f].Sublist L →
      SemComm env mats norms blk start g f) :
    (runOps mats norms prog blk).dims = r.axes.map (axSize env) ∧
    ∀ σ : Label → ℕ, (∀ l ∈ r.axes.flatten, σ l < env l) →
      (runOps mats norms prog blk).get (ix env r.axes σ)
        = den env mats norms blk start L.reverse σ := by
  -- the block itself represents the start state
  obtain ⟨⟨hd, hg⟩, _⟩ := symEval_sound (norms := norms) prog hwf ⟨hblk, fun _ _ => rfl⟩ hr
    fun t new old h => hm t new old (hperm.mem_iff.mpr h)
  refine ⟨hd, fun σ hσ => (hg σ hσ).trans (den_perm _ _ ?_ ?_ σ)⟩
  · exact (List.reverse_perm _).trans (hperm.symm.trans (List.reverse_perm _).symm)
  · intro g f h1 h2
    have h2' : [g, f].Sublist L := List.reverse_sublist.mp h2
    refine hc g f ?_ (List.reverse_sublist.mp h1) h2'
    rintro rfl
    exact (List.nodup_cons.mp (hnd.sublist h2')).1 List.mem_cons_self

/-! ## the start state and the expected factors -/

theorem flatten_flatMap_pair {β γ : Type} (f g : β → γ) (l : List β) :
    (l.flatMap fun s => [[f s], [g s]]).flatten = l.flatMap fun s => [f s, g s] := by
  induction l with
  | nil => rfl
  | cons x l ih => simp [List.flatMap_cons, ih]

theorem flatten_map_single {β γ : Type} (f : β → γ) (l : List β) :
    (l.map fun s => [f s]).flatten = l.map f := by
  induction l with
  | nil => rfl
  | cons x l ih => simp [ih]

theorem startSym_flatten (n nextra : ℕ) :
    (startSym n nextra).axes.flatten =
      ((List.range n).flatMap fun s => [Label.seg s, Label.cart s])
        ++ (List.range nextra).map Label.extra := by
  simp only [startSym, List.flatten_append, flatten_flatMap_pair, flatten_map_single]

theorem wf_startSym (n nextra : ℕ) : WF (startSym n nextra) := by
  constructor
  · rw [startSym_flatten]
    refine List.nodup_append.mpr ⟨?_, ?_, ?_⟩
    · refine List.nodup_flatMap.mpr ⟨fun s _ => by simp, ?_⟩
      refine List.Nodup.pairwise_of_forall_ne List.nodup_range ?_
      intro a _ b _ hab
      simp only [Function.onFun, List.disjoint_cons_left, List.mem_cons, Label.seg.injEq,
        reduceCtorEq, List.not_mem_nil, or_false, false_or, Label.cart.injEq,
        List.disjoint_nil_left, and_true]
      exact ⟨hab, hab⟩
    · exact List.Nodup.map (fun a b h => by cases h; rfl) List.nodup_range
    · intro a ha b hb
      simp only [List.mem_flatMap, List.mem_range, List.mem_cons, List.not_mem_nil, or_false,
        List.mem_map] at ha hb
      obtain ⟨s, _, rfl | rfl⟩ := ha <;> obtain ⟨k, _, rfl⟩ := hb <;> simp
  · intro s hs
    rw [startSym_flatten] at hs
    simp at hs

theorem expectedFactors_nodup (sphs : List Bool) : (expectedFactors sphs).Nodup := by
  refine List.nodup_append.mpr
    ⟨List.nodup_range.map fun a b h => (Factor.norm.inj h).1, ?_, fun a ha b hb => ?_⟩
  · refine List.nodup_range.filterMap fun a b c hc hc' => ?_
    simp only [Option.mem_def, Option.ite_none_right_eq_some, Option.some.injEq] at hc hc'
    exact (Factor.trans.inj (hc.2.trans hc'.2.symm)).1
  · obtain ⟨s, -, rfl⟩ := List.mem_map.mp ha
    obtain ⟨k, -, hk⟩ := List.mem_filterMap.mp hb
    split_ifs at hk
    cases hk
    nofun

theorem idxOf?_lt_of_sublist {β : Type} [DecidableEq β] (l : List β) {x y : β} (hnd : l.Nodup)
    (h : [x, y].Sublist l) : ∃ i j, l.idxOf? x = some i ∧ l.idxOf? y = some j ∧ i < j := by
  induction l with
  | nil => cases h
  | cons z l ih =>
    obtain ⟨hz, hnd'⟩ := List.nodup_cons.mp hnd
    have skip {w : β} (hw : w ∈ l) {i : ℕ} (hi : l.idxOf? w = some i) :
        (z :: l).idxOf? w = some (i + 1) := by
      rw [List.idxOf?_cons, if_neg (beq_iff_eq.not.mpr fun e : z = w => hz (e ▸ hw)), hi]
      rfl
    cases h with
    | cons _ h' =>
      obtain ⟨i, j, hi, hj, hij⟩ := ih hnd' h'
      exact ⟨i + 1, j + 1, skip (h'.subset List.mem_cons_self) hi,
        skip (h'.subset (.tail _ List.mem_cons_self)) hj, Nat.succ_lt_succ hij⟩
    | cons_cons _ h' =>
      have hy : y ∈ l := List.singleton_sublist.mp h'
      obtain ⟨j, hj⟩ := Option.isSome_iff_exists.mp (List.isSome_idxOf?.mpr hy)
      exact ⟨0, j + 1, by rw [List.idxOf?_cons, if_pos (beq_self_eq_true _)], skip hy hj,
        Nat.succ_pos j⟩

theorem pair_sublist_append {β : Type} {g f : β} {A B : List β} (h : [g, f].Sublist (A ++ B)) :
    g ∈ A ∧ f ∈ A ∨ g ∈ A ∧ f ∈ B ∨ g ∈ B ∧ f ∈ B := by
  obtain ⟨l1, l2, heq, h1, h2⟩ := List.sublist_append_iff.mp h
  rcases l1 with _ | ⟨a, _ | ⟨b, l1⟩⟩ <;>
    simp only [List.nil_append, List.cons_append, List.cons.injEq] at heq
  · subst heq
    exact .inr (.inr ⟨h2.subset List.mem_cons_self, h2.subset (.tail _ List.mem_cons_self)⟩)
  · obtain ⟨rfl, rfl⟩ := heq
    exact .inr (.inl ⟨h1.subset List.mem_cons_self, h2.subset List.mem_cons_self⟩)
  · obtain ⟨rfl, rfl, -⟩ := heq
    exact .inl ⟨h1.subset List.mem_cons_self, h1.subset (.tail _ List.mem_cons_self)⟩

/-- C09, general form: a pipeline accepted by `pipelineOk` computes, for every shape, the array
whose axes are the segment-major fusions `(seg s, sph s | cart s)` followed by the extras, and whose
entries are denoted by the expected factors in canonical order (all normalisations innermost, i.e.
applied on `(seg s, cart s)` before any transformation; then one contraction per spherical slot). -/
theorem pipelineOk_sound (prog : List ArrOp) (sphs : List Bool) (nextra : ℕ)
    (hok : pipelineOk prog sphs nextra = true)
    (hblk : blk.dims = (startSym sphs.length nextra).axes.map (axSize env))
    (hm : MatsOk env mats (expectedFactors sphs)) :
    (runOps mats norms prog blk).dims = (expectedAxes sphs nextra).map (axSize env) ∧
    ∀ σ : Label → ℕ, (∀ l ∈ (expectedAxes sphs nextra).flatten, σ l < env l) →
      (runOps mats norms prog blk).get (ix env (expectedAxes sphs nextra) σ)
        = den env mats norms blk (startSym sphs.length nextra).axes (expectedFactors sphs).reverse σ := by
  unfold pipelineOk at hok
  split at hok
  · cases hok
  · rename_i r hr
    simp only [Bool.and_eq_true, beq_iff_eq, List.all_eq_true, List.contains_iff_mem,
      List.mem_range] at hok
    obtain ⟨⟨⟨hax, hlen⟩, hsub⟩, hord⟩ := hok
    have hnd := expectedFactors_nodup sphs
    have hperm := (List.subperm_of_subset hnd hsub).perm_of_length_le (le_of_eq hlen)
    rw [← hax]
    refine symEval_den (wf_startSym _ _) hblk hr hnd hperm hm fun g f hne h1 h2 => ?_
    rcases pair_sublist_append h2 with ⟨hg, hf⟩ | ⟨hg, hf⟩ | ⟨hg, hf⟩ <;>
      simp only [List.mem_map, List.mem_filterMap, List.mem_range,
        Option.ite_none_right_eq_some, Option.some.injEq] at hg hf
    · obtain ⟨⟨s, -, rfl⟩, ⟨s', -, rfl⟩⟩ := And.intro hg hf
      exact semComm_norm_norm _ _ _ _ _ _
    · obtain ⟨⟨s, hs, rfl⟩, ⟨s', -, -, rfl⟩⟩ := And.intro hg hf
      refine (semComm_trans_norm ?_ ?_).symm
      · nofun
      -- the transformation of slot `s` before its normalisation is excluded by the order check
      rintro ⟨rfl⟩
      obtain ⟨i, j, hi, hj, hij⟩ := idxOf?_lt_of_sublist r.factors (hperm.nodup_iff.mp hnd) h1
      have := hord s hs
      simp only [hi, hj, decide_eq_true_eq] at this
      omega
    · obtain ⟨⟨s, -, -, rfl⟩, ⟨s', -, -, rfl⟩⟩ := And.intro hg hf
      exact semComm_slots fun e => hne (by rw [e])

/-! ## explicit form -/

/-- the function label of a slot: spherical or Cartesian component -/
def fnLabel (b : Bool) (s : ℕ) : Label := if b then Label.sph s else Label.cart s

variable (env mats) in
/-- `W_s`: a spherical slot is contracted with its matrix `T_s[f, a]` over the Cartesian components
`a`; a Cartesian slot is left alone (`a = f`) -/
def slotContract (b : Bool) (s f : ℕ) (F : ℕ → K) : K :=
  if b then ∑ a ∈ Finset.range (env (Label.cart s)), (mats s).get [f, a] * F a else F f

theorem map_getD_range {es : List ℕ} {k : ℕ} (hes : es.length = k) :
    ((List.range k).map fun j => es.getD j 0) = es := by
  subst hes
  refine List.ext_getElem (by simp) fun i h1 h2 => ?_
  simp only [List.getElem_map, List.getElem_range, List.getD_eq_getElem?_getD,
    List.getElem?_eq_getElem h2, Option.getD_some]

theorem startSym_map {β : Type} (g : List Label → β) (n k : ℕ) :
    (startSym n k).axes.map g = ((List.range n).flatMap fun s => [g [.seg s], g [.cart s]])
      ++ (List.range k).map fun j => g [.extra j] := by
  simp only [startSym, List.map_append, List.map_flatMap, List.map_map, List.map_cons, List.map_nil,
    Function.comp_def]

theorem expectedAxes_eq (sphs : List Bool) (k : ℕ) :
    expectedAxes sphs k
      = ((List.range sphs.length).map fun s => [.seg s, fnLabel (sphs.getD s false) s])
        ++ (List.range k).map fun j => [.extra j] := rfl

theorem expectedAxes_map {β : Type} (g : List Label → β) (sphs : List Bool) (k : ℕ) :
    (expectedAxes sphs k).map g
      = ((List.range sphs.length).map fun s => g [.seg s, fnLabel (sphs.getD s false) s])
        ++ (List.range k).map fun j => g [.extra j] := by
  simp only [expectedAxes_eq, List.map_append, List.map_map, Function.comp_def]

/-- the assignment: segment indices `m`, function indices `f` (spherical labels), Cartesian
component indices `a`, extras `es` -/
def sg (m f a : ℕ → ℕ) (es : List ℕ) : Label → ℕ
  | Label.seg s => m s
  | Label.cart s => a s
  | Label.sph s => f s
  | Label.extra k => es.getD k 0

theorem sg_fnLabel (m f : ℕ → ℕ) (es : List ℕ) (b : Bool) (s : ℕ) :
    sg m f f es (fnLabel b s) = f s := by
  cases b <;> rfl

theorem sg_update (m f a : ℕ → ℕ) (es : List ℕ) (s c : ℕ) :
    Function.update (sg m f a es) (Label.cart s) c = sg m f (Function.update a s c) es := by
  funext l
  cases l <;> simp [sg, Function.update_apply]

variable (env mats norms blk) in
/-- the explicit value C09 demands: going through the slots in the order `L`, a spherical slot `s`
is contracted, `Σ_c T_s[f s, c] · …` with the Cartesian component index of slot `s` set to `c`; a
Cartesian slot keeps the component `f s`.  Innermost: the shell-block entry times the normalisation
constants `norm_s[m s, a s]` at the (segment, *Cartesian* component) indices. -/
def nest (sphs : List Bool) (m f : ℕ → ℕ) (es : List ℕ) : List ℕ → (ℕ → ℕ) → K
  | [], a =>
      blk.get (((List.range sphs.length).flatMap fun s => [m s, a s]) ++ es)
        * ((List.range sphs.length).map fun s => (norms s).get [m s, a s]).prod
  | s :: rest, a =>
      if sphs.getD s false then
        ∑ c ∈ Finset.range (env (Label.cart s)),
          (mats s).get [f s, c] * nest sphs m f es rest (Function.update a s c)
      else nest sphs m f es rest a

theorem den_norms (σ : Label → ℕ) (l : List ℕ) :
    den env mats norms blk start (l.map fun s => Factor.norm s (Label.seg s) (Label.cart s)) σ
      = blk.get (start.map (flatIdx env σ))
        * (l.map fun s => (norms s).get [σ (Label.seg s), σ (Label.cart s)]).prod := by
  induction l with
  | nil => exact (mul_one _).symm
  | cons s l ih => rw [List.map_cons, den, ih, List.map_cons, List.prod_cons, mul_left_comm, mul_comm]

theorem den_nest (sphs : List Bool) (nextra : ℕ) (m f : ℕ → ℕ) (es : List ℕ)
    (hes : es.length = nextra) (L : List ℕ) (a : ℕ → ℕ) :
    den env mats norms blk (startSym sphs.length nextra).axes
      (L.filterMap (fun s => if sphs.getD s false
          then some (Factor.trans s (Label.sph s) (Label.cart s)) else none)
        ++ ((List.range sphs.length).map fun s => Factor.norm s (Label.seg s) (Label.cart s)).reverse)
      (sg m f a es)
    = nest env mats norms blk sphs m f es L a := by
  induction L generalizing a with
  | nil =>
    rw [List.filterMap_nil, List.nil_append, ← List.map_reverse, den_norms, List.map_reverse,
      List.prod_reverse]
    simp only [startSym_map, flatIdx_single, sg, map_getD_range hes]
    rfl
  | cons s L ih =>
    rw [List.filterMap_cons, nest]
    cases sphs.getD s false
    · exact ih a
    · simp only [if_true, List.cons_append, den, sg_update, ih]
      rfl

omit [Field K] in
theorem matsOk_expected (sphs : List Bool) :
    MatsOk env mats (expectedFactors sphs) ↔ ∀ s < sphs.length, sphs.getD s false = true →
      (mats s).dims = [env (Label.sph s), env (Label.cart s)] := by
  have mem (t new old) : Factor.trans t new old ∈ expectedFactors sphs ↔
      ∃ s < sphs.length, sphs.getD s false = true ∧
        Factor.trans s (.sph s) (.cart s) = .trans t new old := by
    simp only [expectedFactors, List.mem_append, List.mem_map, List.mem_range, reduceCtorEq,
      and_false, exists_false, List.mem_filterMap, false_or, Option.ite_none_right_eq_some,
      Option.some.injEq]
  constructor
  · exact fun hm s hs hb => hm s _ _ ((mem ..).mpr ⟨s, hs, hb, rfl⟩)
  · intro hT t new old h
    obtain ⟨s, hs, hb, e⟩ := (mem ..).mp h
    cases e
    exact hT _ hs hb

/-- C09 for any number of slots and trailing axes, explicit form.  For a pipeline accepted by
`pipelineOk`, the entry of the result at `(m_s · L'_s + f_s)_s, extras` (segment-major flattening, with
`L'_s` the number of spherical resp. Cartesian components) is
`Σ_{a_s : spherical slots} Π_s T_s[f_s, a_s] · Π_s norm_s[m_s, a_s] · blk[m_0, a_0, m_1, a_1, …, extras]`
with `a_s = f_s` on Cartesian slots. -/
theorem c09_general (prog : List ArrOp) (sphs : List Bool) (nextra : ℕ)
    (hok : pipelineOk prog sphs nextra = true)
    (hblk : blk.dims = ((List.range sphs.length).flatMap fun s => [env (Label.seg s), env (Label.cart s)])
      ++ (List.range nextra).map (fun k => env (Label.extra k)))
    (hT : ∀ s < sphs.length, sphs.getD s false = true →
      (mats s).dims = [env (Label.sph s), env (Label.cart s)]) :
    (runOps mats norms prog blk).dims
      = ((List.range sphs.length).map fun s =>
          env (Label.seg s) * env (fnLabel (sphs.getD s false) s))
        ++ (List.range nextra).map (fun k => env (Label.extra k)) ∧
    ∀ (m f : ℕ → ℕ) (es : List ℕ),
      (∀ s < sphs.length, m s < env (Label.seg s)) →
      (∀ s < sphs.length, f s < env (fnLabel (sphs.getD s false) s)) →
      es.length = nextra → (∀ k < nextra, es.getD k 0 < env (Label.extra k)) →
      (runOps mats norms prog blk).get
          (((List.range sphs.length).map fun s =>
              m s * env (fnLabel (sphs.getD s false) s) + f s) ++ es)
        = nest env mats norms blk sphs m f es (List.range sphs.length).reverse f := by
  obtain ⟨hd, hg⟩ := pipelineOk_sound (norms := norms) prog sphs nextra hok
    (hblk.trans (by simp only [startSym_map, axSize_single])) ((matsOk_expected sphs).mpr hT)
  refine ⟨hd.trans (by simp only [expectedAxes_map, axSize_cons, axSize_nil, mul_one]),
    fun m f es hm hf hes hesb => ?_⟩
  have hσ := hg (sg m f f es) fun l hl => by
    simp only [expectedAxes_eq, List.flatten_append, flatten_map_single, List.mem_append,
      List.mem_flatten, List.mem_map, List.mem_range] at hl
    obtain ⟨ax, ⟨s, hs, rfl⟩, hl⟩ | ⟨k, hk, rfl⟩ := hl
    · simp only [List.mem_cons, List.not_mem_nil, or_false] at hl
      obtain rfl | rfl := hl
      · exact hm s hs
      · exact sg_fnLabel m f es _ s ▸ hf s hs
    · exact hesb k hk
  simp only [ix, expectedAxes_map, flatIdx_cons, flatIdx_nil, axSize_single, axSize_nil, mul_one,
    add_zero, sg_fnLabel] at hσ
  simp only [sg, map_getD_range hes] at hσ
  rw [hσ, ← den_nest sphs nextra m f es hes, expectedFactors, List.reverse_append,
    List.filterMap_reverse]

/-! ## closed formulas for one and two slots -/

theorem nest_cons (sphs : List Bool) (m f : ℕ → ℕ) (es : List ℕ) (s : ℕ) (rest : List ℕ)
    {a : ℕ → ℕ} (h : a s = f s) :
    nest env mats norms blk sphs m f es (s :: rest) a
      = slotContract env mats (sphs.getD s false) s (f s) fun c =>
          nest env mats norms blk sphs m f es rest (Function.update a s c) := by
  unfold slotContract
  cases hb : sphs.getD s false
  · simp only [nest, hb, Bool.false_eq_true, if_false, ← h, Function.update_eq_self]
  · simp only [nest, hb, if_true]

theorem nest_swap (sphs : List Bool) (m f : ℕ → ℕ) (es : List ℕ) (s s' : ℕ) (rest : List ℕ)
    (a : ℕ → ℕ) :
    nest env mats norms blk sphs m f es (s :: s' :: rest) a
      = nest env mats norms blk sphs m f es (s' :: s :: rest) a := by
  rcases eq_or_ne s s' with rfl | hne
  · rfl
  simp only [← den_nest sphs es.length m f es rfl, List.filterMap_cons]
  cases sphs.getD s false <;> cases sphs.getD s' false <;>
    simp only [Bool.false_eq_true, if_false, if_true, List.cons_append]
  exact semComm_slots hne _ _

theorem forall_lt_two {P : ℕ → Prop} (h0 : P 0) (h1 : P 1) : ∀ s < 2, P s
  | 0, _ => h0
  | 1, _ => h1
  | s + 2, h => absurd h (by omega)

theorem c09_two_slots (prog : List ArrOp) (b0 b1 : Bool) (nextra : ℕ)
    (hok : pipelineOk prog [b0, b1] nextra = true)
    (hblk : blk.dims = [env (Label.seg 0), env (Label.cart 0), env (Label.seg 1), env (Label.cart 1)]
      ++ (List.range nextra).map (fun k => env (Label.extra k)))
    (hm : MatsOk env mats (expectedFactors [b0, b1]))
    (m0 f0 m1 f1 : ℕ) (es : List ℕ)
    (hm0 : m0 < env (Label.seg 0)) (hf0 : f0 < env (fnLabel b0 0))
    (hm1 : m1 < env (Label.seg 1)) (hf1 : f1 < env (fnLabel b1 1))
    (hes : es.length = nextra) (hesb : ∀ k < nextra, es.getD k 0 < env (Label.extra k)) :
    (runOps mats norms prog blk).get
        ([m0 * env (fnLabel b0 0) + f0, m1 * env (fnLabel b1 1) + f1] ++ es)
      = slotContract env mats b0 0 f0 fun a0 => slotContract env mats b1 1 f1 fun a1 =>
          (norms 0).get [m0, a0] * (norms 1).get [m1, a1] * blk.get ([m0, a0, m1, a1] ++ es) := by
  let m : ℕ → ℕ := fun s => if s = 0 then m0 else m1
  let f : ℕ → ℕ := fun s => if s = 0 then f0 else f1
  refine ((c09_general prog [b0, b1] nextra hok hblk ((matsOk_expected _).mp hm)).2 m f es (forall_lt_two hm0 hm1)
    (forall_lt_two hf0 hf1) hes hesb).trans ?_
  rw [show (List.range [b0, b1].length).reverse = [1, 0] from rfl, nest_swap,
    nest_cons (h := rfl)]
  refine congrArg _ (funext fun a0 => ?_)
  rw [nest_cons (h := Function.update_of_ne Nat.one_ne_zero _ _)]
  refine congrArg _ (funext fun a1 => ?_)
  simp only [nest, List.length_cons, List.length_nil, List.range_succ, List.range_zero,
    List.nil_append, List.cons_append, List.flatMap_cons, List.flatMap_nil, List.map_cons,
    List.map_nil, List.prod_cons, List.prod_nil, m, Function.update_apply, if_true, if_false,
    Nat.one_ne_zero, Nat.zero_ne_one]
  ring

/-- C09 for the one-index class, any number of trailing axes -/
theorem c09_one_slot (prog : List ArrOp) (b0 : Bool) (nextra : ℕ)
    (hok : pipelineOk prog [b0] nextra = true)
    (hblk : blk.dims = [env (Label.seg 0), env (Label.cart 0)]
      ++ (List.range nextra).map (fun k => env (Label.extra k)))
    (hm : MatsOk env mats (expectedFactors [b0]))
    (m0 f0 : ℕ) (es : List ℕ)
    (hm0 : m0 < env (Label.seg 0)) (hf0 : f0 < env (fnLabel b0 0))
    (hes : es.length = nextra) (hesb : ∀ k < nextra, es.getD k 0 < env (Label.extra k)) :
    (runOps mats norms prog blk).get ([m0 * env (fnLabel b0 0) + f0] ++ es)
      = slotContract env mats b0 0 f0 fun a0 =>
          (norms 0).get [m0, a0] * blk.get ([m0, a0] ++ es) := by
  have one {P : ℕ → Prop} (h0 : P 0) : ∀ s < 1, P s := fun s hs => Nat.lt_one_iff.mp hs ▸ h0
  refine ((c09_general prog [b0] nextra hok hblk ((matsOk_expected _).mp hm)).2 (fun _ => m0) (fun _ => f0) es
    (one hm0) (one hf0) hes hesb).trans ?_
  rw [show (List.range [b0].length).reverse = [0] from rfl, nest_cons (h := rfl)]
  refine congrArg _ (funext fun a0 => ?_)
  simp only [nest, List.length_cons, List.length_nil, List.range_succ, List.range_zero,
    List.nil_append, List.flatMap_cons, List.flatMap_nil, List.map_cons,
    List.map_nil, List.prod_cons, List.prod_nil, List.append_nil, mul_one, Function.update_self]
  exact mul_comm _ _

/-! ## `construct_array_lincomb` -/

variable (env mats blk) in
/-- `Σ_{a_s} Π_s T_{matOf s}[f s, a_s] · arr[a_0, …, a_{n-1}]`, slots contracted in the order `L` -/
def lnest (n : ℕ) (matOf : ℕ → ℕ) (f : ℕ → ℕ) : List ℕ → (ℕ → ℕ) → K
  | [], a => blk.get ((List.range n).map a)
  | s :: rest, a =>
      ∑ c ∈ Finset.range (env (Label.cart s)),
        (mats (matOf s)).get [f s, c] * lnest n matOf f rest (Function.update a s c)

theorem den_lnest (n : ℕ) (matOf f : ℕ → ℕ) (L : List ℕ) (a : ℕ → ℕ) :
    den env mats norms blk ((List.range n).map fun s => [Label.cart s])
      (L.map fun s => Factor.trans (matOf s) (Label.sph s) (Label.cart s)) (sg f f a [])
    = lnest env mats blk n matOf f L a := by
  induction L generalizing a with
  | nil => simp only [List.map_nil, den, lnest, List.map_map, Function.comp_def, flatIdx_single, sg]
  | cons s L ih =>
    simp only [List.map_cons, den, lnest, sg_update, ih]
    rfl

/-- `construct_array_lincomb`: a chain accepted by `lincombOk` contracts every axis `s` of the
assembled array with the matrix `matOf s` and leaves the axes in their original order. -/
theorem lincombOk_sound (prog : List ArrOp) (n : ℕ) (matOf : ℕ → ℕ)
    (hok : lincombOk prog n matOf = true)
    (hblk : blk.dims = (List.range n).map fun s => env (Label.cart s))
    (hT : ∀ s < n, (mats (matOf s)).dims = [env (Label.sph s), env (Label.cart s)]) :
    (runOps mats norms prog blk).dims = ((List.range n).map fun s => env (Label.sph s)) ∧
    ∀ f : ℕ → ℕ, (∀ s < n, f s < env (Label.sph s)) →
      (runOps mats norms prog blk).get ((List.range n).map f)
        = lnest env mats blk n matOf f (List.range n).reverse f := by
  unfold lincombOk at hok
  simp only at hok
  split at hok
  · cases hok
  · rename_i r hr
    simp only [Bool.and_eq_true, beq_iff_eq, List.all_eq_true, List.contains_iff_mem,
      List.mem_range] at hok
    obtain ⟨⟨hax, hlen⟩, hsub⟩ := hok
    let tr : ℕ → Factor := fun s => .trans (matOf s) (.sph s) (.cart s)
    have hnd : ((List.range n).map tr).Nodup :=
      List.nodup_range.map fun a b h => Label.sph.inj (Factor.trans.inj h).2.1
    have hperm : ((List.range n).map tr).Perm r.factors :=
      (List.subperm_of_subset hnd (List.forall_mem_map.mpr fun s hs => hsub s (List.mem_range.mp hs)))
        |>.perm_of_length_le (by rw [List.length_map, List.length_range, hlen])
    have hwf : WF ⟨(List.range n).map fun s => [Label.cart s], []⟩ := by
      refine ⟨?_, fun s hs => ?_⟩ <;> simp only [flatten_map_single] at *
      · exact List.nodup_range.map fun a b h => Label.cart.inj h
      · simp at hs
    obtain ⟨hd, hg⟩ := symEval_den (env := env) (norms := norms) hwf
      (hblk.trans (by simp only [List.map_map, Function.comp_def, axSize_single])) hr hnd
      hperm (fun t new old h => by
        obtain ⟨s, hs, ⟨⟩⟩ := List.mem_map.mp h
        exact hT s (List.mem_range.mp hs))
      fun g f hne _ h2 => by
        obtain ⟨s, -, rfl⟩ := List.mem_map.mp (h2.subset List.mem_cons_self)
        obtain ⟨s', -, rfl⟩ := List.mem_map.mp (h2.subset (List.mem_cons_of_mem _ List.mem_cons_self))
        exact semComm_slots fun e => hne (by rw [e])
    rw [hax] at hd hg
    refine ⟨by simp only [hd, List.map_map, Function.comp_def, axSize_single], fun f hf => ?_⟩
    have hσ := hg (sg f f f []) (by
      simp only [flatten_map_single, List.forall_mem_map, List.mem_range]
      exact hf)
    rw [← den_lnest (norms := norms) n matOf f, List.map_reverse]
    simpa only [ix, List.map_map, Function.comp_def, flatIdx_single, sg] using hσ

end Sound

/-! ## trailing axes are a frame -/

theorem SymStep.frame (e : List (List Label)) {op : ArrOp} {S S' : Sym} (h : SymStep op S S') :
    SymStep op ⟨S.axes ++ e, S.factors⟩ ⟨S'.axes ++ e, S'.factors⟩ := by
  have left {l : List (List Label)} {k : ℕ} {x : List Label} (h : l[k]? = some x) :
      (l ++ e)[k]? = some x := (List.getElem?_append_left (List.getElem?_eq_some_iff.mp h).1).trans h
  cases h with
  | swap hi hj =>
    rw [← swapL_append _ e hi hj]
    exact .swap (by simp only [List.length_append]; omega) (by simp only [List.length_append]; omega)
  | merge0 => exact .merge0
  | tdot =>
    simp only [List.append_assoc, List.cons_append]
    exact .tdot
  | scale hm hc => exact .scale (left hm) (left hc)
  | fuse hf => exact .fuse (hf.frame e)

theorem symEval_frame (e : List (List Label)) (prog : List ArrOp) {S S' : Sym}
    (hs : symEval prog S = some S') :
    symEval prog ⟨S.axes ++ e, S.factors⟩ = some ⟨S'.axes ++ e, S'.factors⟩ := by
  induction prog generalizing S with
  | nil => exact Option.some.inj hs ▸ rfl
  | cons op prog ih =>
    obtain ⟨S1, h1, h2⟩ := symEval_cons_eq_some.mp hs
    exact symEval_cons_eq_some.mpr ⟨_, h1.frame e, ih h2⟩

/-- a pipeline that passes the check without trailing axes passes it with any number of them -/
theorem pipelineOk_frame (prog : List ArrOp) (sphs : List Bool)
    (h : pipelineOk prog sphs 0 = true) (nextra : ℕ) : pipelineOk prog sphs nextra = true := by
  unfold pipelineOk at h ⊢
  split at h
  · cases h
  · rename_i r hr
    have hfr := symEval_frame ((List.range nextra).map fun k => [Label.extra k]) prog hr
    have hst : (⟨(startSym sphs.length 0).axes ++ (List.range nextra).map (fun k => [Label.extra k]),
        (startSym sphs.length 0).factors⟩ : Sym) = startSym sphs.length nextra := by
      simp only [startSym, List.range_zero, List.map_nil, List.append_nil]
    rw [hst] at hfr
    rw [hfr]
    simp only [Bool.and_eq_true, beq_iff_eq] at h ⊢
    obtain ⟨⟨⟨hax, hlen⟩, hsub⟩, hord⟩ := h
    refine ⟨⟨⟨?_, hlen⟩, hsub⟩, hord⟩
    simp only [hax, expectedAxes, List.range_zero, List.map_nil, List.append_nil]

/-! ## the hypotheses are satisfiable: a concrete shape -/

section Example
variable {K : Type} [Field K]

/-- two segments per shell, three Cartesian and two spherical components, one point -/
def exEnv : Label → ℕ
  | Label.seg _ => 2
  | Label.cart _ => 3
  | Label.sph _ => 2
  | Label.extra _ => 1

/-- `BaseTwoIndexSymmetric.construct_array_spherical` as extracted -/
def exProg : List ArrOp :=
  [.scale 0 0, .scale 1 2, .tdot 0 1, .swap 0 1, .merge0, .tdot 1 2, .swap 0 1, .swap 0 2, .merge0,
    .swap 0 1]

example (T N : ℕ → Arr K) (hT : ∀ t, (T t).dims = [2, 3]) (blk : Arr K)
    (hblk : blk.dims = [2, 3, 2, 3]) (m0 f0 m1 f1 : ℕ)
    (hm0 : m0 < 2) (hf0 : f0 < 2) (hm1 : m1 < 2) (hf1 : f1 < 2) :
    (runOps T N exProg blk).get [m0 * 2 + f0, m1 * 2 + f1]
      = ∑ a0 ∈ Finset.range 3, (T 0).get [f0, a0] * ∑ a1 ∈ Finset.range 3, (T 1).get [f1, a1] *
          ((N 0).get [m0, a0] * (N 1).get [m1, a1] * blk.get [m0, a0, m1, a1]) := by
  have h := c09_two_slots (env := exEnv) (norms := N) (mats := T) (blk := blk) exProg true true 0
    (by decide +kernel) hblk ((matsOk_expected _).mpr fun s _ _ => hT s) m0 f0 m1 f1 [] hm0 hf0 hm1
    hf1 rfl (fun _ h => absurd h (Nat.not_lt_zero _))
  simpa only [slotContract, fnLabel, exEnv, if_true, List.append_nil] using h

end Example

end GB
