import GBProofs.EspLaws
/-!
# C14 — electrostatic potential
`EspLaws.lean`: `espMasked_iff` (a nucleus is dropped iff its distance is below the threshold,
whatever its charge), `mask_old_counterexample` / `espMaskedOld_neg_charge` (the rule before the
repair, `Z/d > 1/t`, is different), `espNuclear_spec`, `espSizeOk_some` / `espSizeOk_none` /
`espSizeOk_transformed` (size of the density matrix with and without a transformation),
`esp_transform_identity` (`Σ γ_ij (T V Tᵀ)_ij = Σ (Tᵀ γ T)_ab V_ab` for rectangular `T`).
The electronic term is the point-charge integral of C03 (`coulomb_general` in `CoulombGeneral.lean`).
-/
namespace GB.C14

theorem mask_rule (d t : ℚ) (hd : 0 ≤ d) (ht : 0 ≤ t) : espMasked (d * d) t = true ↔ d < t :=
  espMasked_iff d t hd ht

end GB.C14
