import GBProofs.EvalDeriv

/-!
# C05 — basis-function values and arbitrary-order derivatives
-/
namespace GB.C05

/-- general back-end = the n-th derivative of `x^a e^{-αx²}`, every `a`, `n`, `x` (also `x = 0`) -/
theorem general_backend_exact (α x : ℝ) (hα : 0 ≤ α) (a n : ℕ) :
    axisGeneral α x a n = iteratedDeriv n (fun x : ℝ => x^a * Real.exp (-(α*(x*x)))) x :=
  axisGeneral_eq_iteratedDeriv α x hα a n

/-- the direct back-end agrees with the general one on every request it accepts (orders ≤ 2),
for every component of a full shell -/
theorem backends_agree (α x : ℝ) (hα : 0 ≤ α) (l u a n : ℕ) (ha : a ≤ l) (hn : n ≤ 2) :
    axisDirect α x a n ((defaultCart l).any (fun c => c.ax u == 1))
        ((defaultCart l).any (fun c => decide (c.ax u ≥ 2)))
      = axisGeneral α x a n :=
  axisDirect_eq α x hα a n _ _ hn (flags_truthful_of_full_shell l u a ha).1
    (flags_truthful_of_full_shell l u a ha).2

/-- dispatch: the specialised back-end is used iff every order is at most 2; otherwise, and for
unknown names, the request is rejected -/
theorem dispatch_direct_iff (o : Comp) :
    dispatch "direct" o = .ok .direct ↔ o.1 ≤ 2 ∧ o.2.1 ≤ 2 ∧ o.2.2 ≤ 2 := GB.dispatch_direct_iff o

theorem dispatch_rejects (s : String) (o : Comp) (h1 : s ≠ "general") (h2 : s ≠ "direct") :
    dispatch s o = .error "ValueError" := dispatch_other s o h1 h2

/-- why the rejection is necessary (the repaired defect): at order 3 the direct formulas silently
drop the axis and return a different number -/
theorem direct_order3_wrong (has1 has2 : Bool) :
    axisDirect (1:ℝ) (1/2) 1 3 has1 has2 ≠ axisGeneral (1:ℝ) (1/2) 1 3 :=
  (axisDirect_three_ne_spec has1 has2).2.2

end GB.C05
