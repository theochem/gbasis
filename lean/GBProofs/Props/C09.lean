import GBModel.Arr
import GBProofs.AxisCalculus

/-!
# C09 — spherical, mixed and linearly transformed results derive from the Cartesian ones

`pipelineOk prog sphs nextra` (model, `GBModel/Arr.lean`) states symbolically — hence for every
number of segments, components, points … — that the program `prog` turns the shell block
`(M₁, L₁, M₂, L₂, …, extras)` into the array whose axis `s` is `(segment, function)` fused
segment-major, normalised with `norm_cont` on `(segment, Cartesian component)` *before* each spherical
slot is contracted with its own matrix.  `AxisCalculus.lean` proves that the symbolic evaluation is
sound for the concrete index-wise semantics of the NumPy operations.  The programs themselves are
extracted from the source on every run (`GBExtracted/Pipelines.lean`) and checked by the obligations
in `GBProofs/Obl/Pipelines.lean`; below, reference programs show that the criterion is satisfiable and
that it rejects the typical mistakes.
-/
namespace GB.C09
open ArrOp

/-- the two-index mixed pipeline (first shell spherical, second Cartesian) as in `base_two_symm.py` -/
def refMixSphCart : List ArrOp :=
  [.scale 0 0, .scale 1 2, .tdot 0 1, .swap 0 1, .merge0, .swap 0 1, .swap 1 2, .merge0, .swap 0 1]

theorem ref_ok : pipelineOk refMixSphCart [true, false] 0 = true ∧ pipelineOk refMixSphCart [true, false] 2 = true := by
  decide +kernel

/-- transforming before normalising is rejected (norm_cont is indexed by Cartesian components) -/
theorem rejects_norm_after_transform :
    pipelineOk [.scale 1 2, .tdot 0 1, .swap 0 1, .scale 0 0, .merge0, .swap 0 1, .swap 1 2, .merge0, .swap 0 1]
      [true, false] 0 = false := by decide +kernel

/-- using the matrix of the other shell is rejected -/
theorem rejects_wrong_matrix :
    pipelineOk [.scale 0 0, .scale 1 2, .tdot 1 1, .swap 0 1, .merge0, .swap 0 1, .swap 1 2, .merge0, .swap 0 1]
      [true, false] 0 = false := by decide +kernel

/-- component-major instead of segment-major flattening is rejected -/
theorem rejects_component_major :
    pipelineOk [.scale 0 0, .scale 1 2, .swap 0 1, .merge0, .swap 0 1, .swap 1 2, .swap 0 1, .merge0, .swap 0 1]
      [false, false] 0 = false := by decide +kernel

theorem rejects_missing_transform :
    pipelineOk [.scale 0 0, .scale 1 2, .merge0, .swap 0 1, .swap 1 2, .merge0, .swap 0 1] [true, false] 0 = false := by
  decide +kernel

/-- lincomb of the four-index class: one matrix on all four axes, original axis order restored -/
theorem ref_lincomb4 :
    lincombOk [.tdot 0 0, .tdot 0 1, .tdot 0 2, .tdot 0 3, .swap 0 3, .swap 1 2] 4 (fun _ => 0) = true := by
  decide +kernel

theorem rejects_lincomb_wrong_order :
    lincombOk [.tdot 0 0, .tdot 0 1, .tdot 0 2, .tdot 0 3, .swap 0 3] 4 (fun _ => 0) = false := by
  decide +kernel

/-- soundness for all shapes: a program accepted by `pipelineOk` computes, on every concrete
shell block of the right dimensions and for every number of segments, components, points …, the array
whose entry `(m_s·L'_s + f_s)_s` is the block normalised on `(segment, Cartesian component)` and
contracted with its own matrix on every spherical slot (`nest` is that explicit nested sum) -/
alias pipeline_sound_all_shapes := c09_general

/-- the two-slot closed form (explicit double sum) -/
alias two_slot_formula := c09_two_slots

/-- `construct_array_lincomb`: every basis axis contracted with the transformation meant for it -/
alias lincomb_sound := lincombOk_sound

end GB.C09
