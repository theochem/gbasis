import GBProofs.FormsProofs

/-!
# C06 — density and density-derived fields equal their definitions

Setting (`FormsProofs.lean`): a commutative `K`-algebra `A` of "smooth functions" with three commuting
`K`-linear derivations `d 0, d 1, d 2`, basis functions `φ : ι → A`, a density matrix `γ`;
`Dsym p q = Σ_ab γ_ab ∂^p φ_a ∂^q φ_b`, `ρ = Dsym 0 0`.  `Form.evalA` interprets the list of terms
that the model of each Python function produces.  The forms are tied to the running code by the
exact-probing obligation `GB.Obl.forms_ok`.
-/
namespace GB.C06
variable {K A ι : Type*} [Field K] [CharZero K] [CommRing A] [Algebra K A] [Fintype ι]
variable (d : Fin 3 → Derivation K A A) (φ : ι → A) (γ : ι → ι → K)

/-- `evaluate_deriv_density`: the half-range loop with factor 2 equals `∂^L ρ` for **every** order
triple `L`, provided the density matrix is symmetric -/
theorem deriv_density_eq (hd : CommD d) (hγ : SymmG γ) (L : Comp) :
    Form.evalA d φ γ (derivDensityForm L) = dpow d L (rho d φ γ) :=
  derivDensity_eq hd hγ L

/-- without symmetry the shortcut is wrong (why the quantifier says "symmetric") -/
theorem symmetry_needed :
    Form.evalA exD cexφ cexγ (derivDensityForm (1, 0, 0)) ≠ Form.evalA exD cexφ cexγ (leibnizForm (1, 0, 0)) :=
  derivDensity_ne_leibniz_nonsymm.2.2

theorem gradient_is_derivative (hd : CommD d) (hγ : SymmG γ) (i : Fin 3) :
    Form.evalA d φ γ (gradientForm i) = d i (rho d φ γ) := gradient_eq hd hγ i

theorem laplacian_is_derivative (hd : CommD d) (hγ : SymmG γ) :
    Form.evalA d φ γ laplacianForm = lap d φ γ := laplacian_eq hd hγ

theorem hessian_is_derivative (hd : CommD d) (hγ : SymmG γ) (r c : Fin 3) :
    Form.evalA d φ γ (hessianForm r c) = d r (d c (rho d φ γ)) := hessian_eq hd hγ r c

theorem hessian_symmetric (r c : Fin 3) :
    Form.evalA d φ γ (hessianForm r c) = Form.evalA d φ γ (hessianForm c r) := hessian_symm r c

theorem hessian_trace_is_laplacian (hγ : SymmG γ) :
    ∑ r : Fin 3, Form.evalA d φ γ (hessianForm r r) = Form.evalA d φ γ laplacianForm := hessian_trace hγ

theorem general_ke (α : ℚ) :
    Form.evalA d φ γ (generalKEForm α)
      = Form.evalA d φ γ posdefForm + (α : K) • Form.evalA d φ γ laplacianForm := generalKE_eq α

/-- clipping rule: an error exactly when some value is below `-threshold`; otherwise negative
values are returned as 0 and the others unchanged -/
theorem clip_raises_iff (t : ℚ) (ht : 0 ≤ t) (vals : List ℚ) :
    clipRule t vals = none ↔ ∃ v ∈ vals, v < -t := clipRule_none_iff t ht vals

theorem clip_values (t : ℚ) (vals out : List ℚ) (h : clipRule t vals = some out) :
    out = vals.map fun v => max v 0 := clipRule_some t vals out h

end GB.C06
