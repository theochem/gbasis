import GBProofs.Props.C03
import GBProofs.CoulombGeneral
import GBProofs.PointChargeBlock
import GBProofs.BoysSeries
/-!
# C03 — analytic anchor
`coulomb_general` (CoulombGeneral.lean): for two primitive Cartesian Gaussians of arbitrary angular momenta
the three-dimensional Coulomb integral `∫ g_a g_b / |r - C| d³r` **is** `(2π/p) e^{-μ|AB|²} · Vspec`
with the true Boys function `boys T m = ∫₀¹ t^{2m} e^{-T t²} dt` — the Gaussian transform of `1/r`,
Fubini and the Rys substitution are all formalised (`RysAnalytic.lean`, `CoulombGeneral.lean`).
Together with `C03.vertical_table_eq_spec` and `C03.horizontal_table_eq_spec` (valid for any `F`, in
particular `F = boys T`) this ties the recursion tables of the code to the integral.
-/

namespace GB.C03

/-- The whole code path of `PointChargeIntegral.construct_array_contraction`
— vertical recursion on primitives, contraction, horizontal recursion, component selection, angular
norms, the shell swap, the factor `-q` — with the true Boys function computes
`-q ∫ φ_a(r) φ_b(r) / |r - C| d³r` for the contracted, primitive-normalised Cartesian functions, for all
shells with positive exponents (any angular momenta, any number of primitives and segments). -/
theorem point_charge_block_is_coulomb_integral (boysT : ℝ → ℕ → Tab ℝ)
    (hboys : ∀ T n m, m < n → (boysT T n).get m = boys T m) (s t : Shell ℝ) (Cpt : ℕ → ℝ) (q : ℝ)
    (ma ca mb cb : ℕ) (hs : ∀ k, k < s.nprim → 0 < s.exp! k) (ht : ∀ k, k < t.nprim → 0 < t.exp! k)
    (ha : (s.comp! ca).1 + (s.comp! ca).2.1 + (s.comp! ca).2.2 ≤ s.l)
    (hb : (t.comp! cb).1 + (t.comp! cb).2.1 + (t.comp! cb).2.2 ≤ t.l) :
    (pointChargeBlock boysT s t Cpt q).get4 ma ca mb cb
      = -q * ∫ r : E3, shellFnE s ma ca r * shellFnE t mb cb r / ‖r - toE3 Cpt‖ :=
  pointChargeBlock_eq_integral boysT hboys s t Cpt q ma ca mb cb hs ht ha hb

/-- `BoysSeries.lean`: the formulas by which the compiled model evaluates the Boys function are exact identities
(`boys_partial_sum`, `boys_downward_step`, `boys_upward_step`), the truncated series it sums at the top order (1201 terms,
`T ≤ 200`) is within `10⁻⁴¹⁶` of the Boys integral (`boys_model_top`), and its starting value for `T > 200` is within
`e⁻²⁰⁰/400` (`boys_zero_asymptotic_model`); what is left to the numerical validation is the 320-bit rounding only. -/
alias boys_series_truncation := boys_model_top
alias boys_large_argument_start := boys_zero_asymptotic_model

end GB.C03
