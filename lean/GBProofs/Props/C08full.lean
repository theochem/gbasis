import GBProofs.Props.C08
import GBProofs.AngMom
/-!
# C08 — momentum and angular-momentum blocks are the exact integrals, and Hermitian, at block level

`AngMom.lean`: `momentumBlock_eq_integral` (⟨a|∂_k|b⟩ of the contracted normalised functions), `angmomBlock_eq_integral`
(the written-out products `S_u (M_v D_w − M_w D_v)` of the code equal `∫ φ_a (r × ∇)_k φ_b` about the coordinate origin),
`momentumBlock_antisymm`, `angmomBlock_antisymm` (weighted integration by parts: the weight `r_v` does not depend on the
differentiated coordinate), hence `momentumEntry_hermitian`, `angmomEntry_hermitian` for `−i ×` the real blocks;
the origin law of C12 `angmomBlock_translate` (L′ = L + d × p under a common translation by d),
`momentumBlock_translate`, and the rotation law of the momentum blocks `momentumBlock_moved`
(vector index rotated by R, basis indices by the shells' representation matrices).
-/
namespace GB.C08
alias angular_momentum_block_is_exact_integral := angmomBlock_eq_integral
alias momentum_block_hermitian := momentumEntry_hermitian
alias angular_momentum_block_hermitian := angmomEntry_hermitian
end GB.C08
