import GBProofs.Props.C04
import GBProofs.CoulombTwoElectron
import GBProofs.EriIntegral
/-!
# C04 — the electron-repulsion block is the six-dimensional Coulomb integral

`CoulombTwoElectron.lean`: the six-dimensional integral of two products of Cartesian Gaussian primitives
with `1/‖r₁−r₂‖` (integrable: `coulomb2_general_integrable`) equals the Rys form (`coulomb2_general`,
`coulomb2_ssss`) — the Gaussian transform of `1/r₁₂`, the per-axis two-variable Gaussian moments by
integration by parts (`J2_rdk2`), Fubini and the final Boys integral are all proved.
`EriIntegral.lean`: closing the Rys form under the horizontal relations (`horiz4_unique`), contraction and
normalisation give `eriBlock_eq_integral`: every entry of the model of
`ElectronRepulsionIntegral.construct_array_contraction` is
`∫∫ φ_a(r₁) φ_b(r₁) φ_c(r₂) φ_d(r₂) / ‖r₁−r₂‖` of the contracted, primitive-normalised shell functions,
for arbitrary angular momenta, numbers of primitives and segmented contractions.  Consequences for the
code's block: the three generators of the eight-fold symmetry, `(ab|ab) ≥ 0`, the Schwarz bound.
-/
namespace GB.C04
alias block_is_exact_coulomb_integral := eriBlock_eq_integral
alias primitive_quartet_is_integral := eriQuartet_eq_integral
alias block_symm_ab := eriBlock_swap_ab
alias block_symm_cd := eriBlock_swap_cd
alias block_symm_electrons := eriBlock_swap_electrons
/-- the repair of the accuracy defect (fix commit c23ffd8) computes `(cd|ab)` and swaps the axes back whenever that orientation
amplifies rounding errors less: in exact arithmetic this is the identity, by the symmetry of the model's block under the exchange
of the two electrons -/
alias orientation_swap_is_exact := eriBlock_swap_electrons
alias block_self_nonneg := eriBlock_self_nonneg
alias block_schwarz := eriBlock_schwarz
end GB.C04
