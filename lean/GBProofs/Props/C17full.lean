import GBProofs.Props.C17
import GBProofs.Definiteness
import GBProofs.EriIntegral
import GBProofs.ArrayDefiniteness
import GBProofs.EriArrayDefiniteness
/-!
# C17 — definiteness of the four families of arrays, for the model's blocks themselves

`Definiteness.lean`, with the block = integral theorems of C01/C02/C03/C04:
* overlap: `overlap_quadForm_eq` (`xᵀSx = ∫ (Σ xᵢφᵢ)²`), `overlap_psd`, `overlapMat_symm`, `overlap_abs_le`;
* kinetic: `kineticBlock_eq_gradient` (integration by parts at block level: `T_ab = ½ ∫ ∇φ_a·∇φ_b`),
  `kinetic_psd`, `kineticMat_symm`;
* point charge: `pointCharge_quadForm_eq` (`xᵀVx = −q ∫ (Σ xᵢφᵢ)²/‖r−C‖`), `pointCharge_nsd` for `q ≥ 0`;
* electron repulsion: positivity of the Coulomb kernel (`coulomb_kernel_nonneg`, via the Gaussian
  transform and the Gaussian convolution square root `gauss_kernel_gram`), hence `eriExact_psd`,
  and with `eriBlock_eq_integral` for the code's block (`EriIntegral.lean`): `eriBlock_psd`, `eriBlock_self_nonneg`,
  `eriBlock_schwarz`.
Every index family is an arbitrary finite family of (shell, segment, Cartesian component); Cartesian →
spherical and the user's `transform` are congruences `M ↦ T M Tᵀ`, which preserve (semi-)definiteness
(`GramLaws`).  What remains observed rather than proved is the floating-point evaluation.
-/
namespace GB.C17
alias overlap_block_psd := overlap_psd
alias kinetic_block_psd := kinetic_psd
alias point_charge_block_nsd := pointCharge_nsd
alias eri_block_psd := eriBlock_psd
alias eri_block_self_nonneg := eriBlock_self_nonneg
alias eri_block_schwarz := eriBlock_schwarz
end GB.C17

/-! `ArrayDefiniteness.lean`: the statements for the **assembled arrays** of a whole basis (Cartesian and spherical shells,
after `norm_cont` and the spherical transformation): every assembled two-index array is `C · raw · Cᵀ` (`entry2_eq_TMT`), hence
`overlap_array_psd`, `overlap_array_symm`, `overlap_array_abs_le_one` (all elements at most 1 in magnitude, from the unit
diagonal), `kinetic_array_psd`, `pointCharge_array_nsd` (q ≥ 0) and their versions under the user's `transform=`
(`quadForm_congr`, `psd_congr` of `GramLaws.lean`: any rectangular `T M Tᵀ`); entries as integrals of the array's own basis functions
(`overlap_entry_eq_integral`, `kinetic_entry_eq_gradient`, `pointCharge_entry_eq_integral`). -/
namespace GB.C17
alias overlap_array_elements_at_most_one := overlap_array_abs_le_one
end GB.C17

/-! `EriArrayDefiniteness.lean`: the **repulsion array of a whole basis** (Cartesian and pure shells): every entry is the six-dimensional
Coulomb integral of the four basis functions (`eri_array_eq_integral`), the array viewed as a matrix over index pairs is positive
semi-definite (`eri_array_psd`, `eri_flat_psd`), `(ab|ab) ≥ 0` (`eri_array_self_nonneg`), Schwarz (`eri_array_schwarz`, `eri_array_abs_le`), and all of
these survive a rectangular transformation of the four indices (`eri_array_transform_psd`, `…_schwarz`). -/
namespace GB.C17
alias repulsion_array_psd := eri_array_psd
alias repulsion_array_schwarz := eri_array_schwarz
end GB.C17
