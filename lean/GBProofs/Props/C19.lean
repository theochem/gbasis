import GBProofs.PurityProofs
/-!
# C19 — calls are pure
`Purity.history_pure` (PurityProofs.lean): with pure effect summaries — the hypothesis discharged for the summaries
extracted from the source by `GB.Obl.effects_ok` — no history of calls (any length, returning or
raising) changes an argument object or the process-wide error state; `call_result_independent`: the
value allocated by a call does not depend on the history; `pop_counterexample`,
`seterr_leak_counterexample`: the two repaired defects violate the hypothesis and the conclusion.
Unit normalisation after `assign_norm_cont` is `C16.normalised_diag_one` (it only depends on the
shell's current parameters).
-/
namespace GB.C19
open GB.Purity

theorem purity_of_histories (sums : Nat → Summary) (hp : ∀ f, (sums f).pure = true) (ops : List Op) (w : World) :
    (run sums w ops).err = w.err ∧ ∀ o, o < w.next → o ∉ updated ops → (run sums w ops).heap o = w.heap o :=
  history_pure sums hp ops w

end GB.C19
