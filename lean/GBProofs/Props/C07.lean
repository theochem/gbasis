import GBProofs.Props.C01
import Mathlib.Data.Nat.Choose.Sum

/-!
# C07 — multipole-moment integrals are exact for every order and origin
-/
open MeasureTheory Real Polynomial

namespace GB.C07

/-- exactness of the table for every moment order: `C01.table_entry_eq_integral` already covers all `k` -/
theorem moment_table_entry_eq_integral (s t : Shell ℝ) (origin : ℕ → ℝ) (nk ka kb axis k j i : ℕ)
    (ha : 0 < s.exp! ka) (hb : 0 < t.exp! kb) :
    (momAx s t origin nk ka kb axis).get3 k j i
      = ∫ x : ℝ, (x - s.ctr axis)^i * (x - t.ctr axis)^j * (x - origin axis)^k
          * (exp (-(s.exp! ka) * (x - s.ctr axis)^2) * exp (-(t.exp! kb) * (x - t.ctr axis)^2)) :=
  C01.table_entry_eq_integral s t origin nk ka kb axis k j i ha hb

/-- order 0 does not depend on the moment origin: it is the overlap factor -/
theorem order_zero_is_overlap {K : Type} [Field K] [CharZero K] (p PA PB PC PC' : K) (i j : ℕ) :
    S3 p PA PB PC i j 0 = S3 p PA PB PC' i j 0 := S3_k0 p PA PB PC PC' i j

/-- moving the origin: moments about `X' = X - d` (so `P - X' = (P - X) + d`) are the binomial
combination of the lower moments about `X` -/
theorem moment_shift {K : Type} [Field K] [CharZero K] (p PA PB PC d : K) (i j k : ℕ) :
    S3 p PA PB (PC + d) i j k
      = ∑ n ∈ Finset.range (k + 1), (k.choose n : K) * d ^ (k - n) * S3 p PA PB PC i j n := by
  unfold S3
  rw [C_add, ← add_assoc, add_pow (X + C PC), Finset.mul_sum, map_sum]
  refine Finset.sum_congr rfl fun n _ => ?_
  rw [mul_assoc ((X + C PC) ^ n), ← mul_assoc, mul_comm, ← C_pow, ← map_natCast C, ← C_mul, G_C_mul,
    mul_comm (d ^ (k - n))]

end GB.C07
