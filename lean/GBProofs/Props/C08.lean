import GBProofs.Props.C02

/-!
# C08 — momentum and angular-momentum integrals are exact and Hermitian
-/
open MeasureTheory Real Polynomial

namespace GB.C08

/-- first-derivative table entries are the integrals `∫ g_a ∂ g_b` (instance `k = 1` of C02's table theorem) -/
theorem momentum_table_entry_eq_integral (s t : Shell ℝ) (ka kb axis j i : ℕ)
    (ha : 0 < s.exp! ka) (hb : 0 < t.exp! kb) (hi : i ≤ s.l) :
    (diffAx s t 1 ka kb axis).get3 1 j i
      = ∫ x : ℝ, (x - s.ctr axis)^i * exp (-(s.exp! ka) * (x - s.ctr axis)^2)
          * iteratedDeriv 1 (fun x => (x - t.ctr axis)^j * exp (-(t.exp! kb) * (x - t.ctr axis)^2)) x :=
  C02.table_entry_eq_integral s t 1 ka kb axis 1 j i ha hb le_rfl hi

/-- antisymmetry: `⟨a|∂|b⟩ = −⟨b|∂|a⟩` at the level of the Gaussian functional, for all
polynomial prefactors — the exact momentum matrix is purely imaginary antisymmetric, i.e. Hermitian -/
theorem deriv_antisymm {K : Type} [Field K] [CharZero K] (a b PA PB p : K) (hp : p ≠ 0)
    (hab : a + b = p) (hPAB : a * PA + b * PB = 0) (u v : K[X]) :
    G p (u * Dtw b PB v) = - G p (Dtw a PA u * v) :=
  G_mul_Dtw a b PA PB p hp hab hPAB u v

/-- the same for the one-dimensional table entries: exchanging the two functions flips the sign at
first order (and gives `(-1)^k` at order `k`) -/
theorem table_swap {K : Type} [Field K] [CharZero K] (a b PA PB : K) (hp : a + b ≠ 0)
    (hPAB : a * PA + b * PB = 0) (k i j : ℕ) :
    Dspec (a + b) b PA PB k i j = (-1)^k * Dspec (a + b) a PB PA k j i :=
  Dspec_swap a b PA PB hp hPAB k i j

/-- Assembly: a square matrix whose upper triangle (including the diagonal blocks) holds `-i·d`
for a real antisymmetric kernel `d` is Hermitian exactly when the lower triangle is filled with the
*conjugate* transpose.  Entry-level statement over ℂ: with `A r c = -I * d r c` for `r ≤ c` and the
lower triangle `A r c = conj (A c r)`, one has `A r c = -I * d r c` everywhere, provided `d c r = -d r c`. -/
theorem conj_fill_correct (d : ℕ → ℕ → ℝ) (hd : ∀ r c, d c r = - d r c) (A : ℕ → ℕ → ℂ)
    (hup : ∀ r c, r ≤ c → A r c = -Complex.I * (d r c : ℂ))
    (hlow : ∀ r c, c < r → A r c = (starRingEnd ℂ) (A c r)) :
    ∀ r c, A r c = -Complex.I * (d r c : ℂ) := by
  intro r c
  rcases Nat.lt_or_ge c r with h | h
  · rw [hlow r c h, hup c r h.le, hd r c]
    simp [Complex.conj_ofReal]
  · exact hup r c h

/-- the defect that was repaired: with the *plain* transpose in the lower triangle the entry below
the diagonal has the wrong sign whenever the kernel does not vanish there -/
theorem plain_fill_wrong (d : ℕ → ℕ → ℝ) (hd : ∀ r c, d c r = - d r c) (A : ℕ → ℕ → ℂ)
    (hup : ∀ r c, r ≤ c → A r c = -Complex.I * (d r c : ℂ))
    (hlow : ∀ r c, c < r → A r c = A c r) (r c : ℕ) (h : c < r) (hne : d r c ≠ 0) :
    A r c ≠ -Complex.I * (d r c : ℂ) := by
  rw [hlow r c h, hup c r h.le, hd r c]
  intro heq
  have := Complex.ofReal_injective (mul_left_cancel₀ (neg_ne_zero.mpr Complex.I_ne_zero) heq)
  exact hne (by linarith)

end GB.C08
