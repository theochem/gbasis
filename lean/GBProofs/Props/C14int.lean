import GBProofs.FormulaProofs
import GBProofs.Props.C14full
import GBProofs.TraceLaws
/-!
# C14 — the electrostatic potential is the nuclear sum minus the Coulomb potential of the density

`TraceLaws.lean`: `electronic_potential_eq_integral` (Σ γ_ab ⟨a|−q/|r−R||b⟩ = −q ∫ ρ(r)/‖r−R‖ with the
model's point-charge block entries and ρ = Σ γ_ab φ_a φ_b, any real γ), `espHartree_eq_integral`,
`espNuclear_cast` (the model's masked nuclear sum over ℚ read in ℝ: a nucleus contributes `Z/d` unless
`d < t`, whatever its charge) and the composition `espValue_eq`:
`value = Σ_A [d_A < t ? 0 : Z_A/d_A] − ∫ ρ(r)/‖r−R‖`.
-/
namespace GB.C14
alias esp_is_nuclear_minus_coulomb_potential := espValue_eq
alias electronic_term_is_coulomb_integral := electronic_potential_eq_integral
end GB.C14
