import GBProofs.OneElecProofs

/-!
# C03 — point-charge and nuclear-attraction integrals are exact

The specification is the Rys/Boys form `Vspec` (see `OneElecProofs.lean`): the Boys functional
applied to the product of the three per-axis Rys polynomials, for an **arbitrary** sequence `F`
standing for the Boys function.  That this form, with the true Boys function, is the Coulomb
integral (Gaussian transform of `1/r`) is `coulomb_general` in `CoulombGeneral.lean`; see
`C03full.lean`.
-/
namespace GB.C03
variable {K : Type} [Field K]

/-- Vertical recursion: the three written-out passes (x, then y for every x, then z for every
x, y) of `_compute_one_elec_integrals` fill `V[m][a]` with the Rys-form value for every entry with
`m + |a| < m_max` — exactly the part of the table the code later reads. -/
theorem vertical_table_eq_spec (F : ℕ → K) (p pref : K) (PA PB PC : ℕ → K) (mMax : ℕ) (base : ℕ → K)
    (hbase : ∀ m, m < mMax → base m = pref * F m) (az ay ax m : ℕ) (hm : m + ax + ay + az < mMax) :
    (vertXYZ PA PC (Num.nat 1 / (Num.nat 2 * p)) mMax base).get4 az ay ax m
      = pref * Vspec F p PA PB PC m (ax, ay, az) (0,0,0) :=
  vertXYZ_eq_Vspec' F p pref PA PB PC mMax base hbase az ay ax m hm

/-- Horizontal recursion (after contraction): any family satisfying the three transfer
relations — in particular any linear combination over primitive pairs of `Vspec`, since `A - B` does
not depend on the primitives — is reproduced by the three horizontal passes wherever
`|a| + |b| < n`. -/
theorem horizontal_table_eq_spec (AB : ℕ → K) (g : ℕ × ℕ × ℕ → ℕ × ℕ × ℕ → K) (hg : HorizRel AB g)
    (n : ℕ) (h0 : Tab3 K)
    (h00 : ∀ ax ay az, ax + ay + az < n → h0.get3 ax ay az = g (ax, ay, az) (0,0,0)) (lb la : ℕ)
    (bz by' bx ax ay az : ℕ) (hm : ax + ay + az + bx + by' + bz < n) :
    ((horiz3 AB n lb la h0).get3 bz by' bx).get3 ax ay az = g (ax, ay, az) (bx, by', bz) :=
  horiz3_get hg h00 lb la bz by' bx ax ay az hm

theorem contraction_preserves_transfer {ι : Type} (AB : ℕ → K) (s : Finset ι) (c : ι → K)
    (g : ι → ℕ × ℕ × ℕ → ℕ × ℕ × ℕ → K) (hg : ∀ i ∈ s, HorizRel AB (g i)) :
    HorizRel AB (fun a b => ∑ i ∈ s, c i * g i a b) :=
  HorizRel.sum AB s c g hg

/-- The shell swap: when `l_a < l_b` the code exchanges the two shells and transposes the result
back; this is right because the specification is symmetric under the exchange of the two functions. -/
theorem spec_swap (F : ℕ → K) (p : K) (PA PB PC : ℕ → K) (m : ℕ) (a b : ℕ × ℕ × ℕ) :
    Vspec F p PA PB PC m a b = Vspec F p PB PA PC m b a := by
  have h : ∀ (h' x y : Polynomial K) (i j : ℕ), S2 h' x y i j = S2 h' y x j i := by
    intro h' x y i j
    unfold S2
    rw [mul_comm]
  unfold Vspec rysAx rys1
  rw [h _ _ _ a.1, h _ _ _ a.2.1, h _ _ _ a.2.2]

end GB.C03
