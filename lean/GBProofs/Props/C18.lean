import GBModel.Parsers
/-!
# C18 — basis-set import (token-line model)
Round-trip theorems are in `ParserProofs.lean` (see `C18full.lean`); this file holds kernel-evaluated
instances of the model on concrete files, including the three preamble situations of the repaired
defect (zero, one, many lines before the first element): the file without preamble is evaluated as a
whole, a preamble is evaluated on its own and leaves the initial state as it was.
-/
namespace GB.C18
open GB.Parse

def nwFile (pre : List Line) : List Line :=
  pre ++ [["H", "S"], ["0.5D+00", "1.0"], ["0.25", "0.5E-01"], [], ["#", "comment"], ["H", "SP"], ["1.5", "1.0", "-0.5"],
          ["He", "D"], ["0.75", "1.0", "2.0"], ["END"]]

def nwExpected : List (String × List ShellRec) :=
  [("H", [⟨0, ["0.5e+00", "0.25"], [["1.0", "0.5e-01"]]⟩, ⟨0, ["1.5"], [["1.0"]]⟩, ⟨1, ["1.5"], [["-0.5"]]⟩]),
   ("He", [⟨2, ["0.75"], [["1.0"], ["2.0"]]⟩])]

theorem parseNw_pre (pre L : List Line) (h : pre.foldl nwStep {} = {}) :
    parseNw (pre ++ L) = parseNw L := by
  rw [parseNw, List.foldl_append, h]
  rfl

theorem nw_no_preamble : parseNw (nwFile []) = some nwExpected := by decide +kernel
theorem nw_one_line : parseNw (nwFile [["#", "one", "line"]]) = some nwExpected :=
  (parseNw_pre _ (nwFile []) rfl).trans nw_no_preamble
theorem nw_many_lines : parseNw (nwFile [["#", "a"], [], ["BASIS", "\"ao", "basis\"", "PRINT"]]) = some nwExpected :=
  (parseNw_pre _ (nwFile []) rfl).trans nw_no_preamble

def gbsFile (pre : List Line) : List Line :=
  pre ++ [["H", "0"], ["S", "2", "1.00"], ["0.5D+00", "1.0"], ["0.25", "0.5"], ["SP", "1", "1.00"], ["1.5", "1.0", "-0.5"], ["****"],
          ["He", "0"], ["D", "1", "1.00"], ["0.75", "1.0"], ["****"]]

def gbsExpected : List (String × List ShellRec) :=
  [("H", [⟨0, ["0.5e+00", "0.25"], [["1.0", "0.5"]]⟩, ⟨0, ["1.5"], [["1.0"]]⟩, ⟨1, ["1.5"], [["-0.5"]]⟩]),
   ("He", [⟨2, ["0.75"], [["1.0"]]⟩])]

theorem parseGbs_pre (pre L : List Line) (h : pre.foldl gbsStep {} = {}) :
    parseGbs (pre ++ L) = parseGbs L := by
  rw [parseGbs, List.foldl_append, h]
  rfl

theorem gbs_no_preamble : parseGbs (gbsFile []) = some gbsExpected := by decide +kernel
theorem gbs_one_line : parseGbs (gbsFile [["!", "x"]]) = some gbsExpected :=
  (parseGbs_pre _ (gbsFile []) rfl).trans gbs_no_preamble

/-- `make_contractions`: atom order, atom index, coordinate types consumed in order, tuple = list -/
theorem make_contractions_example :
    makeContractions [("H", [⟨0, ["1.0"], [["1.0"]]⟩, ⟨1, ["0.8"], [["1.0"]]⟩])] ["H", "H"]
        (.many ["cartesian", "p", "c", "spherical"])
      = some [⟨0, 0, ["1.0"], [["1.0"]], "cartesian"⟩, ⟨1, 0, ["0.8"], [["1.0"]], "spherical"⟩,
              ⟨0, 1, ["1.0"], [["1.0"]], "cartesian"⟩, ⟨1, 1, ["0.8"], [["1.0"]], "spherical"⟩] := by
  decide +kernel

theorem make_contractions_rejects :
    makeContractions [("H", [⟨0, ["1.0"], [["1.0"]]⟩])] ["H"] (.many ["cartesian", "spherical"]) = none ∧
    makeContractions [("H", [⟨0, ["1.0"], [["1.0"]]⟩])] ["H"] (.one "sph") = none := by
  decide +kernel

end GB.C18
