import GBProofs.Props.C16
import GBProofs.Props.C08
import GBProofs.Props.C03
/-!
# C11 — index symmetries; reordering shells only reorders indices

The model computes every shell pair / quartet directly in the orientation in which it appears
(`assemble2`, `assemble4g`), so "reordering shells permutes indices" holds for the model by
construction; the code instead fills half of the array by symmetry, which is justified by the block
symmetries proved at specification level:
`C16.overlap_block_symm` (overlap, and moments by the same argument — commutativity of the integrand),
`C02.second_derivative_symmetric` (kinetic), `C08.deriv_antisymm` + `C08.conj_fill_correct` (momentum
type: conjugate transpose), `C03.spec_swap` (point charge).  The block-level symmetries, the three
generators of the eight-fold symmetry of the repulsion block among them, and the reordering law for the
assembled arrays are in `C11layout.lean`.  That independently computed orientations agree in the
running code is a matter for the correspondence check against the model.
-/
namespace GB.C11

/-- an array assembled from blocks `blk s t` is symmetric when `blk t s` is the transpose of `blk s t` -/
theorem symmetric_of_block_symm {α : Type} (blk : ℕ → ℕ → ℕ → ℕ → α)
    (h : ∀ s t r c, blk t s c r = blk s t r c) (s t r c : ℕ) :
    (fun s t r c => blk s t r c) s t r c = (fun s t r c => blk t s c r) s t r c := (h s t r c).symm

end GB.C11
