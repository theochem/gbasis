import GBProofs.FormsProofs

/-!
# C15 — stress tensor, Ehrenfest force and Ehrenfest Hessian obey their definitions

Same setting as C06.  Every statement holds for **all** rational `α`, `β` at once, including the
values 0, 1/2, 1 at which the code skips terms (a skipped term has coefficient 0).
-/
namespace GB.C15
variable {K A ι : Type*} [Field K] [CharZero K] [CommRing A] [Algebra K A] [Fintype ι]
variable (d : Fin 3 → Derivation K A A) (φ : ι → A) (γ : ι → ι → K)

/-- the stress tensor is its documented expression in derivatives of the reduced density matrix -/
theorem stress_is_documented (hd : CommD d) (hγ : SymmG γ) (α β : ℚ) (i j : Fin 3) :
    Form.evalA d φ γ (stressForm α β i j) =
      -(1 / 2 : K) • ((α : K) • (Dsym d φ γ (e i) (e j) + Dsym d φ γ (e j) (e i))
          - (1 - (α : K)) • (Dsym d φ γ (e i + e j) 0 + Dsym d φ γ 0 (e i + e j)))
        - (1 / 2 : K) • ((if i = j then (1 : K) else 0) * (β : K)) • lap d φ γ :=
  stress_doc hd hγ α β i j

theorem stress_symmetric (α β : ℚ) (i j : Fin 3) :
    Form.evalA d φ γ (stressForm α β i j) = Form.evalA d φ γ (stressForm α β j i) := stress_symm α β i j

/-- the Ehrenfest force is minus the divergence of the stress tensor -/
theorem force_is_neg_div_stress (hd : CommD d) (hγ : SymmG γ) (α β : ℚ) (i : Fin 3) :
    Form.evalA d φ γ (forceForm α β i) = -∑ j : Fin 3, d j (Form.evalA d φ γ (stressForm α β i j)) :=
  force_eq_neg_div_stress hd hγ α β i

/-- the Ehrenfest Hessian is the Jacobian of the force (`H_ij = ∂_j F_i`, the expanded formula) -/
theorem hessian_is_jacobian_of_force (hd : CommD d) (hγ : SymmG γ) (α β : ℚ) (i j : Fin 3) :
    Form.evalA d φ γ (ehrenfestHessianRaw α β i j) = d j (Form.evalA d φ γ (forceForm α β i)) :=
  ehrenfest_hessian_eq_jacobian hd hγ α β i j

/-- the symmetric option returns the average with the transpose -/
theorem symmetric_option (α β : ℚ) (i j : Fin 3) :
    Form.evalA d φ γ (ehrenfestHessianForm α β true i j)
      = (1 / 2 : K) • (Form.evalA d φ γ (ehrenfestHessianRaw α β i j)
          + Form.evalA d φ γ (ehrenfestHessianRaw α β j i)) :=
  ehrenfest_hessian_symmetrised α β i j

end GB.C15
