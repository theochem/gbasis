import GBProofs.FormulaProofs
import GBProofs.Props.C06
import GBProofs.Props.C15
import GBProofs.SmoothInstance
import GBProofs.ArrayDefiniteness
import GBProofs.FormsBridge
/-!
# C05 / C06 / C15 — the abstract differential-ring theorems read pointwise on genuine smooth functions

`SmoothInstance.lean` constructs the instance that `FormsProofs.lean` left abstract: `Smooth3`, the ℝ-algebra of
C^∞ functions on Euclidean 3-space, with the three partial derivatives `pd` as derivations and `pd_comm : CommD pd`
(symmetry of second derivatives).  Hence every theorem of C06 / C15 holds pointwise for real functions:
`gradient_pointwise`, `hessian_pointwise`, `laplacian_pointwise` (`laplacian_pointwise'`: = Mathlib's Laplacian), `derivDensity_pointwise`
(every order triple), `posdefKE_pointwise`, `generalKE_pointwise`, `stress_pointwise`, `force_pointwise`
(force = −div stress with genuine `fderiv`), `ehrenfestHessian_pointwise` (Hessian = Jacobian of the force).
The model's basis functions are elements of that algebra (`shellSmooth`), their derivatives of every order are what
the evaluation model computes (`dpow_shellSmooth_apply`, `dpow_shellSmooth_eq_axisGeneral`,
`evalBlock_general_eq_dpow`): the values returned by the model of `evaluate_deriv_basis` are the genuine
partial derivatives of the genuine basis functions, which ties C05 to C06/C15.
So "a differential ring stands for the smooth functions" is a theorem here and not an assumption.
-/
/-! Non-negativity (`ArrayDefiniteness.lean`): for a positive semi-definite density matrix (in particular `C n Cᵀ` with
occupations `n ≥ 0`, `psd_of_occupations`) the density and the positive-definite kinetic energy density are non-negative at every
point: `rho_nonneg`, `posdefKE_nonneg` — so the clipping rule never rejects such input in exact arithmetic. -/
namespace GB.C06
alias density_nonneg_of_psd := rho_nonneg
alias posdef_kinetic_density_nonneg_of_psd := posdefKE_nonneg
alias gradient_is_genuine_derivative := gradient_pointwise
alias deriv_density_is_genuine_derivative := derivDensity_pointwise
end GB.C06

/-! `FormsBridge.lean`: the value that the *model* computes for a form — `Form.eval` on the numbers `D(p;q) = Σ γ_rc d^p_r d^q_c` built from
the entries of its one-index derivative arrays (`modelForm`) — is the interpretation of that form on the genuine smooth basis functions
(`formVal_eq_modelForm`, for every form and every γ; `modelD1_eq_iteratedFDeriv`: an entry of the derivative array is the iterated Fréchet
derivative of `basisFnE`).  So the pointwise theorems above are statements about the numbers the compiled model prints. -/
namespace GB.C06
alias model_value_is_smooth_interpretation := formVal_eq_modelForm
end GB.C06
