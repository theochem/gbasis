import GBProofs.MomTab
import GBProofs.GaussIntegral
import GBProofs.RealInst

/-!
# C01 — overlap integrals are exact and every basis function is unit-normalised
-/
open MeasureTheory Real

namespace GB.C01

/-- The recursion table of the code is the integral: for every pair of primitives with
positive exponents, every axis, every moment order `k` and angular indices `j` (right), `i` (left)
— no bound — the entry `integrals[k, j, i, axis, kb, ka]` that the model of
`_compute_multipole_moment_integrals_intermediate` produces is the one-dimensional integral
`∫ (x-A)^i (x-B)^j (x-O)^k e^{-a(x-A)²} e^{-b(x-B)²} dx`. -/
theorem table_entry_eq_integral (s t : Shell ℝ) (origin : ℕ → ℝ) (nk ka kb axis k j i : ℕ)
    (ha : 0 < s.exp! ka) (hb : 0 < t.exp! kb) :
    (momAx s t origin nk ka kb axis).get3 k j i
      = ∫ x : ℝ, (x - s.ctr axis)^i * (x - t.ctr axis)^j * (x - origin axis)^k
          * (exp (-(s.exp! ka) * (x - s.ctr axis)^2) * exp (-(t.exp! kb) * (x - t.ctr axis)^2)) := by
  have hp : s.exp! ka + t.exp! kb ≠ 0 := by positivity
  rw [gauss_product_integral _ _ _ _ _ ha hb]
  simp only [momAx, pair1D]
  have h2 : (Num.nat 1 : ℝ) / (Num.nat 2 * (s.exp! ka + t.exp! kb)) = 1 / (2 * (s.exp! ka + t.exp! kb)) := by
    simp
  rw [h2, momTab_eq _ _ _ _ _ hp]
  simp only [Transc.sqrt, Transc.pi, Transc.exp]

/-- Unit normalisation (Cartesian component): with `norm_cont` as the code computes it
(`einsum("ijij->ij")` of the shell's own overlap block, to the power `-1/2`), the normalised
self-overlap of segment `m`, component `c` is exactly 1 whenever the raw self-overlap is positive
(it is the integral of the square of a non-zero function). -/
theorem cart_diag_one (s : Shell ℝ) (m c : ℕ) (hn : s.unitNorm = true)
    (hpos : 0 < (overlapBlock s s).get4 m c m c) :
    (overlapBlock s s).get4 m c m c * (normCont s).get2 m c * (normCont s).get2 m c = 1 := by
  simp only [normCont, hn, if_true, tab2_get]
  simp only [Transc.sqrt, num_nat, Nat.cast_one]
  have h := Real.sq_sqrt hpos.le
  have hs : Real.sqrt ((overlapBlock s s).get4 m c m c) ≠ 0 := (Real.sqrt_pos.mpr hpos).ne'
  field_simp
  exact h.symm

end GB.C01
