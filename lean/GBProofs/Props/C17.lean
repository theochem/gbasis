import GBProofs.GramLaws
import GBProofs.Props.C16
/-!
# C17 — positivity and Schwarz bounds
`GramLaws.lean`: any Gram matrix in a real inner-product space is symmetric positive semi-definite
with `|S_ab| ≤ √(S_aa S_bb)` (`gram_psd`, `gram_abs_le`, `gram_sq_le`, `gram_abs_le_one`), half a Gram
matrix is PSD (`half_gram_psd`, kinetic), minus a non-negative multiple is NSD (`neg_gram_nsd`).
`C16.overlap_eq_integral_of_eval` identifies the model's overlap block with the L² inner product of the
evaluated functions.  For the Coulomb-type matrices the Gram structure rests on the positivity of the
Coulomb kernel (`Definiteness.lean`, collected in `C17full.lean`); the implementation's eigenvalues are
measured directly by the check.
-/
namespace GB.C17
variable {E : Type*} [NormedAddCommGroup E] [InnerProductSpace ℝ E] {n : ℕ}

theorem overlap_type_psd (f : Fin n → E) (x : Fin n → ℝ) :
    0 ≤ ∑ a, ∑ b, x a * gramMat f a b * x b := gram_psd f x

theorem schwarz (f : Fin n → E) (a b : Fin n) : gramMat f a b ^ 2 ≤ gramMat f a a * gramMat f b b :=
  gram_sq_le f a b

end GB.C17
