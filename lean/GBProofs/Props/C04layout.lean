import GBProofs.FormulaProofs
import GBProofs.Props.C04full
import GBProofs.Layout14
/-!
# C04 / C05 / C09 — layout of the four-index and one-index arrays of the model

`Layout14.lean`: `assemble4g_get` (row-major, chemists' order), `entry4_layout` (the entry at
`(offset_i + m·L + f, …)` is the normalised, transformed quartet block entry of the four shells the
indices belong to), `wBlock4_get8` (four nested weight stages; Cartesian: product of the four `norm_cont`
entries times the raw block entry), `entry4_append` / `assemble4g_append` (four different bases = block of
the union), `entry4_middle_swap` / `assemble4g_middle_swap` (physicists' notation = chemists' with the
two middle indices exchanged, for the assembled arrays, any shells); `entry1_layout`, `assemble1_get`
for `BaseOneIndex` (evaluations).
-/
namespace GB.C04
alias physicist_is_middle_swap_of_arrays := assemble4g_middle_swap
alias four_index_layout := entry4_layout
end GB.C04
