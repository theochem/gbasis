import GBProofs.OneElecProofs
import GBProofs.EriBlock

/-!
# C04 — electron-repulsion integrals

Specification in Rys form: `Vspec2` for `[a0|00]^{(m)}` and `Espec` for `[a0|c0]^{(m)}`, the latter
defined through the two-variable Gaussian (Wick) functional over `K[s]`, again for an arbitrary
sequence `F` in place of the Boys function.  Horizontal recursions are shared with C03
(`horiz3_get`).  The analytic side (Gaussian transform of `1/r₁₂`, the six-dimensional integral) is in
`C04full.lean`.
-/
namespace GB.C04
variable {K : Type} [Field K]

/-- vertical recursion of `_compute_two_elec_integrals` = Rys form, on `m + |a| < m_max` -/
theorem vertical_table_eq_spec (F : ℕ → K) (p w pref : K) (PA WQ : ℕ → K) (mMax : ℕ) (base : ℕ → K)
    (hbase : ∀ m, m < mMax → base m = pref * F m) (az ay ax m : ℕ) (hm : m + ax + ay + az < mMax) :
    (vert2 PA WQ (Num.nat 1 / (Num.nat 2 * p)) w mMax base).get4 az ay ax m
      = pref * Vspec2 F p w PA WQ m (ax, ay, az) :=
  vert2_eq_Vspec2' F p w pref PA WQ mMax base hbase az ay ax m hm

/-- electron transfer: the table `integrals_etransf` built from the vertical table equals the Rys
form of `[a0|c0]` wherever `|a| + |c| < m_max` (the relation the code uses is `p·`(first RDK
recurrence) `+ q·`(second), in which the Rys variable cancels) -/
theorem etransfer_table_eq_spec [CharZero K] (F : ℕ → K) (p q w w' pref : K) (PA QC PQ : ℕ → K)
    (hp : p ≠ 0) (hq : q ≠ 0) (hpq : p + q ≠ 0) (hw : w * (p + q) = q) (hw' : w' * (p + q) = p)
    (mMax lcd : ℕ) (base : ℕ → K) (hbase : ∀ m, m < mMax → base m = pref * F m) (v0 : Tab3 K)
    (hv0 : ∀ ax ay az, ax + ay + az < mMax → v0.get3 ax ay az
      = (vert2 PA (fun u => w * PQ u) (Num.nat 1 / (Num.nat 2 * p)) w mMax base).get4 az ay ax 0)
    (cz cy cx ax ay az : ℕ) (hm : ax + ay + az + cx + cy + cz < mMax) :
    ((etransf (fun u => QC u + p / q * PA u) (p / q) (Num.nat 1 / (Num.nat 2 * q)) mMax lcd
        v0).get3 cz cy cx).get3 ax ay az
      = pref * Espec F p q w w' PA QC PQ 0 (ax, ay, az) (cx, cy, cz) :=
  etransf_vert2_eq_Espec F p q w w' pref PA QC PQ hp hq hpq hw hw' mMax lcd base hbase v0 hv0
    cz cy cx ax ay az hm

/-- the code's weight `harm_mean / exps_sum_one` (`harm_mean = pq/(p+q)`) meets hypothesis `hw` of `etransfer_table_eq_spec`; `hw'` is the same identity
with `p` and `q` exchanged -/
theorem weights_ok (p q : K) (hp : p ≠ 0) (hpq : p + q ≠ 0) :
    (p * q / (p + q) / p) * (p + q) = q := by
  field_simp

/-- physicists' notation is chemists' with the two middle indices exchanged (the code's final
`transpose (0, 2, 1, 3)`): as a statement about index functions -/
theorem physicist_is_middle_swap {α : Type} (chem : ℕ → ℕ → ℕ → ℕ → α) (i j k l : ℕ) :
    (fun a b c d => chem a c b d) i j k l = chem i k j l := rfl

/-- (`EriBlock.lean`) the whole code path of
`ElectronRepulsionIntegral.construct_array_contraction` — closed form for four s shells, otherwise vertical
recursion, electron transfer, contraction over the four primitive indices, horizontal recursion `c → d`
and `a → b`, component selection, angular norms, final axis order — computes the contracted Rys form
`eriRys`, whose primitive factor is `E4` (the closure of the Wick/Rys form `Espec` of `[a0|c0]` under the
two horizontal relations), for arbitrary angular momenta and any Boys table. -/
alias block_is_contracted_rys_form := eriBlock_eq_rys

end GB.C04
