import GBProofs.TranslationLaws
/-!
# C12 — covariance under rigid motions: translations and axis reflections of the one-dimensional factors

`TranslationLaws.lean`: every parameter of the one-dimensional recursions depends on centres, and on
the moment origin, only through differences (`pair1D_translate`), hence the tables and the overlap /
moment / derivative / kinetic blocks of the model are invariant under a common translation
(`momentBlock_translate_real`, `overlapBlock_translate_real`, `kineticBlock_translate_real`,
`diffBlock_translate`); a reflection of one axis multiplies the one-dimensional factor by the parity
`(-1)^{i+j+k}` (`S3_neg`, `Dspec_neg`).  Covariance under every rigid motion (general rotations
included) is in `Props/C12full.lean`.
-/
namespace GB.C12

theorem reflection_parity {K : Type} [Field K] [CharZero K] (p PA PB PC : K) (i j k : ℕ) :
    S3 p (-PA) (-PB) (-PC) i j k = (-1)^(i+j+k) * S3 p PA PB PC i j k := S3_neg p PA PB PC i j k

end GB.C12
