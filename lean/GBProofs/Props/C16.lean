import GBProofs.Block3D
import GBProofs.Props.C07

/-!
# C16 — analytic integrals and pointwise evaluations describe the same functions
(and the block-level forms of C01, C02, C07)

`shellFn s m c` is the contracted, primitive-normalised Cartesian function of segment `m`,
component `c` of shell `s`; `evalBlock_eq_shellFn` says it is what the *evaluation* half of the
library computes, and the theorems below say that the *integral* half integrates exactly these
functions — same primitive norms, same component order, same sign.
-/
open MeasureTheory

namespace GB.C16

/-- the evaluation model at derivative order zero is the function `shellFn` -/
theorem eval_is_shellFn (s : Shell ℝ) (pts : Array (ℕ → ℝ)) (m c p : ℕ) (r : ℝ × ℝ × ℝ)
    (hp : p < pts.size) (h0 : pts[p] 0 = r.1) (h1 : pts[p] 1 = r.2.1) (h2 : pts[p] 2 = r.2.2) :
    (evalBlock s .general (0,0,0) pts).get3 m c p = shellFn s m c r :=
  evalBlock_eq_shellFn s pts m c p r hp h0 h1 h2

/-- overlap block = integral of the product of the evaluated functions (all shells, any number
of primitives and segments, any angular momentum) -/
theorem overlap_eq_integral_of_eval (s t : Shell ℝ) (ma ca mb cb : ℕ)
    (hs : ∀ k < s.nprim, 0 < s.exp! k) (ht : ∀ k < t.nprim, 0 < t.exp! k) :
    (overlapBlock s t).get4 ma ca mb cb = ∫ r : ℝ × ℝ × ℝ, shellFn s ma ca r * shellFn t mb cb r :=
  overlapBlock_eq_integral s t ma ca mb cb hs ht

/-- moment block = integral of the product of the evaluated functions times the moment monomial -/
theorem moment_eq_integral_of_eval (s t : Shell ℝ) (O : ℕ → ℝ) (orders : List Comp) (d ma ca mb cb : ℕ)
    (hs : ∀ k < s.nprim, 0 < s.exp! k) (ht : ∀ k < t.nprim, 0 < t.exp! k) :
    ((momentBlock s t O orders).get d).get4 ma ca mb cb
      = ∫ r : ℝ × ℝ × ℝ, shellFn s ma ca r * shellFn t mb cb r
          * ((r.1 - O 0)^(orders.getD d (0,0,0)).1 * (r.2.1 - O 1)^(orders.getD d (0,0,0)).2.1
              * (r.2.2 - O 2)^(orders.getD d (0,0,0)).2.2) :=
  momentBlock_eq_integral s t O orders d ma ca mb cb hs ht

/-- kinetic block = ∫ φ_a (−½ Δ φ_b) with the second derivatives of the evaluated function -/
theorem kinetic_eq_integral_of_eval (s t : Shell ℝ) (ma ca mb cb : ℕ)
    (hs : ∀ k < s.nprim, 0 < s.exp! k) (ht : ∀ k < t.nprim, 0 < t.exp! k)
    (hc : (s.comp! ca).1 ≤ s.l ∧ (s.comp! ca).2.1 ≤ s.l ∧ (s.comp! ca).2.2 ≤ s.l) :
    (kineticBlock s t).get4 ma ca mb cb
      = ∫ r : ℝ × ℝ × ℝ, shellFn s ma ca r * (-(1/2) * (shellDerivFn t mb cb (2,0,0) r
          + shellDerivFn t mb cb (0,2,0) r + shellDerivFn t mb cb (0,0,2) r)) :=
  kineticBlock_eq_integral s t ma ca mb cb hs ht hc

/-- the derivative evaluation of the library is the function differentiated in the kinetic theorem -/
theorem evalderiv_is_shellDerivFn (s : Shell ℝ) (o : Comp) (pts : Array (ℕ → ℝ)) (m c p : ℕ)
    (r : ℝ × ℝ × ℝ) (hs : ∀ k < s.nprim, 0 < s.exp! k) (hp : p < pts.size)
    (h0 : pts[p] 0 = r.1) (h1 : pts[p] 1 = r.2.1) (h2 : pts[p] 2 = r.2.2) :
    (evalBlock s .general o pts).get3 m c p = shellDerivFn s m c o r :=
  evalBlock_general_eq_shellDerivFn s o pts m c p r hs hp h0 h1 h2

/-- symmetry of the overlap block (justifies filling the lower triangle by transposition) -/
theorem overlap_block_symm (s t : Shell ℝ) (ma ca mb cb : ℕ)
    (hs : ∀ k < s.nprim, 0 < s.exp! k) (ht : ∀ k < t.nprim, 0 < t.exp! k) :
    (overlapBlock s t).get4 ma ca mb cb = (overlapBlock t s).get4 mb cb ma ca :=
  overlapBlock_symm s t ma ca mb cb hs ht

/-- unit normalisation: with `norm_cont` as the code computes it the normalised self-overlap of
every Cartesian function that does not vanish identically is exactly 1 -/
theorem normalised_diag_one (s : Shell ℝ) (m c : ℕ) (hn : s.unitNorm = true)
    (hs : ∀ k < s.nprim, 0 < s.exp! k) (r₀ : ℝ × ℝ × ℝ) (h0 : shellFn s m c r₀ ≠ 0) :
    (overlapBlock s s).get4 m c m c * (normCont s).get2 m c * (normCont s).get2 m c = 1 :=
  C01.cart_diag_one s m c hn (selfOverlap_pos s m c hs r₀ h0)

end GB.C16
