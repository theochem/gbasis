import GBProofs.Props.C16
import GBProofs.Layout
import GBProofs.SphericalNorm
import GBProofs.ArrayDefiniteness
import GBProofs.OriginShift
import GBProofs.ArrayAsym
/-!
# C01 / C07 — documented layout and "asymmetric = block of the union"
`Layout.lean`: `locate_offset` / `locate_lt` (basis index ↔ (shell, segment, function): shell, then
segmented contraction, then angular component), `entry2_layout` (the entry at
`(offset_i + m·L' + f, offset_j + n·L'' + g, e)` is the normalised, transformed block entry `(m,f,n,g)` of
shells `(i, j)`), `assemble2_get` (row-major flat array), `entry2_append` / `assemble2_append`
(**the array of two different bases is the off-diagonal block of the array of their union**, for every
block function that depends only on the two shells — overlap in particular).
-/

/-! `SphericalNorm.lean`: the overlap metric of the unit-normalised Cartesian functions of one shell is the universal
`Sov` (`normalised_overlap_same_shell`, from the one-centre structure `metric · Φ_m` of the recursion tables), hence with the
kernel-checked orthonormality of the solid-harmonic rows the same-segment block of a spherical shell is the identity
(`spherical_block_orthonormal`, l ≤ 10) and **every diagonal entry of the model's overlap array is 1**
(`overlap_array_diag_one`, Cartesian and spherical shells). -/
namespace GB.C01
alias every_function_unit_normalised := overlap_array_diag_one
end GB.C01

/-! `OriginShift.lean` (C07): the entry for an order list depends only on the triple at that position
(`momentBlock_entry_order_indep`), order (0,0,0) is the overlap block (`momentBlock_order0_eq_overlap`), and moving the origin
changes the block by the binomial expansion in lower moments (`momentBlock_origin_shift`, `_list`, `momentBlock_dipole_shift`). -/
namespace GB.C07
alias block_origin_shift := momentBlock_origin_shift_list
alias block_order_zero_is_overlap := momentBlock_order0_eq_overlap
end GB.C07

/-! `ArrayAsym.lean` (C01, second half; C12 / C13 for two bases): the array of **two different bases** (`overlap_integral_asymmetric`)
under a rigid motion of both (`overlap_asym_array_moved`, `overlap_asym_array_translate`, from the generic
`entry2_moved_of_blocks_asym` of `ArrayMotion.lean`; `eri_array_moved_g` for four different bases, from `entry4_moved_of_blocks_g` of
`ArrayMotion2.lean`) and under the contraction rewrites of a shell of either
basis (`overlap_asym_flat_splitColumns_left/_right`, likewise `…_permPrims_left/_right`, `…_splitPrim_left/_right`,
`…_scaleColumn_pos_left/_right`, `…_scaleColumn_neg_left/_right`; generic `entry2_replaced_of_blocks_asym` in `ArrayContraction.lean`). -/
namespace GB.C01
alias asymmetric_overlap_covariant := overlap_asym_array_moved
alias asymmetric_overlap_split_columns := overlap_asym_flat_splitColumns_left
end GB.C01
