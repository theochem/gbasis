import GBProofs.DiffTab
import GBProofs.RealInst

/-!
# C02 — kinetic-energy integrals are exact
-/
open MeasureTheory Real

namespace GB.C02

/-- The padded derivative table of the code is the integral of a Gaussian against the k-th
derivative of the other Gaussian, for every order `k ≤ dmax` and every left index `i ≤ l_a`
(this is where the padding of the table by the derivative order is needed), every right index `j`:
`(diffAx s t dmax ka kb axis)[k][j][i] = ∫ (x-A)^i e^{-a(x-A)²} · dᵏ/dxᵏ[(x-B)^j e^{-b(x-B)²}] dx`. -/
theorem table_entry_eq_integral (s t : Shell ℝ) (dmax ka kb axis k j i : ℕ)
    (ha : 0 < s.exp! ka) (hb : 0 < t.exp! kb) (hk : k ≤ dmax) (hi : i ≤ s.l) :
    (diffAx s t dmax ka kb axis).get3 k j i
      = ∫ x : ℝ, (x - s.ctr axis)^i * exp (-(s.exp! ka) * (x - s.ctr axis)^2)
          * iteratedDeriv k (fun x => (x - t.ctr axis)^j * exp (-(t.exp! kb) * (x - t.ctr axis)^2)) x := by
  have hp : s.exp! ka + t.exp! kb ≠ 0 := by positivity
  rw [Dspec_eq_integral _ _ _ _ ha hb]
  simp only [diffAx, pair1D, Transc.sqrt, Transc.pi, Transc.exp, num_nat, Nat.cast_one, Nat.cast_ofNat]
  refine diffTab_eq _ _ _ _ _ hp ?_ _ _ _ k j i hk hi
  field_simp
  ring

/-- the kinetic-energy matrix is symmetric at the level of the Gaussian functional:
`⟨u| D² v⟩ = ⟨D² u| v⟩` (two integrations by parts), so the transposed lower triangle is right -/
theorem second_derivative_symmetric {K : Type} [Field K] [CharZero K] (a b PA PB p : K) (hp : p ≠ 0)
    (hab : a + b = p) (hPAB : a * PA + b * PB = 0) (u v : Polynomial K) :
    G p (u * Dtw b PB (Dtw b PB v)) = G p (Dtw a PA (Dtw a PA u) * v) :=
  G_mul_Dtw_Dtw a b PA PB p hp hab hPAB u v

end GB.C02
