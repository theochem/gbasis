import GBProofs.Harmonics
import GBProofs.SphericalNorm
import GBProofs.SphRotation

/-!
# C10 — the Cartesian-to-spherical matrix is the set of real regular solid harmonics

The quantifier is finite (`l ≤ 10`) and is enumerated completely in the kernel (`decide +kernel`
in `GBProofs/Harmonics/**`).
-/
namespace GB.C10

theorem harmonic (l : ℕ) (hl : l ≤ 10) (m : ℕ) (neg : Bool) (hm : m ≤ l) (hneg : neg = true → 1 ≤ m) :
    ∑ i : Fin 3, MvPolynomial.pderiv i (MvPolynomial.pderiv i (toMv (GB.harmonic l m neg))) = 0 :=
  harmonic_le_10_mv l hl m neg hm hneg

theorem homogeneous (l : ℕ) (hl : l ≤ 10) (m : ℕ) (neg : Bool) (hm : m ≤ l) (hneg : neg = true → 1 ≤ m) :
    (toMv (GB.harmonic l m neg)).IsHomogeneous l :=
  homogeneous_le_10_mv l hl m neg hm hneg

/-- rows of the matrix generated for any accepted order/sign convention are orthonormal in the
metric of unit-normalised Cartesian functions -/
theorem rows_orthonormal (l : ℕ) (hl : l ≤ 10) (labels : List String) (ls : List SphLabel)
    (h : validSphOrder l labels = some ls) (i j : ℕ) (hi : i < ls.length) (hj : j < ls.length) :
    gram l (defaultCart l) ls[i] ls[j] = if i = j then 1 else 0 :=
  rows_orthonormal_valid l hl labels ls h i j hi hj

/-- the `2l+1` generated functions are *the* solid harmonics: they span the whole space of homogeneous harmonic polynomials of
degree `l` (whose dimension is `2l+1`), for `l ≤ 10` -/
alias span_all_harmonics := sphFam_span
alias harmonic_space_dimension := finrank_Harm

end GB.C10
