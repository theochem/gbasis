import GBModel.Dispatch
/-!
# Dispatch of the public wrappers: the criterion `stdOk` implies the documented decision

`stdOk` is what `wrapperOk` asks of every wrapper but `overlap_integral_asymmetric`.  Over a *list* of coordinate
types the standard four-way chain selects exactly what the documentation promises and hands the complete list to the
method (`select_std`), and disjuncts that compare the list with a string never fire (`evalG_normG`); hence every wrapper
accepted by `stdOk` behaves canonically (`stdOk_sound`).  Over a *generator* the same chain is wrong, because the first
`all` consumes it: a Cartesian shell followed by a spherical one is sent to the spherical branch (`generator_defect`), and for
the opposite order `construct_array_mix` receives an empty list (`generator_defect_mix`).
-/
namespace GB.Dispatch

theorem evalG_list_state (ht : Bool) (g : G) (st : List String) (r : Bool) (st' : List String)
    (h : evalG .list ht g st = some (r, st')) : st' = st := by
  induction g generalizing st r st' with
  | or a b iha ihb =>
    simp only [evalG] at h
    split at h
    · cases h
    · next s1 ha => cases h; exact iha _ _ _ ha
    · next s1 ha => rw [iha _ _ _ ha] at h; exact ihb _ _ _ h
  | not a iha =>
    simp only [evalG] at h
    split at h
    · cases h
    · next r' s1 ha => cases h; exact iha _ _ _ ha
  | other s => cases h
  | _ => cases h; rfl

/-- over a list, `g ∨ (var == "literal")` is `g` -/
theorem evalG_normG (ht : Bool) (g : G) (st : List String) :
    evalG .list ht (normG g) st = evalG .list ht g st := by
  fun_induction normG g generalizing st with
  | case1 a v l ih =>
    -- the state stays, so the string comparison is evaluated on `st` and is false
    rw [ih, evalG]
    split
    · assumption
    · assumption
    · next s1 ha => rw [ha, evalG_list_state ht a st false s1 ha]; rfl
  | case2 a b _ iha ihb =>
    simp only [evalG, iha]
    split
    · rfl
    · rfl
    · exact ihb _
  | case3 a ih => simp only [evalG, ih]
  | case4 => rfl

theorem select_norm (ht : Bool) (bs : List Branch) (st : List String) :
    select .list ht (bs.map Branch.norm) st = select .list ht bs st := by
  induction bs generalizing st with
  | nil => rfl
  | cons b bs ih =>
    simp only [List.map, select, Branch.norm, evalG_normG]
    cases h : evalG .list ht b.guard st with
    | none => rfl
    | some p =>
      obtain ⟨r, s1⟩ := p
      cases r <;> simp [ih]

/-- the standard chain over a list is the documented decision, for all inputs -/
theorem select_std (v : String) (extras : List String) (ht : Bool) (types : List String) :
    select .list ht (stdBranches v extras) types = some (canon ht types) := by
  cases ht
  · simp only [stdBranches, select, evalG, canon]
    cases h1 : types.all (· == "cartesian")
    · cases h2 : types.all (· == "spherical")
      · simp only [h2]; simp
      · simp only [h2]; simp
    · simp
  · simp [stdBranches, select, evalG, canon]

theorem stdOk_branches (w : Wrapper) (h : stdOk w = true) :
    ∃ v, w.branches.map Branch.norm = stdBranches v (extrasOf w.params) := by
  unfold stdOk at h
  split at h
  · simp only [Bool.and_eq_true, beq_iff_eq] at h
    exact ⟨_, h.2⟩
  · cases h

/-- a wrapper accepted by `stdOk` selects the documented method and hands
it the complete list of coordinate types, for every basis and with or without a transformation -/
theorem stdOk_sound (w : Wrapper) (h : stdOk w = true) (ht : Bool) (types : List String) :
    select .list ht w.branches types = some (canon ht types) := by
  obtain ⟨v, hb⟩ := stdOk_branches w h
  rw [← select_norm, hb, select_std]

/-- every accepted standard wrapper forwards exactly its remaining parameters by keyword in every branch -/
theorem stdOk_forwards (w : Wrapper) (h : stdOk w = true) :
    ∀ b ∈ w.branches, b.kws = extrasOf w.params := by
  obtain ⟨v, hb⟩ := stdOk_branches w h
  intro b hmem
  have : b.norm ∈ stdBranches v (extrasOf w.params) := hb ▸ List.mem_map_of_mem hmem
  simp only [stdBranches, List.mem_cons, List.not_mem_nil, or_false] at this
  rcases this with h' | h' | h' | h' <;> exact (congrArg Branch.kws h' : b.norm.kws = _)

/-- the same chain over a generator sends (Cartesian, spherical) to the spherical branch … -/
theorem generator_defect :
    select .generator false (stdBranches "coord_type" []) ["cartesian", "spherical"]
      = some ("construct_array_spherical", []) := by decide +kernel

/-- … and hands `construct_array_mix` an empty list for (spherical, Cartesian) -/
theorem generator_defect_mix :
    select .generator false (stdBranches "coord_type" []) ["spherical", "cartesian"]
      = some ("construct_array_mix", []) := by decide +kernel

/-- a mixed-branch call that drops a keyword is rejected -/
theorem dropped_keyword_rejected :
    stdOk { fn := "overlap_integral", params := ["basis", "transform", "tol_screen"], ctorArgs := ["basis"],
            coordVars := [⟨"coord_type", .list, "basis"⟩],
            branches := [⟨.transform, "construct_array_lincomb", ["transform", "coord_type"], ["tol_screen"]⟩,
              ⟨.allEq "coord_type" "cartesian", "construct_array_cartesian", [], ["tol_screen"]⟩,
              ⟨.allEq "coord_type" "spherical", "construct_array_spherical", [], ["tol_screen"]⟩,
              ⟨.otherwise, "construct_array_mix", ["coord_type"], []⟩] } = false := by decide +kernel

/-- types of the second basis collected from the first one are rejected -/
theorem asym_wrong_source_rejected :
    asymOk { fn := "overlap_integral_asymmetric", params := [], ctorArgs := ["basis_one", "basis_two"],
             coordVars := [⟨"coord_type_one", .list, "basis_one"⟩, ⟨"coord_type_two", .list, "basis_one"⟩],
             branches := [⟨.otherwise, "construct_array_lincomb",
               ["transform_one", "transform_two", "coord_type_one", "coord_type_two"], []⟩] } = false := by
  decide +kernel

end GB.Dispatch
