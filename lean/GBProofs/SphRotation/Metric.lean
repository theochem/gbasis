import GBProofs.SphRotation.Model
import GBProofs.SphericalNorm
/-!
# The one-centre overlap metric `Sov` is invariant under the representation matrices
-/
namespace GB
open MvPolynomial Finset Real

lemma sph_normRad_pos (α : ℝ) (hα : 0 < α) (l : ℕ) : 0 < (normRad α l : ℝ) := by
  have hpi := Real.pi_pos
  unfold normRad pow34 powHalf
  simp only [powN_eq_pow, num_nat, Transc.sqrt, Transc.pi]
  split_ifs <;> positivity

lemma sph_radF_pos (l : ℕ) (p : ℝ) (hp : 0 < p) : 0 < radF l p := by
  have hpi := Real.pi_pos
  unfold radF
  positivity

noncomputable def probeShell (l : ℕ) (cart : List Comp) : Shell ℝ :=
  { l := l, ctr := fun _ => 0, exps := #[1], coefs := #[#[1]], sph := false, cart := cart,
    sphOrd := [], unitNorm := true }

lemma segPhi_probe_pos (l : ℕ) (cart : List Comp) : 0 < segPhi (probeShell l cart) 0 := by
  have h1 := sph_normRad_pos 1 one_pos l
  have h2 := sph_radF_pos l (1 + 1) (by norm_num)
  have e : segPhi (probeShell l cart) 0
      = (1 * normRad 1 l) * (1 * normRad 1 l) * radF l (1 + 1) := by
    unfold segPhi
    rw [show (probeShell l cart).nprim = 1 from rfl, Finset.sum_range_one, Finset.sum_range_one]
    rfl
  rw [e]
  positivity

theorem repMat_Sov (R : E3 ≃ₗᵢ[ℝ] E3) {l : ℕ} {cart : List Comp} (hf : FullCart l cart)
    {a b : ℕ} (ha : a < cart.length) (hb : b < cart.length) :
    ∑ a' ∈ range cart.length, ∑ b' ∈ range cart.length,
        repMat R.toLinearEquiv.toLinearMap cart a a' * repMat R.toLinearEquiv.toLinearMap cart b b'
          * Sov (cart.getD a' (0,0,0)) (cart.getD b' (0,0,0))
      = Sov (cart.getD a (0,0,0)) (cart.getD b (0,0,0)) := by
  set s := probeShell l cart
  have hs : ∀ k, k < s.nprim → 0 < s.exp! k := fun k hk => by
    obtain rfl : k = 0 := Nat.lt_one_iff.mp hk
    exact one_pos
  have hdeg : ∀ c, c < cart.length → (s.comp! c).deg = s.l := fun c hc => hf.degree hc
  -- the overlap block of the probe shell rotated by `R`, computed directly and by covariance
  have h := overlapBlock_moved (rigid R 0) s s 0 a 0 b hs hs hf hf ha hb
  rw [show linPart (rigid R 0) = R.toLinearEquiv.toLinearMap by unfold linPart; rw [rigid_linear],
    overlapBlock_same_shell (s.moved (rigid R 0)) 0 a b hs (hdeg a ha) (hdeg b hb),
    Finset.sum_congr rfl fun a' ha' => Finset.sum_congr rfl fun b' hb' => by
      rw [overlapBlock_same_shell s 0 a' b' hs (hdeg a' (mem_range.mp ha'))
        (hdeg b' (mem_range.mp hb')), ← mul_assoc]] at h
  simp_rw [← Finset.sum_mul] at h
  exact (mul_right_cancel₀ (segPhi_probe_pos l cart).ne' h).symm

end GB
