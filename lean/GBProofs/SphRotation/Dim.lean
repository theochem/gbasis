import GBProofs.SphRotation.Laplace
import Mathlib.LinearAlgebra.Dimension.Constructions
import Mathlib.LinearAlgebra.FiniteDimensional.Defs
/-!
# The space of harmonic homogeneous polynomials of degree `l` has dimension at most `2l+1`
-/
namespace GB
open MvPolynomial

lemma lapMv_add (p q : MvPolynomial (Fin 3) ℝ) : lapMv (p + q) = lapMv p + lapMv q := by
  simp only [lapMv, map_add, Finset.sum_add_distrib]

lemma lapMv_smul (a : ℝ) (p : MvPolynomial (Fin 3) ℝ) : lapMv (a • p) = a • lapMv p := by
  simp only [lapMv, Derivation.map_smul, Finset.smul_sum]

@[simp] lemma lapMv_zero : lapMv (0 : MvPolynomial (Fin 3) ℝ) = 0 := by
  simp only [lapMv, map_zero, Finset.sum_const_zero]

noncomputable def Harm (l : ℕ) : Submodule ℝ (MvPolynomial (Fin 3) ℝ) where
  carrier := {p | p.IsHomogeneous l ∧ lapMv p = 0}
  add_mem' := by
    rintro p q ⟨hp, hp'⟩ ⟨hq, hq'⟩
    exact ⟨hp.add hq, by rw [lapMv_add, hp', hq', add_zero]⟩
  zero_mem' := ⟨isHomogeneous_zero _ _ _, lapMv_zero⟩
  smul_mem' := by
    rintro a p ⟨hp, hp'⟩
    refine ⟨?_, by rw [lapMv_smul, hp', smul_zero]⟩
    rw [smul_eq_C_mul]
    exact hp.C_mul a

lemma mem_Harm {l : ℕ} {p : MvPolynomial (Fin 3) ℝ} :
    p ∈ Harm l ↔ p.IsHomogeneous l ∧ lapMv p = 0 := Iff.rfl

lemma coeff_lapMv (p : MvPolynomial (Fin 3) ℝ) (e : Fin 3 →₀ ℕ) :
    coeff e (lapMv p) = ∑ i, coeff (e + Finsupp.single i 2) p * ((e i + 2 : ℕ) : ℝ) * ((e i + 1 : ℕ) : ℝ) := by
  unfold lapMv
  rw [coeff_sum]
  refine Finset.sum_congr rfl fun i _ => ?_
  rw [coeff_pderiv, coeff_pderiv, add_assoc, ← Finsupp.single_add]
  simp only [Finsupp.coe_add, Pi.add_apply, Finsupp.single_eq_same]
  push_cast
  ring

/-- the equation `Δ p = 0` is a recursion in the `z`-exponent -/
theorem eq_zero_of_lapMv_eq_zero (p : MvPolynomial (Fin 3) ℝ) (hp : lapMv p = 0)
    (h01 : ∀ d : Fin 3 →₀ ℕ, d 2 ≤ 1 → coeff d p = 0) : p = 0 := by
  have key : ∀ k : ℕ, ∀ d : Fin 3 →₀ ℕ, d 2 = k → coeff d p = 0 := by
    intro k
    induction k using Nat.strong_induction_on with
    | _ k ih =>
      intro d hd
      rcases Nat.lt_or_ge k 2 with hk | hk
      · exact h01 d (by omega)
      · -- `d = e + 2 e_z`; the coefficient of `x^e` in `Δ p` involves `d`, `e + 2 e_x`, `e + 2 e_y`
        obtain ⟨e, rfl⟩ : ∃ e : Fin 3 →₀ ℕ, d = e + Finsupp.single 2 2 :=
          ⟨d - Finsupp.single 2 2,
            (tsub_add_cancel_of_le (Finsupp.single_le_iff.mpr (hd ▸ hk))).symm⟩
        rw [Finsupp.add_apply, Finsupp.single_eq_same] at hd
        have hxy : ∀ i : Fin 3, i ≠ 2 → coeff (e + Finsupp.single i 2) p = 0 := fun i hi =>
          ih (e 2) (by omega) _
            (by rw [Finsupp.add_apply, Finsupp.single_eq_of_ne hi.symm, add_zero])
        have h := coeff_lapMv p e
        rw [hp, coeff_zero, Fin.sum_univ_three, hxy 0 (by decide), hxy 1 (by decide), zero_mul,
          zero_mul, zero_mul, zero_mul, zero_add, zero_add, mul_assoc] at h
        have hne : (((e 2 + 2 : ℕ) : ℝ) * ((e 2 + 1 : ℕ) : ℝ)) ≠ 0 :=
          mul_ne_zero (Nat.cast_ne_zero.mpr (by omega)) (Nat.cast_ne_zero.mpr (by omega))
        exact (mul_eq_zero.mp h.symm).resolve_right hne
  exact MvPolynomial.ext _ _ fun d => (key _ d rfl).trans (coeff_zero d).symm

/-- the `2l+1` coefficients with `z`-exponent `0` or `1` -/
noncomputable def harmCoords (l : ℕ) :
    Harm l →ₗ[ℝ] (Fin (l + 1) → ℝ) × (Fin l → ℝ) where
  toFun p := (fun n => coeff (compFs ((n : ℕ), l - n, 0)) p.1,
              fun n => coeff (compFs ((n : ℕ), l - 1 - n, 1)) p.1)
  map_add' _ _ := Prod.ext (funext fun _ => coeff_add _ _ _) (funext fun _ => coeff_add _ _ _)
  map_smul' _ _ := Prod.ext (funext fun _ => coeff_smul _ _ _) (funext fun _ => coeff_smul _ _ _)

theorem harmCoords_injective (l : ℕ) : Function.Injective (harmCoords l) := by
  rw [← LinearMap.ker_eq_bot, LinearMap.ker_eq_bot']
  rintro ⟨p, hhom, hlap⟩ h
  have h1 : ∀ n : Fin (l + 1), coeff (compFs ((n : ℕ), l - n, 0)) p = 0 :=
    fun n => congrFun (congrArg Prod.fst h) n
  have h2 : ∀ n : Fin l, coeff (compFs ((n : ℕ), l - 1 - n, 1)) p = 0 :=
    fun n => congrFun (congrArg Prod.snd h) n
  refine Subtype.ext (eq_zero_of_lapMv_eq_zero p hlap fun d hd => ?_)
  by_cases hdeg : Finsupp.degree d = l
  · -- `d` is `(n, l - n, 0)` or `(n, l - 1 - n, 1)` with `n = d 0`
    rw [Finsupp.degree_eq_sum, Fin.sum_univ_three] at hdeg
    rw [← compFs_of d]
    rcases Nat.eq_zero_or_pos (d 2) with hz | hz
    · have : coeff (compFs (d 0, l - d 0, 0)) p = 0 := h1 ⟨d 0, by omega⟩
      rwa [show l - d 0 = d 1 by omega, ← hz] at this
    · have : coeff (compFs (d 0, l - 1 - d 0, 1)) p = 0 := h2 ⟨d 0, by omega⟩
      rwa [show l - 1 - d 0 = d 1 by omega, show 1 = d 2 by omega] at this
  · exact hhom.coeff_eq_zero hdeg

instance (l : ℕ) : FiniteDimensional ℝ (Harm l) :=
  FiniteDimensional.of_injective (harmCoords l) (harmCoords_injective l)

theorem finrank_Harm_le (l : ℕ) : Module.finrank ℝ (Harm l) ≤ 2 * l + 1 := by
  have h := LinearMap.finrank_le_finrank_of_injective (harmCoords_injective l)
  rw [Module.finrank_prod, Module.finrank_fin_fun, Module.finrank_fin_fun] at h
  omega

end GB
