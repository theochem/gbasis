import GBProofs.SphRotation.Metric
import Mathlib.Data.Matrix.Mul
/-!
# The explicit representation matrix `W = T D S Tᵀ` of a pure shell and its orthogonality

With it the functions of a moved pure shell, contraction norms included (`segNorm`, `sphFnE`), are `W` applied to the
original ones (`sphFnE_moved`).
-/
namespace GB
open MvPolynomial Finset Matrix

section Intertwine
variable {m n α : Type*} [Fintype m] [Fintype n] [DecidableEq m] [CommRing α]
  (T : Matrix m n α) (S D : Matrix n n α) (W : Matrix m m α)

lemma eq_of_intertwine (hTST : T * S * Tᵀ = 1) (hTD : T * D = W * T) : W = T * D * S * Tᵀ := by
  rw [hTD, Matrix.mul_assoc, Matrix.mul_assoc, ← Matrix.mul_assoc T, hTST, Matrix.mul_one]

lemma orthogonal_of_intertwine (hTST : T * S * Tᵀ = 1) (hTD : T * D = W * T)
    (hDSD : D * S * Dᵀ = S) : W * Wᵀ = 1 := by
  -- `(W T) S (W T)ᵀ = (T D) S (T D)ᵀ = T (D S Dᵀ) Tᵀ = 1`
  have h : W * T * S * (W * T)ᵀ = 1 := by
    rw [← hTD, Matrix.transpose_mul, Matrix.mul_assoc T D S, Matrix.mul_assoc T (D * S),
      ← Matrix.mul_assoc (D * S), hDSD, ← Matrix.mul_assoc T, hTST]
  rwa [Matrix.transpose_mul, Matrix.mul_assoc W T S, Matrix.mul_assoc W (T * S),
    ← Matrix.mul_assoc (T * S), hTST, Matrix.one_mul] at h

end Intertwine

noncomputable def sphTm (l : ℕ) (ls : List SphLabel) :
    Matrix (Fin ls.length) (Fin (defaultCart l).length) ℝ :=
  Matrix.of fun f a => transEntry (K := ℝ) l (labAt ls f) ((defaultCart l).getD a (0,0,0))

noncomputable def sphDm (R : E3 →ₗ[ℝ] E3) (l : ℕ) :
    Matrix (Fin (defaultCart l).length) (Fin (defaultCart l).length) ℝ :=
  Matrix.of fun a a' => repMat R (defaultCart l) a a'

noncomputable def sphSm (l : ℕ) :
    Matrix (Fin (defaultCart l).length) (Fin (defaultCart l).length) ℝ :=
  Matrix.of fun a a' => Sov ((defaultCart l).getD a (0,0,0)) ((defaultCart l).getD a' (0,0,0))

noncomputable def sphRepM (R : E3 →ₗ[ℝ] E3) (l : ℕ) (ls : List SphLabel) :
    Matrix (Fin ls.length) (Fin ls.length) ℝ :=
  sphTm l ls * sphDm R l * sphSm l * (sphTm l ls)ᵀ

/-- the representation matrix of a pure shell of angular momentum `l` with spherical order `ls`
under the linear map `R`: `W = T · D(R) · S · Tᵀ`, with `T` the Cartesian → spherical matrix, `D(R)`
the Cartesian representation matrix `repMat` and `S` the overlap metric `Sov`, all over the default
component list; `0` outside `(2l+1) × (2l+1)`. -/
noncomputable def sphRep (R : E3 →ₗ[ℝ] E3) (l : ℕ) (ls : List SphLabel) (f f' : ℕ) : ℝ :=
  if h : f < ls.length ∧ f' < ls.length then sphRepM R l ls ⟨f, h.1⟩ ⟨f', h.2⟩ else 0

lemma sphRep_fin (R : E3 →ₗ[ℝ] E3) (l : ℕ) (ls : List SphLabel) (f f' : Fin ls.length) :
    sphRep R l ls f f' = sphRepM R l ls f f' := by
  simp [sphRep]

lemma gram_fin (l : ℕ) (r r' : SphLabel) :
    gram l (defaultCart l) r r' = ∑ a : Fin (defaultCart l).length, ∑ a' : Fin (defaultCart l).length,
      transEntry (K := ℝ) l r ((defaultCart l).getD a (0,0,0))
        * Sov ((defaultCart l).getD a (0,0,0)) ((defaultCart l).getD a' (0,0,0))
        * transEntry (K := ℝ) l r' ((defaultCart l).getD a' (0,0,0)) := by
  rw [gram_eq_sum_range, Finset.sum_range]
  exact Finset.sum_congr rfl fun a _ => Finset.sum_range _

theorem sphTm_sphSm_sphTm (l : ℕ) (hl : l ≤ 10) {ls : List SphLabel} (hv : ValidSph l ls) :
    sphTm l ls * sphSm l * (sphTm l ls)ᵀ = 1 := by
  ext f f'
  have hg := gram_validSph l hl hv f.2 f'.2
  rw [gram_fin] at hg
  have : (if f = f' then (1:ℝ) else 0) = if (f : ℕ) = f' then 1 else 0 := by
    simp [Fin.ext_iff]
  rw [Matrix.one_apply, this, ← hg, Matrix.mul_assoc, Matrix.mul_apply]
  refine Finset.sum_congr rfl fun a _ => ?_
  rw [Matrix.mul_apply, Finset.mul_sum]
  refine Finset.sum_congr rfl fun a' _ => ?_
  simp only [sphTm, sphSm, Matrix.of_apply, Matrix.transpose_apply]
  ring

theorem sphRepM_unique (l : ℕ) (hl : l ≤ 10) {ls : List SphLabel} (hv : ValidSph l ls)
    (R : E3 →ₗ[ℝ] E3) (W : ℕ → ℕ → ℝ)
    (hW : ∀ f, substM (matOf R) (sphHarm l (labAt ls f))
        = ∑ f' ∈ range ls.length, W f f' • sphHarm l (labAt ls f')) :
    (Matrix.of fun f f' : Fin ls.length => W f f') = sphRepM R l ls
      ∧ sphTm l ls * sphDm R l = sphRepM R l ls * sphTm l ls := by
  set W0 : Matrix (Fin ls.length) (Fin ls.length) ℝ := Matrix.of fun f f' => W f f' with hW0
  have h0 : sphTm l ls * sphDm R l = W0 * sphTm l ls := by
    ext f a'
    have := transEntry_mul_repMat l hl hv (fullCart_defaultCart l) R f (W f) (hW f) a' a'.2
    rw [Finset.sum_range, Finset.sum_range] at this
    rw [Matrix.mul_apply, Matrix.mul_apply]
    exact this
  have h1 : W0 = sphRepM R l ls := eq_of_intertwine _ _ _ _ (sphTm_sphSm_sphTm l hl hv) h0
  exact ⟨h1, by rw [← h1, h0]⟩

theorem sphRep_substM (l : ℕ) (hl : l ≤ 10) {ls : List SphLabel} (hv : ValidSph l ls)
    (R : E3 ≃ₗᵢ[ℝ] E3) {f : ℕ} (hf : f < ls.length) :
    substM (matOf R.toLinearEquiv.toLinearMap) (sphHarm l (labAt ls f))
      = ∑ f' ∈ range ls.length,
          sphRep R.toLinearEquiv.toLinearMap l ls f f' • sphHarm l (labAt ls f') := by
  obtain ⟨W, hW⟩ := exists_sphRep l hl hv (matOf R.toLinearEquiv.toLinearMap) (matOf_orthogonal R)
  have hu := (sphRepM_unique l hl hv R.toLinearEquiv.toLinearMap W hW).1
  rw [hW f]
  refine Finset.sum_congr rfl fun f' hf' => ?_
  have := congrFun (congrFun hu ⟨f, hf⟩) ⟨f', Finset.mem_range.mp hf'⟩
  rw [sphRep, dif_pos ⟨hf, Finset.mem_range.mp hf'⟩, ← this]
  rfl

theorem sphTm_sphDm (l : ℕ) (hl : l ≤ 10) {ls : List SphLabel} (hv : ValidSph l ls) (R : E3 ≃ₗᵢ[ℝ] E3) :
    sphTm l ls * sphDm R.toLinearEquiv.toLinearMap l
      = sphRepM R.toLinearEquiv.toLinearMap l ls * sphTm l ls := by
  obtain ⟨W, hW⟩ := exists_sphRep l hl hv (matOf R.toLinearEquiv.toLinearMap) (matOf_orthogonal R)
  exact (sphRepM_unique l hl hv R.toLinearEquiv.toLinearMap W hW).2

/-- `repMat_Sov` in matrix form -/
theorem sphDm_sphSm_sphDm (l : ℕ) (R : E3 ≃ₗᵢ[ℝ] E3) :
    sphDm R.toLinearEquiv.toLinearMap l * sphSm l * (sphDm R.toLinearEquiv.toLinearMap l)ᵀ
      = sphSm l := by
  ext a b
  have := repMat_Sov R (fullCart_defaultCart l) a.2 b.2
  rw [Finset.sum_range] at this
  rw [show sphSm l a b
      = Sov ((defaultCart l).getD a (0,0,0)) ((defaultCart l).getD b (0,0,0)) from rfl,
    ← this, Matrix.mul_assoc, Matrix.mul_apply]
  refine Finset.sum_congr rfl fun a' _ => ?_
  rw [Matrix.mul_apply, Finset.mul_sum, Finset.sum_range]
  refine Finset.sum_congr rfl fun b' _ => ?_
  simp only [sphDm, sphSm, Matrix.of_apply, Matrix.transpose_apply]
  ring

/-- C12: the representation matrix of a pure shell under a linear isometry is orthogonal -/
theorem sphRepM_orthogonal (l : ℕ) (hl : l ≤ 10) {ls : List SphLabel} (hv : ValidSph l ls)
    (R : E3 ≃ₗᵢ[ℝ] E3) :
    sphRepM R.toLinearEquiv.toLinearMap l ls * (sphRepM R.toLinearEquiv.toLinearMap l ls)ᵀ = 1 :=
  orthogonal_of_intertwine _ _ _ _ (sphTm_sphSm_sphTm l hl hv) (sphTm_sphDm l hl hv R)
    (sphDm_sphSm_sphDm l R)

theorem sphRep_orthogonal (l : ℕ) (hl : l ≤ 10) {ls : List SphLabel} (hv : ValidSph l ls)
    (R : E3 ≃ₗᵢ[ℝ] E3) {f f' : ℕ} (hf : f < ls.length) (hf' : f' < ls.length) :
    ∑ f'' ∈ range ls.length, sphRep R.toLinearEquiv.toLinearMap l ls f f''
        * sphRep R.toLinearEquiv.toLinearMap l ls f' f''
      = if f = f' then 1 else 0 := by
  have h := congrFun (congrFun (sphRepM_orthogonal l hl hv R) ⟨f, hf⟩) ⟨f', hf'⟩
  rw [Matrix.mul_apply, Matrix.one_apply] at h
  rw [Finset.sum_range]
  have e : (if (⟨f, hf⟩ : Fin ls.length) = ⟨f', hf'⟩ then (1:ℝ) else 0) = if f = f' then 1 else 0 := by
    simp [Fin.ext_iff]
  rw [← e, ← h]
  refine Finset.sum_congr rfl fun f'' _ => ?_
  rw [Matrix.transpose_apply, ← sphRep_fin, ← sphRep_fin]

/-! ## Shells of the model, with the explicit matrix -/

/-- `T · D(R) = W · T` for a shell of the model with `W = sphRep (linPart g) l sphOrd`: the matrix identity
the assembled arrays over pure shells need -/
theorem transTab_mul_sphRep (g : E3 ≃ᵃⁱ[ℝ] E3) (s : Shell ℝ) (hl : s.l ≤ 10)
    (hv : ValidSph s.l s.sphOrd) (hf : FullCart s.l s.cart) {f a' : ℕ}
    (hf' : f < s.sphOrd.length) (ha' : a' < s.ncart) :
    ∑ a ∈ range s.ncart, s.transTab.get2 f a * repMat (linPart g) s.cart a a'
      = ∑ f' ∈ range s.sphOrd.length,
          sphRep (linPart g) s.l s.sphOrd f f' * s.transTab.get2 f' a' := by
  simp only [transTab_get2]
  exact transEntry_mul_repMat s.l hl hv hf (linPart g) f _
    (sphRep_substM s.l hl hv g.linearIsometryEquiv hf') a' ha'

/-- C12 for pure shells with the explicit matrix: `W` is orthogonal (`sphRep_orthogonal`) and depends only
on the linear part of `g`, on `l` and on the spherical order -/
theorem sphShellFnE_moved (g : E3 ≃ᵃⁱ[ℝ] E3) (s : Shell ℝ) (hl : s.l ≤ 10)
    (hv : ValidSph s.l s.sphOrd) (hf : FullCart s.l s.cart) (m : ℕ) {f : ℕ}
    (hf' : f < s.sphOrd.length) (r : E3) :
    sphShellFnE (s.moved g) m f (g r)
      = ∑ f' ∈ range s.sphOrd.length,
          sphRep (linPart g) s.l s.sphOrd f f' * sphShellFnE s m f' r :=
  sphShellFnE_moved_of g s hf m f r _ fun _ ha' => transTab_mul_sphRep g s hl hv hf hf' ha'

/-! ## With the contraction norm: the basis functions of the assembled arrays -/

/-- the per-segment contraction norm of a shell: `1/√Φ_m` (`norm_cont`), or `1` if the shell opts
out of normalisation -/
noncomputable def segNorm (s : Shell ℝ) (m : ℕ) : ℝ :=
  if s.unitNorm then 1 / √(segPhi s m) else 1

lemma normCont_eq_segNorm (s : Shell ℝ) (hs : ∀ k < s.nprim, 0 < s.exp! k)
    (hf : FullCart s.l s.cart) (m : ℕ) {a : ℕ} (ha : a < s.ncart) :
    (normCont s).get2 m a = segNorm s m := by
  unfold segNorm
  by_cases hn : s.unitNorm = true
  · rw [if_pos hn]
    exact normCont_eq s m a hn hs (hf.degree ha)
  · rw [if_neg hn]
    simp [normCont, hn]

/-- basis function `(m, f)` of a pure shell as the model assembles it: the combination of the
Cartesian functions with the shell's `weights` (`T[f,a] · norm_cont[m,a]`, `GBModel/Assemble.lean`) -/
noncomputable def sphFnE (s : Shell ℝ) (m f : ℕ) (r : E3) : ℝ :=
  ∑ a ∈ range s.ncart, s.weights.get3 m f a * shellFnE s m a r

lemma sphFnE_eq (s : Shell ℝ) (hsph : s.sph = true) (hs : ∀ k < s.nprim, 0 < s.exp! k)
    (hf : FullCart s.l s.cart) (m f : ℕ) (r : E3) :
    sphFnE s m f r = segNorm s m * sphShellFnE s m f r := by
  unfold sphFnE sphShellFnE
  rw [Finset.mul_sum]
  refine Finset.sum_congr rfl fun a ha => ?_
  simp only [Shell.weights, tab3_get, hsph, if_true]
  rw [normCont_eq_segNorm s hs hf m (Finset.mem_range.mp ha)]
  ring

/-- C12: the basis functions of a pure shell under a rigid motion, with the weights of the assembly,
contraction norm included -/
theorem sphFnE_moved (g : E3 ≃ᵃⁱ[ℝ] E3) (s : Shell ℝ) (hsph : s.sph = true) (hl : s.l ≤ 10)
    (hs : ∀ k < s.nprim, 0 < s.exp! k)
    (hv : ValidSph s.l s.sphOrd) (hf : FullCart s.l s.cart) (m : ℕ) {f : ℕ}
    (hf' : f < s.sphOrd.length) (r : E3) :
    sphFnE (s.moved g) m f (g r)
      = ∑ f' ∈ range s.sphOrd.length, sphRep (linPart g) s.l s.sphOrd f f' * sphFnE s m f' r := by
  rw [sphFnE_eq (s.moved g) hsph hs hf, sphShellFnE_moved g s hl hv hf m hf' r, Finset.mul_sum]
  refine Finset.sum_congr rfl fun f' _ => ?_
  rw [sphFnE_eq s hsph hs hf]
  have : segNorm (s.moved g) m = segNorm s m := rfl
  rw [this]
  ring

end GB
