import GBProofs.RigidMotion
import Mathlib.Algebra.MvPolynomial.PDeriv
/-!
# The Laplacian commutes with orthogonal substitutions
-/
namespace GB
open MvPolynomial

theorem pderiv_aeval_chain {σ τ R : Type*} [Fintype σ] [CommSemiring R]
    (f : σ → MvPolynomial τ R) (j : τ) (p : MvPolynomial σ R) :
    pderiv j (aeval f p) = ∑ i, aeval f (pderiv i p) * pderiv j (f i) := by
  classical
  induction p using MvPolynomial.induction_on with
  | C a => simp only [aeval_C, algebraMap_eq, pderiv_C, map_zero, zero_mul, Finset.sum_const_zero]
  | add p q hp hq => simp only [map_add, hp, hq, add_mul, Finset.sum_add_distrib]
  | mul_X p k hp =>
    -- `∂ᵢ (p X_k) = (∂ᵢ p) X_k + δ_{ik} p`, stated summand by summand: splitting the two sides of the
    -- goal with `congr` is slow to elaborate here
    have hX : ∀ i, aeval f (pderiv i (p * X k)) * pderiv j (f i)
        = aeval f (pderiv i p) * pderiv j (f i) * f k
          + if k = i then aeval f p * pderiv j (f i) else 0 := by
      intro i
      rw [pderiv_mul, pderiv_X, map_add, map_mul, map_mul, aeval_X, Pi.single_apply, add_mul,
        mul_right_comm]
      split_ifs
      · rw [map_one, mul_one]
      · rw [map_zero, mul_zero, zero_mul]
    rw [map_mul, aeval_X, pderiv_mul, hp, Finset.sum_mul]
    simp only [hX, Finset.sum_add_distrib, Finset.sum_ite_eq, Finset.mem_univ, if_true]

/-- the substitution `p ↦ p ∘ M`, `(p ∘ M)(x) = p (M x)` -/
noncomputable def substM (M : Fin 3 → Fin 3 → ℝ) :
    MvPolynomial (Fin 3) ℝ →ₐ[ℝ] MvPolynomial (Fin 3) ℝ := aeval (rotLin M)

noncomputable def lapMv {R : Type*} [CommSemiring R] (p : MvPolynomial (Fin 3) R) :
    MvPolynomial (Fin 3) R := ∑ i, pderiv i (pderiv i p)

theorem lapMv_map {R S : Type*} [CommSemiring R] [CommSemiring S] (φ : R →+* S)
    (p : MvPolynomial (Fin 3) R) : lapMv (map φ p) = map φ (lapMv p) := by
  simp only [lapMv, map_sum, pderiv_map]

lemma pderiv_rotLin (M : Fin 3 → Fin 3 → ℝ) (i j : Fin 3) :
    pderiv j (rotLin M i) = C (M i j) := by
  classical
  simp only [rotLin, map_sum, pderiv_C_mul, pderiv_X, Pi.single_apply, mul_ite, mul_one, mul_zero,
    Finset.sum_ite_eq', Finset.mem_univ, if_true]

theorem pderiv_substM (M : Fin 3 → Fin 3 → ℝ) (j : Fin 3) (p : MvPolynomial (Fin 3) ℝ) :
    pderiv j (substM M p) = ∑ i, C (M i j) * substM M (pderiv i p) := by
  unfold substM
  rw [pderiv_aeval_chain]
  refine Finset.sum_congr rfl fun i _ => ?_
  rw [pderiv_rotLin, mul_comm]

theorem lapMv_substM (M : Fin 3 → Fin 3 → ℝ)
    (hM : ∀ i k, ∑ j, M i j * M k j = if i = k then 1 else 0) (p : MvPolynomial (Fin 3) ℝ) :
    lapMv (substM M p) = substM M (lapMv p) := by
  unfold lapMv
  simp only [pderiv_substM, map_sum, pderiv_C_mul, Finset.mul_sum, ← mul_assoc, ← C_mul]
  -- `Σ_j Σ_i Σ_k C (M i j * M k j) * (∂_k ∂_i p) ∘ M`: sum over `j` first
  rw [Finset.sum_comm]
  refine Finset.sum_congr rfl fun i _ => ?_
  rw [Finset.sum_comm]
  simp only [← Finset.sum_mul, ← map_sum, hM, apply_ite C, C_1, C_0, ite_mul, one_mul, zero_mul,
    Finset.sum_ite_eq, Finset.mem_univ, if_true]

theorem substM_homog (M : Fin 3 → Fin 3 → ℝ) {p : MvPolynomial (Fin 3) ℝ} {l : ℕ}
    (hp : p.IsHomogeneous l) : (substM M p).IsHomogeneous l := by
  have h := hp.aeval (rotLin M) (rotLin_homog M)
  rwa [one_mul] at h

theorem eval_substM (M : Fin 3 → Fin 3 → ℝ) (p : MvPolynomial (Fin 3) ℝ) (u : Fin 3 → ℝ) :
    eval u (substM M p) = eval (fun i => ∑ j, M i j * u j) p := by
  have h : eval u (substM M p) = eval (fun i => eval u (rotLin M i)) p :=
    comp_aeval_apply (rotLin M) (aeval u) p
  simpa only [eval_rotLin] using h

@[simp] lemma substM_C (M : Fin 3 → Fin 3 → ℝ) (x : ℝ) : substM M (C x) = C x := aeval_C _ x

theorem substM_monoP (M : Fin 3 → Fin 3 → ℝ) (c : Comp) : substM M (monoP c) = rotPoly M c := by
  rw [monoP_eq]
  simp [substM, rotPoly]

end GB
