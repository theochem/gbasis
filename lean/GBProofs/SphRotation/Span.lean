import GBProofs.SphRotation.Dim
import GBProofs.Harmonics
/-!
# The model's spherical functions span `Harm l` (`l ≤ 10`)
-/
namespace GB
open MvPolynomial
open Finset hiding map

/-! ## List polynomials: coefficients -/

lemma monoMv_eq_monomial (c : Comp) (k : ℚ) : monoMv c k = monomial (compFs c) k := by
  rw [monoMv, monomial_eq]
  simp [Finsupp.prod_fintype, Fin.prod_univ_three, mul_assoc]

theorem coeff_toMv : ∀ (p : Poly3), (p.map (·.1)).Nodup → ∀ c : Comp,
    coeff (compFs c) (toMv p) = p.coeff c
  | [], _, c => by simp [Poly3.coeff]
  | (a, x) :: t, hnd, c => by
    classical
    have hnd' : a ∉ t.map (·.1) ∧ (t.map (·.1)).Nodup := by simpa using hnd
    rw [toMv_cons, coeff_add, coeff_toMv t hnd'.2 c, coeff_cons, monoMv_eq_monomial, coeff_monomial]
    by_cases h : a = c
    · subst h
      simp [coeff_eq_zero_of_not_mem t a hnd'.1]
    · have : compFs a ≠ compFs c := fun hh => h (compFs_injective hh)
      simp [h, this]

/-! ## The model's spherical functions as polynomials -/

noncomputable def harmR (l m : ℕ) (neg : Bool) : MvPolynomial (Fin 3) ℝ :=
  map (algebraMap ℚ ℝ) (toMv (harmonic l m neg))

/-- the normalisation (and sign) the model attaches to the function with label `lab` -/
noncomputable def sphK (l : ℕ) (lab : SphLabel) : ℝ :=
  ((lab.sgn : ℚ) : ℝ) * √((normSq l lab.m : ℝ) / (dfactOdd l : ℝ))

/-- the spherical function `Y_{l,lab}` of the model as a polynomial in `x, y, z`; the radial Gaussian and
the `l`-dependent radial norm, common to the whole shell, are left out.  By `sphHarm_eq_sum` it is
`Σ_a T[lab, a] · N^ang(a) · x^a` for every full component list. -/
noncomputable def sphHarm (l : ℕ) (lab : SphLabel) : MvPolynomial (Fin 3) ℝ :=
  sphK l lab • harmR l lab.m lab.sine

theorem harmR_mem_Harm (l : ℕ) (hl : l ≤ 10) (m : ℕ) (neg : Bool) (hm : m ≤ l)
    (hneg : neg = true → 1 ≤ m) : harmR l m neg ∈ Harm l := by
  refine ⟨(homogeneous_le_10_mv l hl m neg hm hneg).map _, ?_⟩
  rw [harmR, lapMv_map, lapMv, harmonic_le_10_mv l hl m neg hm hneg, map_zero]

theorem sphHarm_mem_Harm (l : ℕ) (hl : l ≤ 10) (lab : SphLabel) (hm : lab.m ≤ l)
    (hs : lab.sine = true → 1 ≤ lab.m) : sphHarm l lab ∈ Harm l :=
  (Harm l).smul_mem _ (harmR_mem_Harm l hl lab.m lab.sine hm hs)

theorem coeff_sphHarm (l : ℕ) (lab : SphLabel) (c : Comp) :
    coeff (compFs c) (sphHarm l lab) = transEntry (K := ℝ) l lab c * normAng c := by
  rw [transEntry_mul_normAng, sphHarm, coeff_smul, smul_eq_mul, harmR, coeff_map,
    coeff_toMv _ (harmonic_keys_nodup ..)]
  rfl

theorem sphHarm_eq_sum (l : ℕ) (hl : l ≤ 10) (lab : SphLabel) (hm : lab.m ≤ l)
    (hs : lab.sine = true → 1 ≤ lab.m) {cart : List Comp} (hf : FullCart l cart) :
    sphHarm l lab = ∑ a ∈ range cart.length,
      C (transEntry (K := ℝ) l lab (cart.getD a (0,0,0)) * normAng (cart.getD a (0,0,0)))
        * monoP (cart.getD a (0,0,0)) := by
  rw [homog_expand _ (sphHarm_mem_Harm l hl lab hm hs).1 hf]
  exact Finset.sum_congr rfl fun a _ => by rw [coeff_sphHarm]

/-! ## Accepted spherical orders -/

/-- what `validSphOrder` guarantees of a label list it accepts (`validSph_of_validSphOrder`) -/
def ValidSph (l : ℕ) (ls : List SphLabel) : Prop :=
  (ls.map fun x => (x.sine, x.m)).Perm (sphKeys l)

theorem validSph_of_validSphOrder {l : ℕ} {labels : List String} {ls : List SphLabel}
    (h : validSphOrder l labels = some ls) : ValidSph l ls :=
  ((valid_iff_perm l labels ls).1 h).2

theorem validSph_defaultSph (l : ℕ) (hl : l ≤ 10) : ValidSph l (defaultSph l) :=
  validSph_of_validSphOrder (defaultSph_valid l hl)

theorem ValidSph.length {l : ℕ} {ls : List SphLabel} (hv : ValidSph l ls) :
    ls.length = 2 * l + 1 := by
  rw [← sphKeys_length l, ← hv.length_eq, List.length_map]

/-- the label at position `f` (the model's out-of-range default is `c0`) -/
def labAt (ls : List SphLabel) (f : ℕ) : SphLabel := ls.getD f ⟨false, false, 0⟩

theorem labAt_of_lt {ls : List SphLabel} {f : ℕ} (hf : f < ls.length) : labAt ls f = ls[f] :=
  (List.getElem_eq_getD _).symm

theorem ValidSph.labAt_inRange {l : ℕ} {ls : List SphLabel} (hv : ValidSph l ls) (f : ℕ) :
    (labAt ls f).m ≤ l ∧ ((labAt ls f).sine = true → 1 ≤ (labAt ls f).m) := by
  by_cases hf : f < ls.length
  · rw [labAt_of_lt hf]
    exact inRange_of_perm hv hf
  · rw [labAt, List.getD_eq_getElem?_getD, List.getElem?_eq_none (not_lt.mp hf)]
    exact ⟨Nat.zero_le l, fun h => absurd h Bool.false_ne_true⟩

theorem gram_validSph (l : ℕ) (hl : l ≤ 10) {ls : List SphLabel} (hv : ValidSph l ls)
    {i j : ℕ} (hi : i < ls.length) (hj : j < ls.length) :
    gram l (defaultCart l) (labAt ls i) (labAt ls j) = if i = j then 1 else 0 := by
  rw [labAt_of_lt hi, labAt_of_lt hj]
  exact rows_orthonormal_of_perm l hl hv hi hj

/-! ## Linear independence and span -/

theorem substM_mem_Harm {l : ℕ} (M : Fin 3 → Fin 3 → ℝ)
    (hM : ∀ i k, ∑ j, M i j * M k j = if i = k then 1 else 0) {p : MvPolynomial (Fin 3) ℝ}
    (hp : p ∈ Harm l) : substM M p ∈ Harm l :=
  ⟨substM_homog M hp.1, by rw [lapMv_substM M hM, hp.2, map_zero]⟩

noncomputable def sphFam (l : ℕ) (hl : l ≤ 10) {ls : List SphLabel} (hv : ValidSph l ls)
    (i : Fin ls.length) : Harm l :=
  ⟨sphHarm l (labAt ls i), sphHarm_mem_Harm l hl _ (hv.labAt_inRange i).1 (hv.labAt_inRange i).2⟩

theorem sphFam_linearIndependent (l : ℕ) (hl : l ≤ 10) {ls : List SphLabel} (hv : ValidSph l ls) :
    LinearIndependent ℝ (sphFam l hl hv) := by
  rw [Fintype.linearIndependent_iff]
  intro g hg j
  have h0 : ∑ i, g i • sphHarm l (labAt ls i) = 0 := by
    have := congrArg Subtype.val hg
    rw [Submodule.coe_sum] at this
    exact this
  -- the coefficient of `x^c`: the column sums of `g · T` vanish
  have hcol : ∀ c : Comp, ∑ i, g i * transEntry (K := ℝ) l (labAt ls i) c = 0 := by
    intro c
    have h1 := congrArg (coeff (compFs c)) h0
    simp only [coeff_sum, coeff_smul, smul_eq_mul, coeff_zero,
      coeff_sphHarm, ← mul_assoc,
      ← Finset.sum_mul] at h1
    exact (mul_eq_zero.mp h1).resolve_right (normAng_pos c).ne'
  -- contract with row `j` in the overlap metric
  have hz : ∑ i, g i * gram l (defaultCart l) (labAt ls i) (labAt ls j) = 0 := by
    simp only [gram_eq_sum_range, Finset.mul_sum, ← mul_assoc]
    rw [Finset.sum_comm]
    refine Finset.sum_eq_zero fun a _ => ?_
    rw [Finset.sum_comm]
    refine Finset.sum_eq_zero fun b _ => ?_
    rw [← Finset.sum_mul, ← Finset.sum_mul, hcol, zero_mul, zero_mul]
  rw [Finset.sum_eq_single_of_mem j (Finset.mem_univ j) fun i _ hij => by
      rw [gram_validSph l hl hv i.2 j.2, if_neg (Fin.val_ne_of_ne hij), mul_zero],
    gram_validSph l hl hv j.2 j.2, if_pos rfl, mul_one] at hz
  exact hz

theorem finrank_Harm (l : ℕ) (hl : l ≤ 10) : Module.finrank ℝ (Harm l) = 2 * l + 1 := by
  have hv := validSph_defaultSph l hl
  have h1 := (sphFam_linearIndependent l hl hv).fintype_card_le_finrank
  have h2 := finrank_Harm_le l
  rw [Fintype.card_fin, hv.length] at h1
  omega

theorem sphFam_span (l : ℕ) (hl : l ≤ 10) {ls : List SphLabel} (hv : ValidSph l ls) :
    Submodule.span ℝ (Set.range (sphFam l hl hv)) = ⊤ :=
  (sphFam_linearIndependent l hl hv).span_eq_top_of_card_eq_finrank'
    (by rw [Fintype.card_fin, hv.length, finrank_Harm l hl])

theorem harm_expand (l : ℕ) (hl : l ≤ 10) {ls : List SphLabel} (hv : ValidSph l ls)
    {q : MvPolynomial (Fin 3) ℝ} (hq : q ∈ Harm l) :
    ∃ w : ℕ → ℝ, q = ∑ f ∈ range ls.length, w f • sphHarm l (labAt ls f) := by
  have hmem : (⟨q, hq⟩ : Harm l) ∈ Submodule.span ℝ (Set.range (sphFam l hl hv)) := by
    rw [sphFam_span]; trivial
  obtain ⟨c, hc⟩ := (Submodule.mem_span_range_iff_exists_fun ℝ).mp hmem
  refine ⟨fun n => if h : n < ls.length then c ⟨n, h⟩ else 0, ?_⟩
  have := congrArg Subtype.val hc
  simp only [Submodule.coe_sum, Submodule.coe_smul] at this
  rw [Finset.sum_range, ← this]
  refine Finset.sum_congr rfl fun i _ => ?_
  simp [sphFam]

/-- C12: pure shells are closed under rotation, for every accepted order and sign convention and every
orthogonal `M`, proper or improper -/
theorem exists_sphRep (l : ℕ) (hl : l ≤ 10) {ls : List SphLabel} (hv : ValidSph l ls)
    (M : Fin 3 → Fin 3 → ℝ) (hM : ∀ i k, ∑ j, M i j * M k j = if i = k then 1 else 0) :
    ∃ W : ℕ → ℕ → ℝ, ∀ f,
      substM M (sphHarm l (labAt ls f))
        = ∑ f' ∈ range ls.length, W f f' • sphHarm l (labAt ls f') := by
  choose W hW using fun f => harm_expand l hl hv (substM_mem_Harm M hM
    (sphHarm_mem_Harm l hl _ (hv.labAt_inRange f).1 (hv.labAt_inRange f).2))
  exact ⟨W, hW⟩

theorem exists_sphRep_fin (l : ℕ) (hl : l ≤ 10) {ls : List SphLabel} (hv : ValidSph l ls)
    (M : Fin 3 → Fin 3 → ℝ) (hM : ∀ i k, ∑ j, M i j * M k j = if i = k then 1 else 0) :
    ∃ W : Fin ls.length → Fin ls.length → ℝ, ∀ f : Fin ls.length,
      substM M (sphHarm l (labAt ls f)) = ∑ f' : Fin ls.length, W f f' • sphHarm l (labAt ls f') := by
  obtain ⟨W, hW⟩ := exists_sphRep l hl hv M hM
  refine ⟨fun f f' => W f f', fun f => ?_⟩
  rw [hW f, Finset.sum_range]

end GB
