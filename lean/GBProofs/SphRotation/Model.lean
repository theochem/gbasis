import GBProofs.SphRotation.Span
/-!
# The matrix identity `T · D(R) = W · T` and the spherical functions of a moved shell
-/
namespace GB
open MvPolynomial Finset

/-- row `f` of `T · D(R) = W · T` -/
theorem transEntry_mul_repMat (l : ℕ) (hl : l ≤ 10) {ls : List SphLabel} (hv : ValidSph l ls)
    {cart : List Comp} (hf : FullCart l cart) (R : E3 →ₗ[ℝ] E3) (f : ℕ) (w : ℕ → ℝ)
    (hW : substM (matOf R) (sphHarm l (labAt ls f))
        = ∑ f' ∈ range ls.length, w f' • sphHarm l (labAt ls f'))
    (a' : ℕ) (ha' : a' < cart.length) :
    ∑ a ∈ range cart.length,
        transEntry (K := ℝ) l (labAt ls f) (cart.getD a (0,0,0)) * repMat R cart a a'
      = ∑ f' ∈ range ls.length,
          w f' * transEntry (K := ℝ) l (labAt ls f') (cart.getD a' (0,0,0)) := by
  have hin := hv.labAt_inRange
  -- the coefficient of `x^{a'}` on both sides of `hW`, each a multiple of `N^ang(a')`
  have h := congrArg (coeff (compFs (cart.getD a' (0,0,0)))) hW
  rw [sphHarm_eq_sum l hl _ (hin f).1 (hin f).2 hf] at h
  simp only [map_sum, map_mul (substM (matOf R)), substM_C, substM_monoP, coeff_sum, coeff_C_mul,
    coeff_smul, smul_eq_mul, coeff_sphHarm] at h
  refine mul_right_cancel₀ (normAng_pos (cart.getD a' (0,0,0))).ne' ?_
  rw [Finset.sum_mul, Finset.sum_mul]
  refine (Finset.sum_congr rfl fun a _ => ?_).trans
    (h.trans (Finset.sum_congr rfl fun i _ => (mul_assoc _ _ _).symm))
  rw [repMat, rotCoef, mul_assoc, div_mul_cancel₀ _ (normAng_pos _).ne']
  ring

/-! ## Shells of the model -/

lemma transTab_get2 (s : Shell ℝ) (f a : ℕ) :
    s.transTab.get2 f a = transEntry (K := ℝ) s.l (labAt s.sphOrd f) (s.cart.getD a (0,0,0)) := by
  simp [Shell.transTab, labAt, Shell.comp!]

/-- the spherical function `f` of segment `m` of a shell as the model assembles it, before the
per-segment factor `norm_cont` -/
noncomputable def sphShellFnE (s : Shell ℝ) (m f : ℕ) (r : E3) : ℝ :=
  ∑ a ∈ range s.ncart, s.transTab.get2 f a * shellFnE s m a r

@[simp] lemma Shell.moved_sphOrd (s : Shell ℝ) (g : E3 → E3) : (s.moved g).sphOrd = s.sphOrd := rfl
@[simp] lemma Shell.moved_transTab (s : Shell ℝ) (g : E3 → E3) :
    (s.moved g).transTab = s.transTab := rfl

theorem sphShellFnE_moved_of (g : E3 ≃ᵃⁱ[ℝ] E3) (s : Shell ℝ) (hf : FullCart s.l s.cart)
    (m f : ℕ) (r : E3) (w : ℕ → ℝ)
    (hW' : ∀ a', a' < s.ncart →
      ∑ a ∈ range s.ncart, s.transTab.get2 f a * repMat (linPart g) s.cart a a'
        = ∑ f' ∈ range s.sphOrd.length, w f' * s.transTab.get2 f' a') :
    sphShellFnE (s.moved g) m f (g r)
      = ∑ f' ∈ range s.sphOrd.length, w f' * sphShellFnE s m f' r := by
  unfold sphShellFnE
  simp only [Shell.moved_ncart, Shell.moved_transTab]
  calc ∑ a ∈ range s.ncart, s.transTab.get2 f a * shellFnE (s.moved g) m a (g r)
      = ∑ a ∈ range s.ncart, ∑ a' ∈ range s.ncart,
          (s.transTab.get2 f a * repMat (linPart g) s.cart a a') * shellFnE s m a' r := by
        refine Finset.sum_congr rfl fun a ha => ?_
        rw [shellFnE_moved g s hf m a (Finset.mem_range.mp ha) r, Finset.mul_sum]
        refine Finset.sum_congr rfl fun a' _ => by ring
    _ = ∑ a' ∈ range s.ncart,
          (∑ f' ∈ range s.sphOrd.length, w f' * s.transTab.get2 f' a') * shellFnE s m a' r := by
        rw [Finset.sum_comm]
        refine Finset.sum_congr rfl fun a' ha' => ?_
        rw [← Finset.sum_mul, hW' a' (Finset.mem_range.mp ha')]
    _ = ∑ f' ∈ range s.sphOrd.length,
          w f' * ∑ a ∈ range s.ncart, s.transTab.get2 f' a * shellFnE s m a r := by
        simp_rw [Finset.sum_mul, Finset.mul_sum]
        rw [Finset.sum_comm]
        refine Finset.sum_congr rfl fun f' _ => Finset.sum_congr rfl fun a _ => by ring

/-- C12 for pure shells, existence form: `W` depends only on the linear part of the motion, on `l` and on
the spherical order.  `sphShellFnE_moved` in `Rep.lean` gives `W` explicitly. -/
theorem sphShellFn_moved (R : E3 ≃ₗᵢ[ℝ] E3) (l : ℕ) (hl : l ≤ 10) (ls : List SphLabel)
    (hv : ValidSph l ls) :
    ∃ W : ℕ → ℕ → ℝ, ∀ (g : E3 ≃ᵃⁱ[ℝ] E3), g.linearIsometryEquiv = R →
      ∀ s : Shell ℝ, s.l = l → s.sphOrd = ls → FullCart s.l s.cart →
        ∀ m f r, sphShellFnE (s.moved g) m f (g r)
          = ∑ f' ∈ range s.sphOrd.length, W f f' * sphShellFnE s m f' r := by
  obtain ⟨W, hW⟩ := exists_sphRep l hl hv (matOf R.toLinearEquiv.toLinearMap) (matOf_orthogonal R)
  refine ⟨W, ?_⟩
  rintro g rfl s rfl rfl hf m f r
  refine sphShellFnE_moved_of g s hf m f r (W f) fun a' ha' => ?_
  simp only [transTab_get2]
  exact transEntry_mul_repMat s.l hl hv hf (linPart g) f (W f) (hW f) a' ha'

end GB
