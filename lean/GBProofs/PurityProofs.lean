import GBModel.Purity
import Mathlib.Tactic.Tauto
import Mathlib.Order.Basic

/-!
# History theorem: with pure summaries, no history changes arguments or the error state
-/
namespace GB.Purity

theorem step_pure_heap (sums : Nat → Summary) (hp : ∀ f, (sums f).pure = true) (w : World) (op : Op)
    (o : ObjId) (ho : o < w.next) (hu : ∀ v, op ≠ .update o v) :
    (step sums w op).heap o = w.heap o := by
  cases op with
  | update obj v =>
    have : o ≠ obj := by
      intro h; subst h; exact hu v rfl
    simp [step, this]
  | call f args raises noise =>
    have hpf := hp f
    simp only [Summary.pure, Bool.and_eq_true] at hpf
    have hne : o ≠ w.next := Nat.ne_of_lt ho
    simp [step, hpf.1, hne]

theorem step_pure_err (sums : Nat → Summary) (hp : ∀ f, (sums f).pure = true) (w : World) (op : Op) :
    (step sums w op).err = w.err := by
  cases op with
  | update obj v => rfl
  | call f args raises noise =>
    have hpf := hp f
    simp only [Summary.pure, Bool.and_eq_true, bne_iff_ne, ne_eq] at hpf
    simp only [step, beq_eq_false_iff_ne.mpr hpf.2, Bool.false_and, Bool.false_eq_true, if_false]

theorem step_next_mono (sums : Nat → Summary) (w : World) (op : Op) : w.next ≤ (step sums w op).next := by
  cases op
  · exact Nat.le_succ _
  · exact Nat.le_refl _

/-- if every summary is pure (no write to anything but fresh objects or the shell's
own state; error state scoped), then after any sequence of calls — of any length, returning or
raising, with whatever the callee would have liked to write — every object that existed at the start
and was not explicitly updated by the user has its initial contents, and the process-wide error state
is the initial one. -/
theorem history_pure (sums : Nat → Summary) (hp : ∀ f, (sums f).pure = true) (ops : List Op) (w : World) :
    (run sums w ops).err = w.err ∧
    ∀ o, o < w.next → o ∉ updated ops → (run sums w ops).heap o = w.heap o := by
  induction ops generalizing w with
  | nil => exact ⟨rfl, fun _ _ _ => rfl⟩
  | cons op rest ih =>
    obtain ⟨ihe, ihh⟩ := ih (step sums w op)
    refine ⟨?_, ?_⟩
    · show (run sums (step sums w op) rest).err = w.err
      rw [ihe, step_pure_err sums hp]
    · intro o ho hno
      show (run sums (step sums w op) rest).heap o = w.heap o
      have hrest : o ∉ updated rest := by
        cases op with
        | update obj v => simp only [updated, List.mem_cons, not_or] at hno; exact hno.2
        | call f args raises noise => simpa only [updated] using hno
      rw [ihh o (Nat.lt_of_lt_of_le ho (step_next_mono sums w op)) hrest]
      apply step_pure_heap sums hp w op o ho
      intro v hv
      subst hv
      simp [updated] at hno

/-- the result of a call depends only on what the callee computes (`noise`), never on earlier
calls: two histories ending with the same call allocate the same value -/
theorem call_result_independent (sums : Nat → Summary) (w₁ w₂ : World) (f : Nat) (args : List ObjId) (v : Val) :
    (step sums w₁ (.call f args false v)).heap w₁.next = (step sums w₂ (.call f args false v)).heap w₂.next := by
  simp only [step, Bool.false_eq_true, not_false_eq_true, and_self, if_true]

/-- counter-example 1 (the repaired `make_contractions`): a summary with a write to a parameter lets a
call change its argument -/
theorem pop_counterexample :
    let sums : Nat → Summary := fun _ =>
      { fn := "make_contractions", effects := [⟨"make_contractions", 237, "call .pop", .param⟩], err := .untouched }
    let w : World := { heap := fun _ => 7, next := 1, err := 0 }
    (step sums w (.call 0 [0] false 99)).heap 0 ≠ w.heap 0 := by
  decide

/-- counter-example 2 (the repaired `electrostatic_potential`): an unscoped `np.seterr` leaks when the
call raises -/
theorem seterr_leak_counterexample :
    let sums : Nat → Summary := fun _ => { fn := "electrostatic_potential", effects := [], err := .leaking }
    let w : World := { heap := fun _ => 0, next := 1, err := 0 }
    (step sums w (.call 0 [0] true 5)).err ≠ w.err := by
  decide

end GB.Purity
