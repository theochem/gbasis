import GBProofs.ArrayMotion2
import GBProofs.ArrayContraction

/-!
# Arrays of two (or four) *different* bases: rigid motions (C12) and contraction laws (C13)

The instances of the generic lemmas of `ArrayMotion.lean`, `ArrayMotion2.lean` and
`ArrayContraction.lean` for `assemble2 b1 b2 …` with two different bases (the library's
`overlap_integral_asymmetric(basis_one, basis_two)`) and for `assemble4g b1 b2 b3 b4 …` with four.
In §2 a shell of either basis is rewritten (`…_left`: of `b1`, `…_right`: of `b2`); the numbering
C13.1 … C13.4 is that of `ArrayContraction.lean`.
-/
open Finset

namespace GB

/-! ## 1. Rigid motions: two different bases -/
section Moved2

/-- the `blk` argument with which `Driver.lean` calls `assemble2 b1 b2 1 …` for `"overlap_asym"`
(`overlap_integral_asymmetric(basis_one, basis_two)`) -/
noncomputable def overlapBlk2 (b1 b2 : Basis ℝ) (i j : ℕ) : Tab (Tab4 ℝ) :=
  tab 1 fun _ => overlapBlock b1[i]! b2[j]!

theorem overlapBlk2_self (b : Basis ℝ) : overlapBlk2 b b = overlapBlk b := rfl

/-- C12 for the asymmetric overlap (C01), the same rigid motion applied to both bases -/
theorem overlap_asym_array_moved (g : E3 ≃ᵃⁱ[ℝ] E3) (b1 b2 : Basis ℝ) (hb1 : b1.Movable)
    (hb2 : b2.Movable) (r c : ℕ) (hr : r < b1.total) (hc : c < b2.total) :
    entry2 (b1.moved g) (b2.moved g)
        (pairBlocks (b1.moved g) (b2.moved g) 1 (overlapBlk2 (b1.moved g) (b2.moved g))) r c 0
      = ∑ r' ∈ range b1.total, ∑ c' ∈ range b2.total,
          basisRep b1 (linPart g) r r' * basisRep b2 (linPart g) c c'
            * entry2 b1 b2 (pairBlocks b1 b2 1 (overlapBlk2 b1 b2)) r' c' 0 :=
  entry2_moved_of_shells g b1 b2 hb1 hb2 1 (fun s t => tab 1 fun _ => overlapBlock s t)
    (fun s t => tab 1 fun _ => overlapBlock s t) 0
    (fun s t hs ht m n a ha c hc => by
      simp only [tab_get]
      exact overlapBlock_moved g s t m a n c hs.exps_pos ht.exps_pos hs.full_cart ht.full_cart ha hc)
    r c hr hc

/-- the same for the flat array, which is what the driver prints for `"overlap_asym"` -/
theorem overlap_asym_flat_moved (g : E3 ≃ᵃⁱ[ℝ] E3) (b1 b2 : Basis ℝ) (hb1 : b1.Movable)
    (hb2 : b2.Movable) (r c : ℕ) (hr : r < b1.total) (hc : c < b2.total) :
    (assemble2 (b1.moved g) (b2.moved g) 1 (overlapBlk2 (b1.moved g) (b2.moved g)))[
        (r * b2.total + c) * 1 + 0]!
      = ∑ r' ∈ range b1.total, ∑ c' ∈ range b2.total,
          basisRep b1 (linPart g) r r' * basisRep b2 (linPart g) c c'
            * (assemble2 b1 b2 1 (overlapBlk2 b1 b2))[(r' * b2.total + c') * 1 + 0]! := by
  rw [flat_moved_eq g b1 b2 1 _ r c 0 hr hc one_pos, overlap_asym_array_moved g b1 b2 hb1 hb2 r c hr hc,
    flat_sum_eq b1 b2 _ 1 _ r c 0 one_pos]

/-- C12, translations: both bases translated by the same vector -/
theorem overlap_asym_array_translate (v : E3) (b1 b2 : Basis ℝ) (hb1 : b1.Movable)
    (hb2 : b2.Movable) (r c : ℕ) (hr : r < b1.total) (hc : c < b2.total) :
    entry2 (b1.moved (translation v)) (b2.moved (translation v))
        (pairBlocks (b1.moved (translation v)) (b2.moved (translation v)) 1
          (overlapBlk2 (b1.moved (translation v)) (b2.moved (translation v)))) r c 0
      = entry2 b1 b2 (pairBlocks b1 b2 1 (overlapBlk2 b1 b2)) r c 0 :=
  (overlap_asym_array_moved (translation v) b1 b2 hb1 hb2 r c hr hc).trans
    (sum_basisRep_of_id2 b1 b2 hb1 hb2 _ (linPart_translation v) _ r c hr hc)

end Moved2

/-! ## 2. Contraction laws for the asymmetric overlap (C01) -/
section OverlapAsym

/-- C13.1 -/
theorem overlap_asym_flat_splitColumns_left (b1 b2 : Basis ℝ) (i : ℕ) (hi : i < b1.size) :
    assemble2 (b1.splitColumns i) b2 1 (overlapBlk2 (b1.splitColumns i) b2)
      = assemble2 b1 b2 1 (overlapBlk2 b1 b2) :=
  (Rewrite.splitColumns b1 i hi).assemble2_eq_left b2 overlap_blockLaws
    (fun _ _ => trivial) (fun _ _ => trivial) 1

/-- C13.1 -/
theorem overlap_asym_flat_splitColumns_right (b1 b2 : Basis ℝ) (i : ℕ) (hi : i < b2.size) :
    assemble2 b1 (b2.splitColumns i) 1 (overlapBlk2 b1 (b2.splitColumns i))
      = assemble2 b1 b2 1 (overlapBlk2 b1 b2) :=
  Rewrite.assemble2_eq_right b1 (Rewrite.splitColumns b2 i hi) overlap_blockLaws
    (fun _ _ => trivial) (fun _ _ => trivial) 1

/-- C13.2 -/
theorem overlap_asym_flat_permPrims_left (b1 b2 : Basis ℝ) (i : ℕ) (hi : i < b1.size) (σ : ℕ → ℕ)
    (hmap : ∀ k < b1[i].nprim, σ k < b1[i].nprim)
    (hinj : ∀ k < b1[i].nprim, ∀ k' < b1[i].nprim, σ k = σ k' → k = k')
    (hseg : (b1[i].permPrims σ).nseg = b1[i].nseg) :
    assemble2 (b1.permPrimsAt i σ) b2 1 (overlapBlk2 (b1.permPrimsAt i σ) b2)
      = assemble2 b1 b2 1 (overlapBlk2 b1 b2) :=
  (Rewrite.permPrims b1 i hi σ hmap hinj hseg).assemble2_eq_left b2 overlap_blockLaws
    (fun _ _ => trivial) (fun _ _ => trivial) 1

/-- C13.2 -/
theorem overlap_asym_flat_permPrims_right (b1 b2 : Basis ℝ) (i : ℕ) (hi : i < b2.size) (σ : ℕ → ℕ)
    (hmap : ∀ k < b2[i].nprim, σ k < b2[i].nprim)
    (hinj : ∀ k < b2[i].nprim, ∀ k' < b2[i].nprim, σ k = σ k' → k = k')
    (hseg : (b2[i].permPrims σ).nseg = b2[i].nseg) :
    assemble2 b1 (b2.permPrimsAt i σ) 1 (overlapBlk2 b1 (b2.permPrimsAt i σ))
      = assemble2 b1 b2 1 (overlapBlk2 b1 b2) :=
  Rewrite.assemble2_eq_right b1 (Rewrite.permPrims b2 i hi σ hmap hinj hseg) overlap_blockLaws
    (fun _ _ => trivial) (fun _ _ => trivial) 1

/-- C13.3 -/
theorem overlap_asym_flat_splitPrim_left (b1 b2 : Basis ℝ) (i : ℕ) (hi : i < b1.size) (j : ℕ)
    (x : ℝ) (hj : j < b1[i].nprim) :
    assemble2 (b1.splitPrimAt i j x) b2 1 (overlapBlk2 (b1.splitPrimAt i j x) b2)
      = assemble2 b1 b2 1 (overlapBlk2 b1 b2) :=
  (Rewrite.splitPrim b1 i hi j x hj).assemble2_eq_left b2 overlap_blockLaws
    (fun _ _ => trivial) (fun _ _ => trivial) 1

/-- C13.3 -/
theorem overlap_asym_flat_splitPrim_right (b1 b2 : Basis ℝ) (i : ℕ) (hi : i < b2.size) (j : ℕ)
    (x : ℝ) (hj : j < b2[i].nprim) :
    assemble2 b1 (b2.splitPrimAt i j x) 1 (overlapBlk2 b1 (b2.splitPrimAt i j x))
      = assemble2 b1 b2 1 (overlapBlk2 b1 b2) :=
  Rewrite.assemble2_eq_right b1 (Rewrite.splitPrim b2 i hi j x hj) overlap_blockLaws
    (fun _ _ => trivial) (fun _ _ => trivial) 1

/-- C13.4, `x > 0` -/
theorem overlap_asym_flat_scaleColumn_pos_left (b1 b2 : Basis ℝ) (i : ℕ) (hi : i < b1.size)
    (m : ℕ) (x : ℝ) (hx : 0 < x) (hn : b1[i].unitNorm = true) :
    assemble2 (b1.scaleColumnAt i m x) b2 1 (overlapBlk2 (b1.scaleColumnAt i m x) b2)
      = assemble2 b1 b2 1 (overlapBlk2 b1 b2) :=
  (Rewrite.scaleColumn_pos b1 i hi m x hx hn).assemble2_eq_left b2 overlap_blockLaws
    (fun _ _ => trivial) (fun _ _ => trivial) 1

/-- C13.4, `x > 0` -/
theorem overlap_asym_flat_scaleColumn_pos_right (b1 b2 : Basis ℝ) (i : ℕ) (hi : i < b2.size)
    (m : ℕ) (x : ℝ) (hx : 0 < x) (hn : b2[i].unitNorm = true) :
    assemble2 b1 (b2.scaleColumnAt i m x) 1 (overlapBlk2 b1 (b2.scaleColumnAt i m x))
      = assemble2 b1 b2 1 (overlapBlk2 b1 b2) :=
  Rewrite.assemble2_eq_right b1 (Rewrite.scaleColumn_pos b2 i hi m x hx hn) overlap_blockLaws
    (fun _ _ => trivial) (fun _ _ => trivial) 1

/-- C13.4, `x < 0`: a sign factor on the rows only -/
theorem overlap_asym_flat_scaleColumn_neg_left (b1 b2 : Basis ℝ) (i : ℕ) (hi : i < b1.size)
    (m : ℕ) (x : ℝ) (hx : x < 0) (hn : b1[i].unitNorm = true) (r c e : ℕ) (hr : r < b1.total)
    (hc : c < b2.total) (he : e < 1) :
    (assemble2 (b1.scaleColumnAt i m x) b2 1 (overlapBlk2 (b1.scaleColumnAt i m x) b2))[
        (r * b2.total + c) * 1 + e]!
      = colSign b1 i m r * (assemble2 b1 b2 1 (overlapBlk2 b1 b2))[(r * b2.total + c) * 1 + e]! :=
  assemble2_get_rel b1 _ b2 b2 _ _ _ (Basis.scaleColumnAt_total b1 i hi m x) rfl r c e hr hc he _
    ((Rewrite.scaleColumn_neg b1 i hi m x hx hn).entry2_eq_left b2 (overlap_blockLaws e)
      (fun _ _ => trivial) (fun _ _ => trivial) 1 r c hr hc)

/-- C13.4, `x < 0`: a sign factor on the columns only -/
theorem overlap_asym_flat_scaleColumn_neg_right (b1 b2 : Basis ℝ) (i : ℕ) (hi : i < b2.size)
    (m : ℕ) (x : ℝ) (hx : x < 0) (hn : b2[i].unitNorm = true) (r c e : ℕ) (hr : r < b1.total)
    (hc : c < b2.total) (he : e < 1) :
    (assemble2 b1 (b2.scaleColumnAt i m x) 1 (overlapBlk2 b1 (b2.scaleColumnAt i m x)))[
        (r * b2.total + c) * 1 + e]!
      = colSign b2 i m c * (assemble2 b1 b2 1 (overlapBlk2 b1 b2))[(r * b2.total + c) * 1 + e]! :=
  assemble2_get_rel b1 b1 b2 _ _ _ _ rfl (Basis.scaleColumnAt_total b2 i hi m x) r c e hr hc he _
    (Rewrite.entry2_eq_right b1 (Rewrite.scaleColumn_neg b2 i hi m x hx hn) (overlap_blockLaws e)
      (fun _ _ => trivial) (fun _ _ => trivial) 1 r c hr hc)

end OverlapAsym

/-! ## 3. Rigid motions: four different bases -/
section Moved4

/-- the `blk` argument with which `Driver.lean` calls `assemble4g b1 b2 b3 b4 …` for `"eri4"` -/
noncomputable def eriBlk4 (boysT : ℝ → ℕ → Tab ℝ) (b1 b2 b3 b4 : Basis ℝ) (i j k l : ℕ) : Tab8 ℝ :=
  eriBlock boysT b1[i]! b2[j]! b3[k]! b4[l]!

theorem eriBlk4_self (boysT : ℝ → ℕ → Tab ℝ) (b : Basis ℝ) : eriBlk4 boysT b b b b = eriBlk boysT b :=
  rfl

/-- C12 for the electron-repulsion array over four different bases, the same rigid motion applied to
all four; `hboys` puts the true Boys function in the blocks. -/
theorem eri_array_moved_g (boysT : ℝ → ℕ → Tab ℝ)
    (hboys : ∀ T n m, m < n → (boysT T n).get m = boys T m) (g : E3 ≃ᵃⁱ[ℝ] E3)
    (b1 b2 b3 b4 : Basis ℝ) (hb1 : b1.Movable) (hb2 : b2.Movable) (hb3 : b3.Movable)
    (hb4 : b4.Movable) (r₁ r₂ r₃ r₄ : ℕ) (h₁ : r₁ < b1.total) (h₂ : r₂ < b2.total)
    (h₃ : r₃ < b3.total) (h₄ : r₄ < b4.total) :
    entry4 (b1.moved g) (b2.moved g) (b3.moved g) (b4.moved g)
        (quartetBlocks (b1.moved g) (b2.moved g) (b3.moved g) (b4.moved g)
          (eriBlk4 boysT (b1.moved g) (b2.moved g) (b3.moved g) (b4.moved g))) r₁ r₂ r₃ r₄
      = ∑ s₁ ∈ range b1.total, ∑ s₂ ∈ range b2.total, ∑ s₃ ∈ range b3.total,
          ∑ s₄ ∈ range b4.total,
            basisRep b1 (linPart g) r₁ s₁ * basisRep b2 (linPart g) r₂ s₂
              * basisRep b3 (linPart g) r₃ s₃ * basisRep b4 (linPart g) r₄ s₄
              * entry4 b1 b2 b3 b4 (quartetBlocks b1 b2 b3 b4 (eriBlk4 boysT b1 b2 b3 b4))
                  s₁ s₂ s₃ s₄ :=
  entry4_moved_of_shells g b1 b2 b3 b4 hb1 hb2 hb3 hb4 (eriBlock boysT) (eriBlock boysT)
    (eriBlock_moved_of_movable boysT hboys g) r₁ r₂ r₃ r₄ h₁ h₂ h₃ h₄

/-- the same for the flat array -/
theorem eri_flat_moved_g (boysT : ℝ → ℕ → Tab ℝ)
    (hboys : ∀ T n m, m < n → (boysT T n).get m = boys T m) (g : E3 ≃ᵃⁱ[ℝ] E3)
    (b1 b2 b3 b4 : Basis ℝ) (hb1 : b1.Movable) (hb2 : b2.Movable) (hb3 : b3.Movable)
    (hb4 : b4.Movable) (r₁ r₂ r₃ r₄ : ℕ) (h₁ : r₁ < b1.total) (h₂ : r₂ < b2.total)
    (h₃ : r₃ < b3.total) (h₄ : r₄ < b4.total) :
    (assemble4g (b1.moved g) (b2.moved g) (b3.moved g) (b4.moved g)
        (eriBlk4 boysT (b1.moved g) (b2.moved g) (b3.moved g) (b4.moved g)))[
        ((r₁ * b2.total + r₂) * b3.total + r₃) * b4.total + r₄]!
      = ∑ s₁ ∈ range b1.total, ∑ s₂ ∈ range b2.total, ∑ s₃ ∈ range b3.total,
          ∑ s₄ ∈ range b4.total,
            basisRep b1 (linPart g) r₁ s₁ * basisRep b2 (linPart g) r₂ s₂
              * basisRep b3 (linPart g) r₃ s₃ * basisRep b4 (linPart g) r₄ s₄
              * (assemble4g b1 b2 b3 b4 (eriBlk4 boysT b1 b2 b3 b4))[
                  ((s₁ * b2.total + s₂) * b3.total + s₃) * b4.total + s₄]! :=
  (flat4_moved_eq g b1 b2 b3 b4 _ r₁ r₂ r₃ r₄ h₁ h₂ h₃ h₄).trans
    ((eri_array_moved_g boysT hboys g b1 b2 b3 b4 hb1 hb2 hb3 hb4 r₁ r₂ r₃ r₄ h₁ h₂ h₃ h₄).trans
      (flat4_sum_eq b1 b2 b3 b4 _ _ r₁ r₂ r₃ r₄).symm)

end Moved4

end GB
