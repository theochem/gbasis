import GBProofs.Props.C16
import GBProofs.Harmonics.OrthoReal
import GBProofs.Harmonics.Labels
import GBProofs.Layout

/-!
# Unit normalisation of spherical basis functions (C01 for pure shells)

`Harmonics/OrthoReal.lean` proves that the rows of the Cartesian → spherical matrix are orthonormal
in the metric `Sov c c' = metric c c' / (√dfact c · √dfact c')`.  This file proves that `Sov` *is* the
normalised one-centre overlap the model computes (`normalised_overlap_same_shell`), hence that the
same-segment diagonal block of a spherical shell in the assembled overlap array is the identity
(`spherical_block_orthonormal`), hence that every diagonal entry of the overlap array of a basis is
`1`, Cartesian and spherical shells alike (`overlap_array_diag_one`).
-/
open Real Polynomial

namespace GB

/-! ## Gaussian moments in closed form -/

theorem gmom_two_mul (p : ℝ) (k : ℕ) : gmom p (2 * k) = (dfactOdd k : ℝ) / (2 * p) ^ k := by
  induction k with
  | zero => simp [gmom, dfactOdd]
  | succ k ih =>
    have e : 2 * (k + 1) = 2 * k + 2 := by ring
    rw [e, gmom, ih, dfactOdd, div_mul_div_comm, pow_succ]
    push_cast
    ring

theorem gmom_two_mul_add_one (p : ℝ) (k : ℕ) : gmom p (2 * k + 1) = 0 := by
  induction k with
  | zero => simp [gmom]
  | succ k ih =>
    have e : 2 * (k + 1) + 1 = (2 * k + 1) + 2 := by ring
    rw [e, gmom, ih, mul_zero]

theorem gmom_eq (p : ℝ) (n : ℕ) :
    gmom p n = if n % 2 = 0 then (dfactOdd (n / 2) : ℝ) / (2 * p) ^ (n / 2) else 0 := by
  obtain ⟨k, rfl | rfl⟩ := Nat.even_or_odd' n
  · rw [gmom_two_mul, if_pos (Nat.mul_mod_right 2 k), Nat.mul_div_cancel_left k two_pos]
  · rw [gmom_two_mul_add_one, if_neg (by omega)]

theorem gmom3_metric (p : ℝ) (a b : Comp) (L : ℕ) (h : a.deg + b.deg = 2 * L) :
    gmom p (a.1 + b.1) * gmom p (a.2.1 + b.2.1) * gmom p (a.2.2 + b.2.2)
      = (metric a b : ℝ) / (2 * p) ^ L := by
  rw [gmom_eq, gmom_eq, gmom_eq, metric_eq]
  unfold Comp.deg at h
  by_cases hev : (a.1 + b.1) % 2 = 0 ∧ (a.2.1 + b.2.1) % 2 = 0 ∧ (a.2.2 + b.2.2) % 2 = 0
  · have hL : (a.1 + b.1) / 2 + (a.2.1 + b.2.1) / 2 + (a.2.2 + b.2.2) / 2 = L := by omega
    rw [if_pos hev, if_pos hev.1, if_pos hev.2.1, if_pos hev.2.2, ← hL, pow_add, pow_add,
      div_mul_div_comm, div_mul_div_comm]
    push_cast
    rfl
  · -- an odd exponent sum: one of the three moments vanishes, and so does `metric`
    rw [if_neg hev, Rat.cast_zero, zero_div]
    rcases not_and_or.mp hev with h1 | h23
    · rw [if_neg h1, zero_mul, zero_mul]
    · rcases not_and_or.mp h23 with h2 | h3
      · rw [if_neg h2, mul_zero, zero_mul]
      · rw [if_neg h3, mul_zero]

/-! ## The one-centre primitive overlap -/

/-- the factor of the one-centre primitive overlap that depends only on `p = α + β` and `l` -/
noncomputable def radF (l : ℕ) (p : ℝ) : ℝ := √(π / p) * √(π / p) * √(π / p) / (2 * p) ^ l

theorem momAx_one_centre (s : Shell ℝ) (origin : ℕ → ℝ) (nk ka kb axis j i : ℕ)
    (ha : 0 < s.exp! ka) (hb : 0 < s.exp! kb) :
    (momAx s s origin nk ka kb axis).get3 0 j i
      = √(π / (s.exp! ka + s.exp! kb)) * gmom (s.exp! ka + s.exp! kb) (i + j) := by
  have hp : s.exp! ka + s.exp! kb ≠ 0 := (add_pos ha hb).ne'
  -- same centre: `P = A`, so `PA = PB = 0` and the exponential factor of `base` is `1`
  have hPA : (s.exp! ka * s.ctr axis + s.exp! kb * s.ctr axis) / (s.exp! ka + s.exp! kb)
      - s.ctr axis = 0 := by
    rw [← add_mul, mul_div_cancel_left₀ _ hp, sub_self]
  simp only [momAx, pair1D, num_nat, Nat.cast_one, Nat.cast_ofNat]
  rw [momTab_eq _ _ _ _ _ hp, hPA, S3]
  simp only [Transc.sqrt, Transc.pi, Transc.exp, sub_self, mul_zero, neg_zero, Real.exp_zero,
    mul_one, map_zero, add_zero, pow_zero, ← pow_add, G_X_pow]

/-- the factor besides `metric a b` depends only on the sum of the exponents and on `L`, not on the
components `a`, `b` -/
theorem prod3_one_centre (s : Shell ℝ) (origin : ℕ → ℝ) (nk ka kb : ℕ) (a b : Comp) (L : ℕ)
    (ha : 0 < s.exp! ka) (hb : 0 < s.exp! kb) (hab : a.deg + b.deg = 2 * L) :
    prod3 (pairTabs s s (momAx s s origin nk)) (0, 0, 0) ka kb a b
      = (metric a b : ℝ) * radF L (s.exp! ka + s.exp! kb) := by
  simp only [prod3, pairTabs, tab3_get]
  rw [momAx_one_centre s origin nk ka kb 0 _ _ ha hb, momAx_one_centre s origin nk ka kb 1 _ _ ha hb,
    momAx_one_centre s origin nk ka kb 2 _ _ ha hb]
  have h := gmom3_metric (s.exp! ka + s.exp! kb) a b L hab
  unfold radF
  generalize √(π / (s.exp! ka + s.exp! kb)) = w at *
  calc w * gmom _ (a.1 + b.1) * (w * gmom _ (a.2.1 + b.2.1)) * (w * gmom _ (a.2.2 + b.2.2))
      = w * w * w * (gmom (s.exp! ka + s.exp! kb) (a.1 + b.1)
          * gmom (s.exp! ka + s.exp! kb) (a.2.1 + b.2.1)
          * gmom (s.exp! ka + s.exp! kb) (a.2.2 + b.2.2)) := by ring
    _ = _ := by rw [h]; ring

/-! ## The contracted same-shell, same-segment overlap -/

/-- the component-independent factor `Φ_m` of the same-segment overlap of a shell -/
noncomputable def segPhi (s : Shell ℝ) (m : ℕ) : ℝ :=
  ∑ ka ∈ Finset.range s.nprim, ∑ kb ∈ Finset.range s.nprim,
    (s.coef! ka m * normRad (s.exp! ka) s.l) * (s.coef! kb m * normRad (s.exp! kb) s.l)
      * radF s.l (s.exp! ka + s.exp! kb)

theorem overlapBlock_same_shell (s : Shell ℝ) (m c c' : ℕ)
    (hs : ∀ k < s.nprim, 0 < s.exp! k)
    (hc : (s.comp! c).deg = s.l) (hc' : (s.comp! c').deg = s.l) :
    (overlapBlock s s).get4 m c m c' = Sov (s.comp! c) (s.comp! c') * segPhi s m := by
  have hab : (s.comp! c).deg + (s.comp! c').deg = 2 * s.l := by omega
  rw [← normAng_mul_metric]
  simp only [overlapBlock, momentBlock, blockTab, tab_get, tab4_get, contract, Shell.normTab,
    tab2_get, List.getD_cons_zero]
  unfold segPhi
  rw [sumN_eq_sum, Finset.mul_sum]
  refine Finset.sum_congr rfl fun ka hka => ?_
  rw [sumN_eq_sum, Finset.mul_sum]
  refine Finset.sum_congr rfl fun kb hkb => ?_
  rw [prod3_one_centre s _ _ ka kb _ _ s.l (hs ka (Finset.mem_range.mp hka))
    (hs kb (Finset.mem_range.mp hkb)) hab]
  unfold normPrim
  ring

theorem selfOverlap_eq_segPhi (s : Shell ℝ) (m c : ℕ) (hs : ∀ k < s.nprim, 0 < s.exp! k)
    (hc : (s.comp! c).deg = s.l) :
    (overlapBlock s s).get4 m c m c = segPhi s m := by
  rw [overlapBlock_same_shell s m c c hs hc hc, Sov_self, one_mul]

theorem normCont_eq (s : Shell ℝ) (m c : ℕ) (hn : s.unitNorm = true)
    (hs : ∀ k < s.nprim, 0 < s.exp! k) (hc : (s.comp! c).deg = s.l) :
    (normCont s).get2 m c = 1 / √(segPhi s m) := by
  simp only [normCont, hn, if_true, tab2_get, Transc.sqrt, num_nat, Nat.cast_one]
  rw [selfOverlap_eq_segPhi s m c hs hc]

/-- the raw self-overlap need be positive for one component `c₀` of degree `l` only: by
`selfOverlap_eq_segPhi` it is the same number for all of them -/
theorem normalised_overlap_same_shell' (s : Shell ℝ) (m c₀ c c' : ℕ) (hn : s.unitNorm = true)
    (hs : ∀ k < s.nprim, 0 < s.exp! k)
    (hc₀ : (s.comp! c₀).deg = s.l) (hpos : 0 < (overlapBlock s s).get4 m c₀ m c₀)
    (hc : (s.comp! c).deg = s.l) (hc' : (s.comp! c').deg = s.l) :
    (overlapBlock s s).get4 m c m c' * (normCont s).get2 m c * (normCont s).get2 m c'
      = Sov (s.comp! c) (s.comp! c') := by
  rw [selfOverlap_eq_segPhi s m c₀ hs hc₀] at hpos
  rw [normCont_eq s m c hn hs hc, normCont_eq s m c' hn hs hc',
    overlapBlock_same_shell s m c c' hs hc hc', mul_assoc, one_div_mul_one_div,
    Real.mul_self_sqrt hpos.le, mul_assoc, mul_one_div_cancel hpos.ne', mul_one]

theorem normalised_overlap_same_shell (s : Shell ℝ) (m c c' : ℕ) (hn : s.unitNorm = true)
    (hs : ∀ k < s.nprim, 0 < s.exp! k) (hpos : 0 < (overlapBlock s s).get4 m c m c)
    (hc : (s.comp! c).deg = s.l) (hc' : (s.comp! c').deg = s.l) :
    (overlapBlock s s).get4 m c m c' * (normCont s).get2 m c * (normCont s).get2 m c'
      = Sov (s.comp! c) (s.comp! c') :=
  normalised_overlap_same_shell' s m c c c' hn hs hc hpos hc hc'

/-- the same with the hypothesis of `C16.normalised_diag_one`: the contracted function `(m, c)`
does not vanish identically -/
theorem normalised_overlap_same_shell_of_ne (s : Shell ℝ) (m c c' : ℕ) (hn : s.unitNorm = true)
    (hs : ∀ k < s.nprim, 0 < s.exp! k) (r₀ : ℝ × ℝ × ℝ) (h0 : shellFn s m c r₀ ≠ 0)
    (hc : (s.comp! c).deg = s.l) (hc' : (s.comp! c').deg = s.l) :
    (overlapBlock s s).get4 m c m c' * (normCont s).get2 m c * (normCont s).get2 m c'
      = Sov (s.comp! c) (s.comp! c') :=
  normalised_overlap_same_shell s m c c' hn hs (selfOverlap_pos s m c hs r₀ h0) hc hc'

/-! ## The same-segment block of a spherical shell -/

theorem spherical_block_eq_gram (s : Shell ℝ) (hsph : s.sph = true) (hn : s.unitNorm = true)
    (hs : ∀ k < s.nprim, 0 < s.exp! k) (hdeg : ∀ c < s.ncart, (s.comp! c).deg = s.l)
    (m c₀ : ℕ) (hc₀ : c₀ < s.ncart) (hpos : 0 < (overlapBlock s s).get4 m c₀ m c₀) (f f' : ℕ) :
    (wBlock2 s s s.weights s.weights (overlapBlock s s)).get4 m f m f'
      = gram s.l s.cart (s.sphOrd.getD f ⟨false, false, 0⟩) (s.sphOrd.getD f' ⟨false, false, 0⟩) := by
  rw [gram_eq_sum_range]
  simp only [wBlock2, tab4_get, hsph, if_true, Shell.weights, tab3_get, Shell.transTab, tab2_get,
    Shell.comp!, Shell.ncart]
  rw [sumN_eq_sum, Finset.sum_comm]
  refine Finset.sum_congr rfl fun b hb => ?_
  rw [sumN_eq_sum, Finset.mul_sum]
  refine Finset.sum_congr rfl fun a ha => ?_
  have hab := normalised_overlap_same_shell' s m c₀ a b hn hs (hdeg c₀ hc₀) hpos
    (hdeg a (Finset.mem_range.mp ha)) (hdeg b (Finset.mem_range.mp hb))
  rw [Shell.comp!, Shell.comp!] at hab
  rw [← hab]
  ring

theorem comp_deg_of_defaultCart (s : Shell ℝ) (hcart : s.cart = defaultCart s.l) (c : ℕ)
    (hc : c < s.ncart) : (s.comp! c).deg = s.l := by
  rw [Shell.comp!, ← List.getElem_eq_getD (h := hc)]
  exact (mem_defaultCart _ _).1 (hcart ▸ List.getElem_mem hc)

theorem spherical_block_orthonormal_signed (s : Shell ℝ) (hsph : s.sph = true) (hl : s.l ≤ 10)
    (hcart : s.cart = defaultCart s.l) (hn : s.unitNorm = true)
    (hs : ∀ k < s.nprim, 0 < s.exp! k)
    (m c₀ : ℕ) (hc₀ : c₀ < s.ncart) (hpos : 0 < (overlapBlock s s).get4 m c₀ m c₀)
    (f f' : ℕ) (r r' : SphLabel) (hr : s.sphOrd.getD f ⟨false, false, 0⟩ = r)
    (hr' : s.sphOrd.getD f' ⟨false, false, 0⟩ = r')
    (hm : r.m ≤ s.l) (hm' : r'.m ≤ s.l) (hsn : r.sine = true → 1 ≤ r.m)
    (hsn' : r'.sine = true → 1 ≤ r'.m) :
    (wBlock2 s s s.weights s.weights (overlapBlock s s)).get4 m f m f'
      = if (r.sine, r.m) = (r'.sine, r'.m) then ((r.sgn * r'.sgn : ℚ) : ℝ) else 0 := by
  rw [spherical_block_eq_gram s hsph hn hs (comp_deg_of_defaultCart s hcart) m c₀ hc₀ hpos, hr, hr',
    hcart]
  exact rows_orthonormal_le_10 s.l hl r r' hm hm' hsn hsn'

/-- C01: inside one segment of a spherical shell the overlap block is the identity, for every accepted
spherical order (any order, any signs) -/
theorem spherical_block_orthonormal (s : Shell ℝ) (hsph : s.sph = true) (hl : s.l ≤ 10)
    (hcart : s.cart = defaultCart s.l) (labels : List String)
    (hord : validSphOrder s.l labels = some s.sphOrd) (hn : s.unitNorm = true)
    (hs : ∀ k < s.nprim, 0 < s.exp! k)
    (m c₀ : ℕ) (hc₀ : c₀ < s.ncart) (hpos : 0 < (overlapBlock s s).get4 m c₀ m c₀)
    (f f' : ℕ) (hf : f < s.nfun) (hf' : f' < s.nfun) :
    (wBlock2 s s s.weights s.weights (overlapBlock s s)).get4 m f m f'
      = if f = f' then 1 else 0 := by
  simp only [Shell.nfun, hsph, if_true] at hf hf'
  rw [spherical_block_eq_gram s hsph hn hs (comp_deg_of_defaultCart s hcart) m c₀ hc₀ hpos,
    ← List.getElem_eq_getD (h := hf), ← List.getElem_eq_getD (h := hf'), hcart]
  exact rows_orthonormal_valid s.l hl labels s.sphOrd hord f f' hf hf'

theorem spherical_block_orthonormal_default (s : Shell ℝ) (hsph : s.sph = true) (hl : s.l ≤ 10)
    (hcart : s.cart = defaultCart s.l) (hord : s.sphOrd = defaultSph s.l) (hn : s.unitNorm = true)
    (hs : ∀ k < s.nprim, 0 < s.exp! k)
    (m c₀ : ℕ) (hc₀ : c₀ < s.ncart) (hpos : 0 < (overlapBlock s s).get4 m c₀ m c₀)
    (f f' : ℕ) (hf : f < s.nfun) (hf' : f' < s.nfun) :
    (wBlock2 s s s.weights s.weights (overlapBlock s s)).get4 m f m f'
      = if f = f' then 1 else 0 :=
  spherical_block_orthonormal s hsph hl hcart _ (by rw [hord]; exact defaultSph_valid s.l hl) hn hs
    m c₀ hc₀ hpos f f' hf hf'

/-- C01: every spherical function is unit-normalised -/
theorem spherical_diag_one (s : Shell ℝ) (hsph : s.sph = true) (hl : s.l ≤ 10)
    (hcart : s.cart = defaultCart s.l) (labels : List String)
    (hord : validSphOrder s.l labels = some s.sphOrd) (hn : s.unitNorm = true)
    (hs : ∀ k < s.nprim, 0 < s.exp! k)
    (m c₀ : ℕ) (hc₀ : c₀ < s.ncart) (r₀ : ℝ × ℝ × ℝ) (h0 : shellFn s m c₀ r₀ ≠ 0)
    (f : ℕ) (hf : f < s.nfun) :
    (wBlock2 s s s.weights s.weights (overlapBlock s s)).get4 m f m f = 1 := by
  rw [spherical_block_orthonormal s hsph hl hcart labels hord hn hs m c₀ hc₀
    (selfOverlap_pos s m c₀ hs r₀ h0) f f hf hf, if_pos rfl]

/-- diagonal entries of a Cartesian shell (block form of `C16.normalised_diag_one`) -/
theorem cartesian_diag_one (s : Shell ℝ) (hsph : s.sph = false) (hn : s.unitNorm = true)
    (hs : ∀ k < s.nprim, 0 < s.exp! k) (m f : ℕ) (r₀ : ℝ × ℝ × ℝ) (h0 : shellFn s m f r₀ ≠ 0) :
    (wBlock2 s s s.weights s.weights (overlapBlock s s)).get4 m f m f = 1 := by
  have h := C16.normalised_diag_one s m f hn hs r₀ h0
  simp only [wBlock2, tab4_get, hsph, Shell.weights, tab3_get, beq_self_eq_true, if_true]
  simp only [Bool.false_eq_true, if_false]
  rw [← h]
  ring

/-! ## The assembled overlap array -/

/-- hypotheses on a basis under which every basis function is unit-normalised -/
structure Basis.Regular (b : Basis ℝ) : Prop where
  unitNorm : ∀ (i : ℕ) (hi : i < b.size), b[i].unitNorm = true
  exps_pos : ∀ (i : ℕ) (hi : i < b.size), ∀ k < b[i].nprim, 0 < b[i].exp! k
  nonvanishing : ∀ (i : ℕ) (hi : i < b.size) (m c : ℕ), m < b[i].nseg → c < b[i].ncart →
    ∃ r₀ : ℝ × ℝ × ℝ, shellFn b[i] m c r₀ ≠ 0
  sph_ok : ∀ (i : ℕ) (hi : i < b.size), b[i].sph = true →
    b[i].l ≤ 10 ∧ b[i].cart = defaultCart b[i].l ∧
      ∃ labels, validSphOrder b[i].l labels = some b[i].sphOrd

/-- the `blk` argument with which `Driver.lean` calls `assemble2` for `"overlap"`
(`one4 (overlapBlock b[i]! b[j]!)`) -/
noncomputable def overlapBlk (b : Basis ℝ) (i j : ℕ) : Tab (Tab4 ℝ) :=
  tab 1 fun _ => overlapBlock b[i]! b[j]!

theorem overlapBlk_get (b : Basis ℝ) {i : ℕ} (hi : i < b.size) :
    (overlapBlk b i i).get 0 = overlapBlock b[i] b[i] := by
  simp only [overlapBlk, tab_get]
  rw [getElem!_pos b i hi]

theorem overlap_array_sph_segment_orthonormal (b : Basis ℝ) (hb : b.Regular) (i : ℕ)
    (hi : i < b.size) (hsph : b[i].sph = true) (m f f' : ℕ) (hm : m < b[i].nseg)
    (hf : f < b[i].nfun) (hf' : f' < b[i].nfun) :
    entry2 b b (pairBlocks b b 1 (overlapBlk b))
        (b.offset i + m * b[i].nfun + f) (b.offset i + m * b[i].nfun + f') 0
      = if f = f' then 1 else 0 := by
  rw [entry2_layout b b 1 (overlapBlk b) i i hi hi m f m f' 0 hm hf hm hf', overlapBlk_get b hi]
  obtain ⟨hl, hcart, labels, hord⟩ := hb.sph_ok i hi hsph
  have hc₀ : 0 < b[i].ncart := by
    unfold Shell.ncart
    rw [hcart]
    exact List.length_pos_of_mem ((mem_defaultCart _ (b[i].l, 0, 0)).2 rfl)
  obtain ⟨r₀, h0⟩ := hb.nonvanishing i hi m 0 hm hc₀
  exact spherical_block_orthonormal b[i] hsph hl hcart labels hord (hb.unitNorm i hi)
    (hb.exps_pos i hi) m 0 hc₀ (selfOverlap_pos b[i] m 0 (hb.exps_pos i hi) r₀ h0) f f' hf hf'

/-- C01: every diagonal entry of the overlap array the model assembles is `1`, Cartesian and spherical
shells alike -/
theorem overlap_array_diag_one (b : Basis ℝ) (hb : b.Regular) (r : ℕ) (hr : r < b.total) :
    entry2 b b (pairBlocks b b 1 (overlapBlk b)) r r 0 = 1 := by
  obtain ⟨hi, hm, hf, hrr⟩ := locate_lt b r hr
  generalize (b.locate r).1 = i at hi hm hf hrr
  generalize (b.locate r).2.1 = m at hm hf hrr
  generalize (b.locate r).2.2 = f at hf hrr
  rw [← hrr]
  cases hsph : b[i].sph with
  | true =>
    exact (overlap_array_sph_segment_orthonormal b hb i hi hsph m f f hm hf hf).trans (if_pos rfl)
  | false =>
    rw [entry2_layout b b 1 (overlapBlk b) i i hi hi m f m f 0 hm hf hm hf, overlapBlk_get b hi]
    have hf' : f < b[i].ncart := by
      simpa [Shell.nfun, hsph, Shell.ncart] using hf
    obtain ⟨r₀, h0⟩ := hb.nonvanishing i hi m f hm hf'
    exact cartesian_diag_one b[i] hsph (hb.unitNorm i hi) (hb.exps_pos i hi) m f r₀ h0

/-- the same for the flat array `assemble2 b b 1 …` that the driver prints: entry `[r][r]` is `1` -/
theorem overlap_flat_diag_one (b : Basis ℝ) (hb : b.Regular) (r : ℕ) (hr : r < b.total) :
    (assemble2 b b 1 (overlapBlk b))[(r * b.total + r) * 1 + 0]! = 1 := by
  rw [assemble2_get b b 1 (overlapBlk b) r r 0 hr hr (by omega)]
  exact overlap_array_diag_one b hb r hr

end GB

