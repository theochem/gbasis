import GBProofs.ArrayMotion2

/-!
# Definiteness of the assembled electron-repulsion array (C17)

All statements are about the four-index array the model assembles for a whole basis,
`entry4 b b b b (quartetBlocks b b b b (eriBlk boysT b))` (and the flat `assemble4 b (eriBlk boysT b)`):
every shell, Cartesian and spherical, after `norm_cont` and the Cartesian → spherical transformation.
An entry is the six-dimensional Coulomb integral of the four basis functions `basisFnE b r` of the array
(`eri_array_eq_integral`); read as a matrix over index pairs the array is therefore the Coulomb matrix of the pair
densities, which gives positive semi-definiteness and the Schwarz bound, also after a rectangular `transform=`.
-/
open MeasureTheory Real Finset

namespace GB

/-! ## 1. The entries of the electron-repulsion array as six-dimensional integrals -/
section Integral

theorem Basis.WellFormed.expsPos {b : Basis ℝ} (hb : b.WellFormed) : b.ExpsPos :=
  fun i hi k hk => hb.exp_pos i hi k hk

theorem Basis.WellFormed.compsLe {b : Basis ℝ} (hb : b.WellFormed) : b.CompsLe :=
  fun i hi a ha => hb.comp_le i hi a ha

/-- pair density `χ_{r₁} χ_{r₂}` of two basis functions of the array -/
noncomputable def basisPair (b : Basis ℝ) (r₁ r₂ : ℕ) (x : E3) : ℝ :=
  basisFnE b r₁ x * basisFnE b r₂ x

theorem basisPair_expand (b : Basis ℝ) (r₁ r₂ : ℕ) (x : E3) :
    basisPair b r₁ r₂ x
      = ∑ a₁ ∈ range (shellOf b r₁).ncart, ∑ a₂ ∈ range (shellOf b r₂).ncart,
          (cw b r₁ a₁ * cw b r₂ a₂)
            * pairDensity (shellOf b r₁) (shellOf b r₂) (segOf b r₁) a₁ (segOf b r₂) a₂ x :=
  sum_mul_sum_eq _ _ _ _ _ _ x

theorem continuous_basisFnE (b : Basis ℝ) (r : ℕ) : Continuous (basisFnE b r) := by
  unfold basisFnE basisLin
  exact continuous_finsetSum _ fun a _ => (continuous_shellFnE _ _ _).const_mul _

theorem gaussBdd_basisFnE (b : Basis ℝ) (hb : b.ExpsPos) (r : ℕ) (hr : r < b.total) :
    GaussBdd (basisFnE b r) := by
  unfold basisFnE basisLin
  exact GaussBdd.sum _ _ fun a _ =>
    (gaussBdd_shellFnE _ _ _ (shellOf_exps_pos b hb r hr)).const_mul _

theorem continuous_basisPair (b : Basis ℝ) (r₁ r₂ : ℕ) : Continuous (basisPair b r₁ r₂) :=
  (continuous_basisFnE b r₁).mul (continuous_basisFnE b r₂)

theorem gaussBdd_basisPair (b : Basis ℝ) (hb : b.ExpsPos) (r₁ r₂ : ℕ) (h₁ : r₁ < b.total)
    (h₂ : r₂ < b.total) : GaussBdd (basisPair b r₁ r₂) :=
  (gaussBdd_basisFnE b hb r₁ h₁).mul (gaussBdd_basisFnE b hb r₂ h₂)

theorem eri_array_eq_coulombPair (boysT : ℝ → ℕ → Tab ℝ)
    (hboys : ∀ T n m, m < n → (boysT T n).get m = boys T m) (b : Basis ℝ) (hb : b.WellFormed)
    (r₁ r₂ r₃ r₄ : ℕ) (h₁ : r₁ < b.total) (h₂ : r₂ < b.total) (h₃ : r₃ < b.total)
    (h₄ : r₄ < b.total) :
    entry4 b b b b (quartetBlocks b b b b (eriBlk boysT b)) r₁ r₂ r₃ r₄
      = ∫ p : E3 × E3, basisPair b r₁ r₂ p.1 * basisPair b r₃ r₄ p.2 / ‖p.1 - p.2‖ := by
  have he := hb.expsPos
  have hc := hb.compsLe
  have hI := integral_sum4 (shellOf b r₁).ncart (shellOf b r₂).ncart (shellOf b r₃).ncart
    (shellOf b r₄).ncart (fun a₁ a₂ => cw b r₁ a₁ * cw b r₂ a₂) (fun a₃ a₄ => cw b r₃ a₃ * cw b r₄ a₄)
    (fun a₁ a₂ => pairDensity (shellOf b r₁) (shellOf b r₂) (segOf b r₁) a₁ (segOf b r₂) a₂)
    (fun a₃ a₄ => pairDensity (shellOf b r₃) (shellOf b r₄) (segOf b r₃) a₃ (segOf b r₄) a₄)
    (fun a₁ a₂ a₃ a₄ _ _ _ _ =>
      integrable_coulomb_pair (continuous_pairDensity _ _ _ _ _ _).aestronglyMeasurable
        (continuous_pairDensity _ _ _ _ _ _).aestronglyMeasurable
        (gaussBdd_pairDensity _ _ _ _ _ _ (shellOf_exps_pos b he r₁ h₁) (shellOf_exps_pos b he r₂ h₂))
        (gaussBdd_pairDensity _ _ _ _ _ _ (shellOf_exps_pos b he r₃ h₃)
          (shellOf_exps_pos b he r₄ h₄)))
  simp_rw [basisPair_expand]
  rw [hI, entry4_eq_sum b (eriBlk boysT b) r₁ r₂ r₃ r₄ h₁ h₂ h₃ h₄]
  refine Finset.sum_congr rfl fun a₁ ha₁ => Finset.sum_congr rfl fun a₂ ha₂ =>
    Finset.sum_congr rfl fun a₃ ha₃ => Finset.sum_congr rfl fun a₄ ha₄ => ?_
  have hE := eriBlock_eq_integral boysT hboys (shellOf b r₁) (shellOf b r₂) (shellOf b r₃)
    (shellOf b r₄) (segOf b r₁) a₁ (segOf b r₂) a₂ (segOf b r₃) a₃ (segOf b r₄) a₄
    (shellOf_exps_pos b he r₁ h₁) (shellOf_exps_pos b he r₂ h₂) (shellOf_exps_pos b he r₃ h₃)
    (shellOf_exps_pos b he r₄ h₄)
    (shellOf_comps_le b hc r₁ h₁ a₁ (Finset.mem_range.mp ha₁))
    (shellOf_comps_le b hc r₂ h₂ a₂ (Finset.mem_range.mp ha₂))
    (shellOf_comps_le b hc r₃ h₃ a₃ (Finset.mem_range.mp ha₃))
    (shellOf_comps_le b hc r₄ h₄ a₄ (Finset.mem_range.mp ha₄))
  have hE' : (eriBlk boysT b (b.locate r₁).1 (b.locate r₂).1 (b.locate r₃).1 (b.locate r₄).1).get8
      (segOf b r₁) a₁ (segOf b r₂) a₂ (segOf b r₃) a₃ (segOf b r₄) a₄ = _ := hE
  rw [hE']
  unfold eriExact
  ring

/-- C17, electron-repulsion array: every entry is the six-dimensional Coulomb integral of the four
basis functions.  For a well-formed basis (positive exponents, Cartesian components of total degree
at most `l`) and the true Boys function in the blocks (`hboys`), for `r₁ … r₄ < b.total`
`(r₁ r₂ | r₃ r₄) = ∬ χ_{r₁}(x) χ_{r₂}(x) χ_{r₃}(y) χ_{r₄}(y) / |x - y| dx dy`
with `χ_r = basisFnE b r` the (normalised, for spherical shells transformed) basis functions of the
array. -/
theorem eri_array_eq_integral (boysT : ℝ → ℕ → Tab ℝ)
    (hboys : ∀ T n m, m < n → (boysT T n).get m = boys T m) (b : Basis ℝ) (hb : b.WellFormed)
    (r₁ r₂ r₃ r₄ : ℕ) (h₁ : r₁ < b.total) (h₂ : r₂ < b.total) (h₃ : r₃ < b.total)
    (h₄ : r₄ < b.total) :
    entry4 b b b b (quartetBlocks b b b b (eriBlk boysT b)) r₁ r₂ r₃ r₄
      = ∫ p : E3 × E3, basisFnE b r₁ p.1 * basisFnE b r₂ p.1
          * (basisFnE b r₃ p.2 * basisFnE b r₄ p.2) / ‖p.1 - p.2‖ :=
  eri_array_eq_coulombPair boysT hboys b hb r₁ r₂ r₃ r₄ h₁ h₂ h₃ h₄

theorem eri_array_eq_integral_iterated (boysT : ℝ → ℕ → Tab ℝ)
    (hboys : ∀ T n m, m < n → (boysT T n).get m = boys T m) (b : Basis ℝ) (hb : b.WellFormed)
    (r₁ r₂ r₃ r₄ : ℕ) (h₁ : r₁ < b.total) (h₂ : r₂ < b.total) (h₃ : r₃ < b.total)
    (h₄ : r₄ < b.total) :
    entry4 b b b b (quartetBlocks b b b b (eriBlk boysT b)) r₁ r₂ r₃ r₄
      = ∫ x : E3, ∫ y : E3, basisFnE b r₁ x * basisFnE b r₂ x
          * (basisFnE b r₃ y * basisFnE b r₄ y) / ‖x - y‖ :=
  (eri_array_eq_coulombPair boysT hboys b hb r₁ r₂ r₃ r₄ h₁ h₂ h₃ h₄).trans
    (integral_coulomb_pair_eq_iterated finrank_E3 (continuous_basisPair b r₁ r₂).aestronglyMeasurable
      (continuous_basisPair b r₃ r₄).aestronglyMeasurable
      (gaussBdd_basisPair b hb.expsPos r₁ r₂ h₁ h₂) (gaussBdd_basisPair b hb.expsPos r₃ r₄ h₃ h₄))

end Integral

/-! ## 2. The array as a matrix over index pairs is symmetric positive semi-definite -/
section PSD

abbrev PairIx (b : Basis ℝ) : Type := Fin b.total × Fin b.total

noncomputable def basisPairFam (b : Basis ℝ) (p : PairIx b) : E3 → ℝ := basisPair b p.1.1 p.2.1

/-- row `(r₁, r₂)`, column `(r₃, r₄)` -/
noncomputable def eriMat (boysT : ℝ → ℕ → Tab ℝ) (b : Basis ℝ) (p q : PairIx b) : ℝ :=
  entry4 b b b b (quartetBlocks b b b b (eriBlk boysT b)) p.1.1 p.2.1 q.1.1 q.2.1

theorem aesm_basisPairFam (b : Basis ℝ) (p : PairIx b) :
    AEStronglyMeasurable (basisPairFam b p) volume :=
  (continuous_basisPair b p.1.1 p.2.1).aestronglyMeasurable

theorem gaussBdd_basisPairFam (b : Basis ℝ) (hb : b.ExpsPos) (p : PairIx b) :
    GaussBdd (basisPairFam b p) :=
  gaussBdd_basisPair b hb p.1.1 p.2.1 p.1.2 p.2.2

theorem eriMat_eq_coulombMat (boysT : ℝ → ℕ → Tab ℝ)
    (hboys : ∀ T n m, m < n → (boysT T n).get m = boys T m) (b : Basis ℝ) (hb : b.WellFormed) :
    eriMat boysT b = coulombMat (basisPairFam b) := by
  funext p q
  exact eri_array_eq_coulombPair boysT hboys b hb p.1.1 p.2.1 q.1.1 q.2.1 p.1.2 p.2.2 q.1.2 q.2.2

theorem eriMat_psd (boysT : ℝ → ℕ → Tab ℝ)
    (hboys : ∀ T n m, m < n → (boysT T n).get m = boys T m) (b : Basis ℝ) (hb : b.WellFormed)
    (x : PairIx b → ℝ) : 0 ≤ quadForm (eriMat boysT b) x := by
  rw [eriMat_eq_coulombMat boysT hboys b hb]
  exact coulomb_psd finrank_E3 _ (aesm_basisPairFam b) (gaussBdd_basisPairFam b hb.expsPos) x

theorem eriMat_symm (boysT : ℝ → ℕ → Tab ℝ)
    (hboys : ∀ T n m, m < n → (boysT T n).get m = boys T m) (b : Basis ℝ) (hb : b.WellFormed)
    (p q : PairIx b) : eriMat boysT b p q = eriMat boysT b q p := by
  rw [eriMat_eq_coulombMat boysT hboys b hb]
  exact coulombMat_symm _ p q

theorem quadForm_pairs {ι : Type*} [Fintype ι] (M : ι × ι → ι × ι → ℝ) (v : ι → ι → ℝ) :
    quadForm M (fun p => v p.1 p.2)
      = ∑ r₁, ∑ r₂, ∑ r₃, ∑ r₄, v r₁ r₂ * v r₃ r₄ * M (r₁, r₂) (r₃, r₄) := by
  unfold quadForm
  simp only [Fintype.sum_prod_type]
  refine Finset.sum_congr rfl fun r₁ _ => Finset.sum_congr rfl fun r₂ _ =>
    Finset.sum_congr rfl fun r₃ _ => Finset.sum_congr rfl fun r₄ _ => ?_
  ring

/-- C17, electron-repulsion array: positive semi-definite as a matrix over index pairs.  For a
well-formed basis and the true Boys function, for every real `v` indexed by pairs of basis functions,
`Σ_{r₁ r₂ r₃ r₄} v_{r₁ r₂} v_{r₃ r₄} (r₁ r₂ | r₃ r₄) ≥ 0`. -/
theorem eri_array_psd (boysT : ℝ → ℕ → Tab ℝ)
    (hboys : ∀ T n m, m < n → (boysT T n).get m = boys T m) (b : Basis ℝ) (hb : b.WellFormed)
    (v : Fin b.total → Fin b.total → ℝ) :
    0 ≤ ∑ r₁ : Fin b.total, ∑ r₂ : Fin b.total, ∑ r₃ : Fin b.total, ∑ r₄ : Fin b.total,
      v r₁ r₂ * v r₃ r₄
        * entry4 b b b b (quartetBlocks b b b b (eriBlk boysT b)) r₁ r₂ r₃ r₄ := by
  have h := eriMat_psd boysT hboys b hb (fun p => v p.1 p.2)
  rw [quadForm_pairs] at h
  exact h

/-- `vᵀ (ERI) v = ∬ ρ_v(x) ρ_v(y) / |x - y|` with the "density" `ρ_v = Σ v_{r₁ r₂} χ_{r₁} χ_{r₂}`:
the quadratic form of the array is the Coulomb self-energy of `ρ_v`. -/
theorem eri_array_quadForm_eq (boysT : ℝ → ℕ → Tab ℝ)
    (hboys : ∀ T n m, m < n → (boysT T n).get m = boys T m) (b : Basis ℝ) (hb : b.WellFormed)
    (v : Fin b.total → Fin b.total → ℝ) :
    ∑ r₁ : Fin b.total, ∑ r₂ : Fin b.total, ∑ r₃ : Fin b.total, ∑ r₄ : Fin b.total,
        v r₁ r₂ * v r₃ r₄
          * entry4 b b b b (quartetBlocks b b b b (eriBlk boysT b)) r₁ r₂ r₃ r₄
      = ∫ p : E3 × E3,
          (∑ r₁ : Fin b.total, ∑ r₂ : Fin b.total, v r₁ r₂ * (basisFnE b r₁ p.1 * basisFnE b r₂ p.1))
          * (∑ r₁ : Fin b.total, ∑ r₂ : Fin b.total,
              v r₁ r₂ * (basisFnE b r₁ p.2 * basisFnE b r₂ p.2)) / ‖p.1 - p.2‖ := by
  have h := coulomb_quadForm_eq finrank_E3 (basisPairFam b) (aesm_basisPairFam b)
    (gaussBdd_basisPairFam b hb.expsPos) (fun p => v p.1 p.2)
  rw [← eriMat_eq_coulombMat boysT hboys b hb, quadForm_pairs] at h
  simp only [Fintype.sum_prod_type] at h
  exact h

/-- C17: `(r₁ r₂ | r₁ r₂) ≥ 0` -/
theorem eri_array_self_nonneg (boysT : ℝ → ℕ → Tab ℝ)
    (hboys : ∀ T n m, m < n → (boysT T n).get m = boys T m) (b : Basis ℝ) (hb : b.WellFormed)
    (r₁ r₂ : ℕ) (h₁ : r₁ < b.total) (h₂ : r₂ < b.total) :
    0 ≤ entry4 b b b b (quartetBlocks b b b b (eriBlk boysT b)) r₁ r₂ r₁ r₂ := by
  classical
  exact psd_diag_nonneg (eriMat boysT b) (eriMat_psd boysT hboys b hb) (⟨r₁, h₁⟩, ⟨r₂, h₂⟩)

/-- C17, Schwarz inequality of the array: `(r₁ r₂ | r₃ r₄)² ≤ (r₁ r₂ | r₁ r₂) (r₃ r₄ | r₃ r₄)` -/
theorem eri_array_schwarz (boysT : ℝ → ℕ → Tab ℝ)
    (hboys : ∀ T n m, m < n → (boysT T n).get m = boys T m) (b : Basis ℝ) (hb : b.WellFormed)
    (r₁ r₂ r₃ r₄ : ℕ) (h₁ : r₁ < b.total) (h₂ : r₂ < b.total) (h₃ : r₃ < b.total)
    (h₄ : r₄ < b.total) :
    entry4 b b b b (quartetBlocks b b b b (eriBlk boysT b)) r₁ r₂ r₃ r₄ ^ 2
      ≤ entry4 b b b b (quartetBlocks b b b b (eriBlk boysT b)) r₁ r₂ r₁ r₂
        * entry4 b b b b (quartetBlocks b b b b (eriBlk boysT b)) r₃ r₄ r₃ r₄ := by
  classical
  exact psd_sq_le (eriMat boysT b) (eriMat_symm boysT hboys b hb) (eriMat_psd boysT hboys b hb)
    (⟨r₁, h₁⟩, ⟨r₂, h₂⟩) (⟨r₃, h₃⟩, ⟨r₄, h₄⟩)

/-- the screening form `|(r₁ r₂ | r₃ r₄)| ≤ √(r₁ r₂ | r₁ r₂) √(r₃ r₄ | r₃ r₄)` -/
theorem eri_array_abs_le (boysT : ℝ → ℕ → Tab ℝ)
    (hboys : ∀ T n m, m < n → (boysT T n).get m = boys T m) (b : Basis ℝ) (hb : b.WellFormed)
    (r₁ r₂ r₃ r₄ : ℕ) (h₁ : r₁ < b.total) (h₂ : r₂ < b.total) (h₃ : r₃ < b.total)
    (h₄ : r₄ < b.total) :
    |entry4 b b b b (quartetBlocks b b b b (eriBlk boysT b)) r₁ r₂ r₃ r₄|
      ≤ √(entry4 b b b b (quartetBlocks b b b b (eriBlk boysT b)) r₁ r₂ r₁ r₂)
        * √(entry4 b b b b (quartetBlocks b b b b (eriBlk boysT b)) r₃ r₄ r₃ r₄) := by
  classical
  exact psd_abs_le (eriMat boysT b) (eriMat_symm boysT hboys b hb) (eriMat_psd boysT hboys b hb)
    (⟨r₁, h₁⟩, ⟨r₂, h₂⟩) (⟨r₃, h₃⟩, ⟨r₄, h₄⟩)

theorem eri_array_eq_zero_of_self_eq_zero (boysT : ℝ → ℕ → Tab ℝ)
    (hboys : ∀ T n m, m < n → (boysT T n).get m = boys T m) (b : Basis ℝ) (hb : b.WellFormed)
    (r₁ r₂ r₃ r₄ : ℕ) (h₁ : r₁ < b.total) (h₂ : r₂ < b.total) (h₃ : r₃ < b.total)
    (h₄ : r₄ < b.total)
    (h0 : entry4 b b b b (quartetBlocks b b b b (eriBlk boysT b)) r₁ r₂ r₁ r₂ = 0) :
    entry4 b b b b (quartetBlocks b b b b (eriBlk boysT b)) r₁ r₂ r₃ r₄ = 0 := by
  have h := eri_array_schwarz boysT hboys b hb r₁ r₂ r₃ r₄ h₁ h₂ h₃ h₄
  rw [h0, zero_mul] at h
  exact pow_eq_zero_iff (two_ne_zero) |>.mp (le_antisymm h (sq_nonneg _))

end PSD

/-! ## 3. A further transformation of the four indices -/
section Transform
variable {κ : Type*} [Fintype κ]

/-- the array after a further linear transformation (rectangular allowed) of its four indices:
`T` on the first and third index, `T'` on the second and fourth (`transform=` uses `T' = T`) -/
noncomputable def eriTransformed (boysT : ℝ → ℕ → Tab ℝ) (b : Basis ℝ)
    (T T' : κ → Fin b.total → ℝ) (i j k l : κ) : ℝ :=
  ∑ r₁ : Fin b.total, ∑ r₂ : Fin b.total, ∑ r₃ : Fin b.total, ∑ r₄ : Fin b.total,
    T i r₁ * T' j r₂ * T k r₃ * T' l r₄
      * entry4 b b b b (quartetBlocks b b b b (eriBlk boysT b)) r₁ r₂ r₃ r₄

def pairT {n : ℕ} (T T' : κ → Fin n → ℝ) (I : κ × κ) (p : Fin n × Fin n) : ℝ := T I.1 p.1 * T' I.2 p.2

omit [Fintype κ] in
/-- the transformed array is `U M Uᵀ` of the pair matrix with `U = T ⊗ T'` -/
theorem eriTransformed_eq_congr (boysT : ℝ → ℕ → Tab ℝ) (b : Basis ℝ)
    (T T' : κ → Fin b.total → ℝ) (I J : κ × κ) :
    eriTransformed boysT b T T' I.1 I.2 J.1 J.2
      = ∑ p, ∑ q, pairT T T' I p * eriMat boysT b p q * pairT T T' J q := by
  unfold eriTransformed pairT eriMat
  simp only [Fintype.sum_prod_type]
  refine Finset.sum_congr rfl fun r₁ _ => Finset.sum_congr rfl fun r₂ _ =>
    Finset.sum_congr rfl fun r₃ _ => Finset.sum_congr rfl fun r₄ _ => ?_
  ring

/-- C17 after `transform=`: still positive semi-definite over index pairs, for any (rectangular) `T`, `T'` -/
theorem eri_array_transform_psd (boysT : ℝ → ℕ → Tab ℝ)
    (hboys : ∀ T n m, m < n → (boysT T n).get m = boys T m) (b : Basis ℝ) (hb : b.WellFormed)
    (T T' : κ → Fin b.total → ℝ) (w : κ → κ → ℝ) :
    0 ≤ ∑ i, ∑ j, ∑ k, ∑ l, w i j * w k l * eriTransformed boysT b T T' i j k l := by
  have h := psd_congr (eriMat boysT b) (pairT T T') (eriMat_psd boysT hboys b hb)
    (fun I => w I.1 I.2)
  simp_rw [← eriTransformed_eq_congr boysT b T T'] at h
  rw [quadForm_pairs (fun I J : κ × κ => eriTransformed boysT b T T' I.1 I.2 J.1 J.2)] at h
  exact h

omit [Fintype κ] in
theorem eri_array_transform_symm (boysT : ℝ → ℕ → Tab ℝ)
    (hboys : ∀ T n m, m < n → (boysT T n).get m = boys T m) (b : Basis ℝ) (hb : b.WellFormed)
    (T T' : κ → Fin b.total → ℝ) (i j k l : κ) :
    eriTransformed boysT b T T' i j k l = eriTransformed boysT b T T' k l i j := by
  rw [eriTransformed_eq_congr boysT b T T' (i, j) (k, l),
    eriTransformed_eq_congr boysT b T T' (k, l) (i, j)]
  exact symm_congr (eriMat boysT b) (pairT T T') (eriMat_symm boysT hboys b hb) (i, j) (k, l)

theorem eriTransformed_pair_psd (boysT : ℝ → ℕ → Tab ℝ)
    (hboys : ∀ T n m, m < n → (boysT T n).get m = boys T m) (b : Basis ℝ) (hb : b.WellFormed)
    (T T' : κ → Fin b.total → ℝ) (x : κ × κ → ℝ) :
    0 ≤ quadForm (fun I J : κ × κ => eriTransformed boysT b T T' I.1 I.2 J.1 J.2) x := by
  simp_rw [eriTransformed_eq_congr boysT b T T']
  exact psd_congr (eriMat boysT b) (pairT T T') (eriMat_psd boysT hboys b hb) x

theorem eri_array_transform_self_nonneg (boysT : ℝ → ℕ → Tab ℝ)
    (hboys : ∀ T n m, m < n → (boysT T n).get m = boys T m) (b : Basis ℝ) (hb : b.WellFormed)
    (T T' : κ → Fin b.total → ℝ) (i j : κ) : 0 ≤ eriTransformed boysT b T T' i j i j := by
  classical
  exact psd_diag_nonneg (fun I J : κ × κ => eriTransformed boysT b T T' I.1 I.2 J.1 J.2)
    (eriTransformed_pair_psd boysT hboys b hb T T') (i, j)

theorem eri_array_transform_schwarz (boysT : ℝ → ℕ → Tab ℝ)
    (hboys : ∀ T n m, m < n → (boysT T n).get m = boys T m) (b : Basis ℝ) (hb : b.WellFormed)
    (T T' : κ → Fin b.total → ℝ) (i j k l : κ) :
    eriTransformed boysT b T T' i j k l ^ 2
      ≤ eriTransformed boysT b T T' i j i j * eriTransformed boysT b T T' k l k l := by
  classical
  exact psd_sq_le (fun I J : κ × κ => eriTransformed boysT b T T' I.1 I.2 J.1 J.2)
    (fun I J => eri_array_transform_symm boysT hboys b hb T T' I.1 I.2 J.1 J.2)
    (eriTransformed_pair_psd boysT hboys b hb T T') (i, j) (k, l)

end Transform

/-! ## 4. The flat array `assemble4 b (eriBlk boysT b)` that the driver prints -/
section Flat

/-- C17 for the flat electron-repulsion array (row-major `[r₁][r₂][r₃][r₄]`, chemists' notation) -/
theorem eri_flat_psd (boysT : ℝ → ℕ → Tab ℝ)
    (hboys : ∀ T n m, m < n → (boysT T n).get m = boys T m) (b : Basis ℝ) (hb : b.WellFormed)
    (v : Fin b.total → Fin b.total → ℝ) :
    0 ≤ ∑ r₁ : Fin b.total, ∑ r₂ : Fin b.total, ∑ r₃ : Fin b.total, ∑ r₄ : Fin b.total,
      v r₁ r₂ * v r₃ r₄ * (assemble4 b (eriBlk boysT b))[
        ((r₁.1 * b.total + r₂.1) * b.total + r₃.1) * b.total + r₄.1]! := by
  simp_rw [fun r₁ r₂ r₃ r₄ : Fin b.total =>
    assemble4_get b (eriBlk boysT b) r₁.1 r₂.1 r₃.1 r₄.1 r₁.2 r₂.2 r₃.2 r₄.2]
  exact eri_array_psd boysT hboys b hb v

theorem eri_flat_self_nonneg (boysT : ℝ → ℕ → Tab ℝ)
    (hboys : ∀ T n m, m < n → (boysT T n).get m = boys T m) (b : Basis ℝ) (hb : b.WellFormed)
    (r₁ r₂ : ℕ) (h₁ : r₁ < b.total) (h₂ : r₂ < b.total) :
    0 ≤ (assemble4 b (eriBlk boysT b))[((r₁ * b.total + r₂) * b.total + r₁) * b.total + r₂]! := by
  rw [assemble4_get b (eriBlk boysT b) r₁ r₂ r₁ r₂ h₁ h₂ h₁ h₂]
  exact eri_array_self_nonneg boysT hboys b hb r₁ r₂ h₁ h₂

theorem eri_flat_schwarz (boysT : ℝ → ℕ → Tab ℝ)
    (hboys : ∀ T n m, m < n → (boysT T n).get m = boys T m) (b : Basis ℝ) (hb : b.WellFormed)
    (r₁ r₂ r₃ r₄ : ℕ) (h₁ : r₁ < b.total) (h₂ : r₂ < b.total) (h₃ : r₃ < b.total)
    (h₄ : r₄ < b.total) :
    (assemble4 b (eriBlk boysT b))[((r₁ * b.total + r₂) * b.total + r₃) * b.total + r₄]! ^ 2
      ≤ (assemble4 b (eriBlk boysT b))[((r₁ * b.total + r₂) * b.total + r₁) * b.total + r₂]!
        * (assemble4 b (eriBlk boysT b))[((r₃ * b.total + r₄) * b.total + r₃) * b.total + r₄]! := by
  rw [assemble4_get b (eriBlk boysT b) r₁ r₂ r₃ r₄ h₁ h₂ h₃ h₄,
    assemble4_get b (eriBlk boysT b) r₁ r₂ r₁ r₂ h₁ h₂ h₁ h₂,
    assemble4_get b (eriBlk boysT b) r₃ r₄ r₃ r₄ h₃ h₄ h₃ h₄]
  exact eri_array_schwarz boysT hboys b hb r₁ r₂ r₃ r₄ h₁ h₂ h₃ h₄

end Flat

end GB
