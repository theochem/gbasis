import GBProofs.ArrayDefiniteness
import GBProofs.SphRotation.Rep
import GBProofs.TraceLaws

/-!
# Rigid-motion covariance of the assembled arrays of a whole basis (C12, array level)

`g : E3 ≃ᵃⁱ[ℝ] E3` is an arbitrary rigid motion (translation, proper or improper rotation and their
compositions), `b` a basis of Cartesian and spherical shells in any mixture, `Basis.moved b g` the
basis with every shell carried along.  For a movable basis (`Basis.Movable`: positive exponents, full
Cartesian component lists, `l ≤ 10` and an accepted order for the spherical shells) every assembled
array of the moved basis is the array of `b` transformed on each index by `basisRep b (linPart g)`.
`basisRep` is block diagonal with the blocks `shellRep` (`repMat` for a Cartesian shell, `sphRep` for a
spherical one), and it is the matrix by which the basis functions themselves transform
(`basisFnE_moved`).

The reason: for a full component list the contraction norm is the same for all components
(`normCont_eq_segNorm`), so the weights of the assembly (contraction norm × Cartesian → spherical
matrix or unit matrix) intertwine `repMat` and `shellRep` (`cwS_moved_mul_repMat`).  `intertwine_stage`
carries that through one index, `intertwine_prod` through product index sets.  Hence the generic lemma
`entry2_moved_of_blocks_asym` (one basis per index): if every raw Cartesian block transforms with the
`repMat` of its two shells, the assembled array transforms with `basisRep`.
-/
open Finset

namespace GB

/-! ## 1. The moved basis -/
section Moved
variable (b : Basis ℝ) (g : E3 ≃ᵃⁱ[ℝ] E3)

noncomputable def Basis.moved (b : Basis ℝ) (g : E3 ≃ᵃⁱ[ℝ] E3) : Basis ℝ :=
  b.map fun s => s.moved g

@[simp] lemma Shell.moved_nseg (s : Shell ℝ) (g : E3 → E3) : (s.moved g).nseg = s.nseg := rfl
@[simp] lemma Shell.moved_nfun (s : Shell ℝ) (g : E3 → E3) : (s.moved g).nfun = s.nfun := rfl
@[simp] lemma Shell.moved_size (s : Shell ℝ) (g : E3 → E3) : (s.moved g).size = s.size := rfl
@[simp] lemma Shell.moved_sph (s : Shell ℝ) (g : E3 → E3) : (s.moved g).sph = s.sph := rfl

@[simp] theorem Basis.moved_size : (b.moved g).size = b.size := by simp [Basis.moved]

theorem Basis.moved_getElem (i : ℕ) (hi : i < b.size) (hi' : i < (b.moved g).size) :
    (b.moved g)[i] = b[i].moved g := by
  simp [Basis.moved]

theorem Basis.moved_getElem! (i : ℕ) (hi : i < b.size) :
    (b.moved g)[i]! = b[i]!.moved g := by
  have hi' : i < (b.moved g).size := by simpa using hi
  rw [getElem!_pos (b.moved g) i hi', getElem!_pos b i hi, Basis.moved_getElem b g i hi hi']

theorem Basis.moved_total : (b.moved g).total = b.total :=
  total_congr b _ (Basis.moved_size b g) fun j hj hj' => by rw [Basis.moved_getElem b g j hj]; rfl

theorem Basis.moved_offset (i : ℕ) : (b.moved g).offset i = b.offset i :=
  offset_congr b _ (Basis.moved_size b g)
    (fun j hj hj' => by rw [Basis.moved_getElem b g j hj]; rfl) i

theorem Basis.moved_locate (r : ℕ) : (b.moved g).locate r = b.locate r :=
  locate_congr b _ (Basis.moved_size b g)
    (fun j hj hj' => by rw [Basis.moved_getElem b g j hj]; exact ⟨rfl, rfl⟩) r

theorem segOf_moved (r : ℕ) : segOf (b.moved g) r = segOf b r := by
  unfold segOf; rw [Basis.moved_locate]

theorem funOf_moved (r : ℕ) : funOf (b.moved g) r = funOf b r := by
  unfold funOf; rw [Basis.moved_locate]

theorem shellOf_moved (r : ℕ) (hr : r < b.total) :
    shellOf (b.moved g) r = (shellOf b r).moved g := by
  obtain ⟨hi, -⟩ := locate_lt b r hr
  unfold shellOf
  rw [Basis.moved_locate, Basis.moved_getElem! b g _ hi]

end Moved

/-! ## 2. The representation matrices of a shell and of the basis -/
section Rep

/-- the hypotheses on a shell under which its functions transform among themselves under every rigid
motion -/
structure Shell.Movable (s : Shell ℝ) : Prop where
  exps_pos : ∀ k < s.nprim, 0 < s.exp! k
  full_cart : FullCart s.l s.cart
  sph_ok : s.sph = true → s.l ≤ 10 ∧ ValidSph s.l s.sphOrd

def Basis.Movable (b : Basis ℝ) : Prop := ∀ (i : ℕ) (hi : i < b.size), b[i].Movable

theorem Shell.Movable.moved {s : Shell ℝ} (hs : s.Movable) (g : E3 → E3) : (s.moved g).Movable :=
  ⟨hs.exps_pos, hs.full_cart, hs.sph_ok⟩

theorem Basis.Movable.expsPos {b : Basis ℝ} (hb : b.Movable) : b.ExpsPos :=
  fun i hi => (hb i hi).exps_pos

theorem Basis.Movable.moved {b : Basis ℝ} (hb : b.Movable) (g : E3 ≃ᵃⁱ[ℝ] E3) :
    (b.moved g).Movable := by
  intro i hi
  have hi' : i < b.size := by simpa using hi
  rw [Basis.moved_getElem b g i hi' hi]
  exact (hb i hi').moved g

theorem Basis.Movable.of_regular {b : Basis ℝ} (hb : b.Regular)
    (hfull : ∀ (i : ℕ) (hi : i < b.size), b[i].sph = false → FullCart b[i].l b[i].cart) :
    b.Movable := by
  intro i hi
  refine ⟨hb.exps_pos i hi, ?_, fun hsph => ?_⟩
  · cases hsph : b[i].sph with
    | false => exact hfull i hi hsph
    | true =>
      obtain ⟨-, hcart, -⟩ := hb.sph_ok i hi hsph
      rw [hcart]; exact fullCart_defaultCart _
  · obtain ⟨hl, -, labels, hord⟩ := hb.sph_ok i hi hsph
    exact ⟨hl, validSph_of_validSphOrder hord⟩

theorem shellOf_movable (b : Basis ℝ) (hb : b.Movable) (r : ℕ) (hr : r < b.total) :
    (shellOf b r).Movable := by
  obtain ⟨hi, -⟩ := locate_lt b r hr
  rw [shellOf_eq b r hi]; exact hb _ hi

noncomputable def shellRep (R : E3 →ₗ[ℝ] E3) (s : Shell ℝ) (f f' : ℕ) : ℝ :=
  if s.sph then sphRep R s.l s.sphOrd f f' else repMat R s.cart f f'

noncomputable def basisRep (b : Basis ℝ) (R : E3 →ₗ[ℝ] E3) (r r' : ℕ) : ℝ :=
  if (b.locate r).1 = (b.locate r').1 ∧ (b.locate r).2.1 = (b.locate r').2.1 then
    shellRep R (shellOf b r) (funOf b r) (funOf b r')
  else 0

theorem locate_lt' (b : Basis ℝ) (r : ℕ) (hr : r < b.total) :
    (b.locate r).1 < b.size ∧ segOf b r < (shellOf b r).nseg ∧ funOf b r < (shellOf b r).nfun
      ∧ b.offset (b.locate r).1 + segOf b r * (shellOf b r).nfun + funOf b r = r := by
  obtain ⟨hi, hm, hf, hrr⟩ := locate_lt b r hr
  rw [shellOf_eq b r hi]
  exact ⟨hi, hm, hf, hrr⟩

theorem locate_row (b : Basis ℝ) (r : ℕ) (hr : r < b.total) {f' : ℕ}
    (hf' : f' < (shellOf b r).nfun) :
    b.locate (b.offset (b.locate r).1 + segOf b r * (shellOf b r).nfun + f')
      = ((b.locate r).1, segOf b r, f') := by
  obtain ⟨hi, hm, -, -⟩ := locate_lt b r hr
  rw [shellOf_eq b r hi] at hf' ⊢
  exact locate_offset b _ hi _ f' hm hf'

theorem row_lt_total (b : Basis ℝ) (r : ℕ) (hr : r < b.total) {f' : ℕ}
    (hf' : f' < (shellOf b r).nfun) :
    b.offset (b.locate r).1 + segOf b r * (shellOf b r).nfun + f' < b.total := by
  obtain ⟨hi, hm, -, -⟩ := locate_lt b r hr
  rw [shellOf_eq b r hi] at hf' ⊢
  exact offset_index_lt b _ hi hm hf'

/-- the common form of `basisRep` (`basisRep b R = blockDiag b (shellRep R)` by `rfl`) and of
`basisMetric` in `ArrayMotion2.lean` -/
noncomputable def blockDiag (b : Basis ℝ) (M : Shell ℝ → ℕ → ℕ → ℝ) (r r' : ℕ) : ℝ :=
  if (b.locate r).1 = (b.locate r').1 ∧ (b.locate r).2.1 = (b.locate r').2.1 then
    M (shellOf b r) (funOf b r) (funOf b r')
  else 0

theorem blockDiag_row_row (b : Basis ℝ) (M : Shell ℝ → ℕ → ℕ → ℝ) (r r' : ℕ) (hr : r < b.total)
    (hr' : r' < b.total) {x y : ℕ} (hx : x < (shellOf b r).nfun) (hy : y < (shellOf b r').nfun) :
    blockDiag b M (b.offset (b.locate r).1 + segOf b r * (shellOf b r).nfun + x)
        (b.offset (b.locate r').1 + segOf b r' * (shellOf b r').nfun + y)
      = if (b.locate r).1 = (b.locate r').1 ∧ segOf b r = segOf b r' then M (shellOf b r) x y
        else 0 := by
  have l := locate_row b r hr hx
  have l' := locate_row b r' hr' hy
  unfold shellOf at l l'
  unfold blockDiag shellOf funOf
  rw [l, l']

theorem sum_blockDiag (b : Basis ℝ) (M : Shell ℝ → ℕ → ℕ → ℝ) (r : ℕ) (hr : r < b.total)
    (X : ℕ → ℝ) :
    ∑ r' ∈ range b.total, blockDiag b M r r' * X r'
      = ∑ f' ∈ range (shellOf b r).nfun, M (shellOf b r) (funOf b r) f'
          * X (b.offset (b.locate r).1 + segOf b r * (shellOf b r).nfun + f') := by
  symm
  refine Finset.sum_of_injOn
    (fun f' => b.offset (b.locate r).1 + segOf b r * (shellOf b r).nfun + f')
    (fun x _ y _ h => Nat.add_left_cancel h)
    (fun f' hf' => Finset.mem_coe.mpr (Finset.mem_range.mpr
      (row_lt_total b r hr (Finset.mem_range.mp (Finset.mem_coe.mp hf'))))) ?_ ?_
  · intro r' hr' hnot
    unfold blockDiag
    rw [if_neg, zero_mul]
    rintro ⟨e1, e2⟩
    obtain ⟨-, -, hf', hrr'⟩ := locate_lt' b r' (Finset.mem_range.mp hr')
    have hsh : shellOf b r' = shellOf b r := by unfold shellOf; rw [e1]
    rw [hsh] at hf' hrr'
    refine hnot ⟨funOf b r', Finset.mem_coe.mpr (Finset.mem_range.mpr hf'), ?_⟩
    unfold segOf at hrr' ⊢
    rw [e1, e2]
    exact hrr'
  · intro f' hf'
    unfold blockDiag funOf
    rw [locate_row b r hr (Finset.mem_range.mp hf'), if_pos ⟨rfl, rfl⟩]

theorem sum_basisRep (b : Basis ℝ) (R : E3 →ₗ[ℝ] E3) (r : ℕ) (hr : r < b.total) (X : ℕ → ℝ) :
    ∑ r' ∈ range b.total, basisRep b R r r' * X r'
      = ∑ f' ∈ range (shellOf b r).nfun, shellRep R (shellOf b r) (funOf b r) f'
          * X (b.offset (b.locate r).1 + segOf b r * (shellOf b r).nfun + f') :=
  sum_blockDiag b (shellRep R) r hr X

theorem sum2_nest {α β : Type*} (A : Finset α) (B : Finset β) (p : α → ℝ) (q : β → ℝ)
    (X : α → β → ℝ) :
    ∑ a ∈ A, ∑ b ∈ B, p a * q b * X a b = ∑ a ∈ A, p a * ∑ b ∈ B, q b * X a b := by
  refine Finset.sum_congr rfl fun a _ => ?_
  rw [Finset.mul_sum]
  exact Finset.sum_congr rfl fun b _ => mul_assoc _ _ _

theorem sum_basisRep2 (b1 b2 : Basis ℝ) (R : E3 →ₗ[ℝ] E3) (r c : ℕ) (hr : r < b1.total)
    (hc : c < b2.total) (X : ℕ → ℕ → ℝ) :
    ∑ r' ∈ range b1.total, ∑ c' ∈ range b2.total, basisRep b1 R r r' * basisRep b2 R c c' * X r' c'
      = ∑ f' ∈ range (shellOf b1 r).nfun, ∑ k' ∈ range (shellOf b2 c).nfun,
          shellRep R (shellOf b1 r) (funOf b1 r) f' * shellRep R (shellOf b2 c) (funOf b2 c) k'
            * X (b1.offset (b1.locate r).1 + segOf b1 r * (shellOf b1 r).nfun + f')
                (b2.offset (b2.locate c).1 + segOf b2 c * (shellOf b2 c).nfun + k') := by
  rw [sum2_nest, sum_basisRep b1 R r hr]
  simp only [sum_basisRep b2 R c hc]
  rw [← sum2_nest]

theorem blockDiag_one (b : Basis ℝ) (M : Shell ℝ → ℕ → ℕ → ℝ) (r r' : ℕ) (hr : r < b.total)
    (hr' : r' < b.total)
    (hM : ∀ f < (shellOf b r).nfun, ∀ f' < (shellOf b r).nfun,
      M (shellOf b r) f f' = if f = f' then 1 else 0) :
    blockDiag b M r r' = if r = r' then 1 else 0 := by
  obtain ⟨-, -, hf, hrr⟩ := locate_lt' b r hr
  obtain ⟨-, -, hf', hrr'⟩ := locate_lt' b r' hr'
  unfold blockDiag
  by_cases h : (b.locate r).1 = (b.locate r').1 ∧ (b.locate r).2.1 = (b.locate r').2.1
  · have hsh : shellOf b r' = shellOf b r := by unfold shellOf; rw [h.1]
    rw [hsh] at hf' hrr'
    rw [if_pos h, hM _ hf _ hf']
    refine if_congr ⟨fun e => ?_, fun e => by rw [e]⟩ rfl rfl
    unfold segOf at hrr hrr'
    rw [h.1, h.2] at hrr
    omega
  · rw [if_neg h, if_neg]
    rintro rfl
    exact h ⟨rfl, rfl⟩

end Rep

/-! ## 3. The weights of the assembly intertwine `repMat` and `shellRep` -/
section Weights

theorem cwS_eq (s : Shell ℝ) (hs : s.Movable) (m f a : ℕ) (ha : a < s.ncart) :
    cwS s m f a
      = if s.sph then s.transTab.get2 f a * segNorm s m else if a = f then segNorm s m else 0 := by
  unfold cwS
  cases hsph : s.sph with
  | true =>
    simp only [if_true, Shell.weights, tab3_get, hsph]
    rw [normCont_eq_segNorm s hs.exps_pos hs.full_cart m ha]
  | false =>
    simp only [Bool.false_eq_true, if_false, Shell.weights, tab3_get, hsph, beq_self_eq_true,
      if_true]
    by_cases h : a = f
    · rw [if_pos h, if_pos h, ← h, normCont_eq_segNorm s hs.exps_pos hs.full_cart m ha]
    · rw [if_neg h, if_neg h]

theorem cwS_moved_eq (g : E3 ≃ᵃⁱ[ℝ] E3) (s : Shell ℝ) (hs : s.Movable) (m f a : ℕ)
    (ha : a < s.ncart) :
    cwS (s.moved g) m f a
      = if s.sph then s.transTab.get2 f a * segNorm s m else if a = f then segNorm s m else 0 := by
  rw [cwS_eq (s.moved g) (hs.moved g) m f a ha]
  rfl

theorem cwS_moved_mul_repMat (g : E3 ≃ᵃⁱ[ℝ] E3) (s : Shell ℝ) (hs : s.Movable) (m f a' : ℕ)
    (hf : f < s.nfun) (ha' : a' < s.ncart) :
    ∑ a ∈ range s.ncart, cwS (s.moved g) m f a * repMat (linPart g) s.cart a a'
      = ∑ f' ∈ range s.nfun, shellRep (linPart g) s f f' * cwS s m f' a' := by
  have e1 : ∀ a ∈ range s.ncart, cwS (s.moved g) m f a * repMat (linPart g) s.cart a a'
      = (if s.sph then s.transTab.get2 f a * segNorm s m else if a = f then segNorm s m else 0)
        * repMat (linPart g) s.cart a a' := fun a ha => by
    rw [cwS_moved_eq g s hs m f a (Finset.mem_range.mp ha)]
  have e2 : ∀ f' ∈ range s.nfun, shellRep (linPart g) s f f' * cwS s m f' a'
      = shellRep (linPart g) s f f'
        * (if s.sph then s.transTab.get2 f' a' * segNorm s m
            else if a' = f' then segNorm s m else 0) := fun f' _ => by
    rw [cwS_eq s hs m f' a' ha']
  rw [Finset.sum_congr rfl e1, Finset.sum_congr rfl e2]
  unfold shellRep
  cases hsph : s.sph with
  | true =>
    obtain ⟨hl, hv⟩ := hs.sph_ok hsph
    have hn : s.nfun = s.sphOrd.length := by simp [Shell.nfun, hsph]
    simp only [if_true]
    rw [hn] at hf ⊢
    have h := transTab_mul_sphRep g s hl hv hs.full_cart hf ha'
    calc ∑ a ∈ range s.ncart, s.transTab.get2 f a * segNorm s m * repMat (linPart g) s.cart a a'
        = segNorm s m * ∑ a ∈ range s.ncart, s.transTab.get2 f a * repMat (linPart g) s.cart a a' := by
          rw [Finset.mul_sum]; exact Finset.sum_congr rfl fun a _ => by ring
      _ = segNorm s m * ∑ f' ∈ range s.sphOrd.length,
            sphRep (linPart g) s.l s.sphOrd f f' * s.transTab.get2 f' a' := by rw [h]
      _ = _ := by
          rw [Finset.mul_sum]; exact Finset.sum_congr rfl fun a _ => by ring
  | false =>
    have hn : s.nfun = s.ncart := by simp [Shell.nfun, hsph, Shell.ncart]
    simp only [Bool.false_eq_true, if_false]
    rw [hn] at hf ⊢
    rw [Finset.sum_eq_single f, Finset.sum_eq_single a']
    · simp only [if_true]; ring
    · intro f' _ hne
      rw [if_neg (Ne.symm hne), mul_zero]
    · intro h; exact absurd (Finset.mem_range.mpr ha') h
    · intro a _ hne
      rw [if_neg hne, zero_mul]
    · intro h; exact absurd (Finset.mem_range.mpr hf) h

end Weights

/-! ## 4. The generic lemma: blocks that transform with `repMat` give arrays that transform with
`basisRep` -/
section Generic

theorem intertwine_stage {α β : Type*} (Sa : Finset α) (Sf : Finset β) (u : α → ℝ)
    (D : α → α → ℝ) (W : β → ℝ) (c : β → α → ℝ)
    (h : ∀ a' ∈ Sa, ∑ a ∈ Sa, u a * D a a' = ∑ f' ∈ Sf, W f' * c f' a') (X : α → ℝ) :
    ∑ a ∈ Sa, u a * ∑ a' ∈ Sa, D a a' * X a' = ∑ f' ∈ Sf, W f' * ∑ a' ∈ Sa, c f' a' * X a' := by
  calc ∑ a ∈ Sa, u a * ∑ a' ∈ Sa, D a a' * X a'
      = ∑ a ∈ Sa, ∑ a' ∈ Sa, u a * D a a' * X a' := by
        refine Finset.sum_congr rfl fun a _ => ?_
        rw [Finset.mul_sum]; exact Finset.sum_congr rfl fun a' _ => (mul_assoc _ _ _).symm
    _ = ∑ a' ∈ Sa, (∑ a ∈ Sa, u a * D a a') * X a' := by
        rw [Finset.sum_comm]
        exact Finset.sum_congr rfl fun a' _ => by rw [Finset.sum_mul]
    _ = ∑ a' ∈ Sa, (∑ f' ∈ Sf, W f' * c f' a') * X a' :=
        Finset.sum_congr rfl fun a' ha' => by rw [h a' ha']
    _ = ∑ a' ∈ Sa, ∑ f' ∈ Sf, W f' * c f' a' * X a' :=
        Finset.sum_congr rfl fun a' _ => by rw [Finset.sum_mul]
    _ = ∑ f' ∈ Sf, W f' * ∑ a' ∈ Sa, c f' a' * X a' := by
        rw [Finset.sum_comm]
        refine Finset.sum_congr rfl fun f' _ => ?_
        rw [Finset.mul_sum]; exact Finset.sum_congr rfl fun a' _ => mul_assoc _ _ _

theorem intertwine_prod {α₁ α₂ β₁ β₂ : Type*} (S₁ : Finset α₁) (S₂ : Finset α₂) (T₁ : Finset β₁)
    (T₂ : Finset β₂) (u₁ : α₁ → ℝ) (u₂ : α₂ → ℝ) (D₁ : α₁ → α₁ → ℝ) (D₂ : α₂ → α₂ → ℝ)
    (W₁ : β₁ → ℝ) (W₂ : β₂ → ℝ) (c₁ : β₁ → α₁ → ℝ) (c₂ : β₂ → α₂ → ℝ)
    (h₁ : ∀ a' ∈ S₁, ∑ a ∈ S₁, u₁ a * D₁ a a' = ∑ f' ∈ T₁, W₁ f' * c₁ f' a')
    (h₂ : ∀ a' ∈ S₂, ∑ a ∈ S₂, u₂ a * D₂ a a' = ∑ f' ∈ T₂, W₂ f' * c₂ f' a') :
    ∀ a' ∈ S₁ ×ˢ S₂, ∑ a ∈ S₁ ×ˢ S₂, (u₁ a.1 * u₂ a.2) * (D₁ a.1 a'.1 * D₂ a.2 a'.2)
      = ∑ f' ∈ T₁ ×ˢ T₂, (W₁ f'.1 * W₂ f'.2) * (c₁ f'.1 a'.1 * c₂ f'.2 a'.2) := by
  intro a' ha'
  obtain ⟨h1', h2'⟩ := Finset.mem_product.mp ha'
  calc ∑ a ∈ S₁ ×ˢ S₂, (u₁ a.1 * u₂ a.2) * (D₁ a.1 a'.1 * D₂ a.2 a'.2)
      = (∑ a ∈ S₁, u₁ a * D₁ a a'.1) * (∑ a ∈ S₂, u₂ a * D₂ a a'.2) := by
        rw [Finset.sum_product, Finset.sum_mul_sum]
        exact Finset.sum_congr rfl fun a _ => Finset.sum_congr rfl fun a2 _ => mul_mul_mul_comm _ _ _ _
    _ = (∑ f' ∈ T₁, W₁ f' * c₁ f' a'.1) * (∑ f' ∈ T₂, W₂ f' * c₂ f' a'.2) := by
        rw [h₁ _ h1', h₂ _ h2']
    _ = _ := by
        rw [Finset.sum_product, Finset.sum_mul_sum]
        exact Finset.sum_congr rfl fun a _ => Finset.sum_congr rfl fun a2 _ => mul_mul_mul_comm _ _ _ _

theorem intertwine2 {α₁ α₂ β₁ β₂ : Type*} (S₁ : Finset α₁) (S₂ : Finset α₂) (T₁ : Finset β₁)
    (T₂ : Finset β₂) (u₁ : α₁ → ℝ) (u₂ : α₂ → ℝ) (D₁ : α₁ → α₁ → ℝ) (D₂ : α₂ → α₂ → ℝ)
    (W₁ : β₁ → ℝ) (W₂ : β₂ → ℝ) (c₁ : β₁ → α₁ → ℝ) (c₂ : β₂ → α₂ → ℝ)
    (h₁ : ∀ a' ∈ S₁, ∑ a ∈ S₁, u₁ a * D₁ a a' = ∑ f' ∈ T₁, W₁ f' * c₁ f' a')
    (h₂ : ∀ a' ∈ S₂, ∑ a ∈ S₂, u₂ a * D₂ a a' = ∑ f' ∈ T₂, W₂ f' * c₂ f' a')
    (X : α₁ → α₂ → ℝ) :
    ∑ a₁ ∈ S₁, ∑ a₂ ∈ S₂, u₁ a₁ * u₂ a₂
        * ∑ b₁ ∈ S₁, ∑ b₂ ∈ S₂, D₁ a₁ b₁ * D₂ a₂ b₂ * X b₁ b₂
      = ∑ f₁ ∈ T₁, ∑ f₂ ∈ T₂, W₁ f₁ * W₂ f₂
          * ∑ b₁ ∈ S₁, ∑ b₂ ∈ S₂, c₁ f₁ b₁ * c₂ f₂ b₂ * X b₁ b₂ := by
  have H := intertwine_stage (S₁ ×ˢ S₂) (T₁ ×ˢ T₂) _ _ _ _
    (intertwine_prod S₁ S₂ T₁ T₂ u₁ u₂ D₁ D₂ W₁ W₂ c₁ c₂ h₁ h₂) (fun a => X a.1 a.2)
  rw [Finset.sum_product, Finset.sum_product] at H
  refine Eq.trans ?_ (H.trans ?_) <;>
    exact Finset.sum_congr rfl fun _ _ => Finset.sum_congr rfl fun _ _ => by rw [Finset.sum_product]

theorem wBlock2_moved_of_block (g : E3 ≃ᵃⁱ[ℝ] E3) (s t : Shell ℝ) (hs : s.Movable) (ht : t.Movable)
    (blk blk' : Tab4 ℝ) (m n : ℕ)
    (h : ∀ a < s.ncart, ∀ c < t.ncart, blk'.get4 m a n c
      = ∑ a' ∈ range s.ncart, ∑ c' ∈ range t.ncart,
          repMat (linPart g) s.cart a a' * repMat (linPart g) t.cart c c' * blk.get4 m a' n c')
    (f k : ℕ) (hf : f < s.nfun) (hk : k < t.nfun) :
    (wBlock2 (s.moved g) (t.moved g) (s.moved g).weights (t.moved g).weights blk').get4 m f n k
      = ∑ f' ∈ range s.nfun, ∑ k' ∈ range t.nfun,
          shellRep (linPart g) s f f' * shellRep (linPart g) t k k'
            * (wBlock2 s t s.weights t.weights blk).get4 m f' n k' := by
  rw [wBlock2_get4_eq_sum (s.moved g) (t.moved g) blk' m f n k hf hk]
  simp only [Shell.moved_ncart]
  have e : ∀ a ∈ range s.ncart, ∀ c ∈ range t.ncart,
      cwS (s.moved g) m f a * cwS (t.moved g) n k c * blk'.get4 m a n c
        = cwS (s.moved g) m f a * cwS (t.moved g) n k c
          * ∑ a' ∈ range s.ncart, ∑ c' ∈ range t.ncart,
              repMat (linPart g) s.cart a a' * repMat (linPart g) t.cart c c'
                * (fun a' c' => blk.get4 m a' n c') a' c' := fun a ha c hc => by
    rw [h a (Finset.mem_range.mp ha) c (Finset.mem_range.mp hc)]
  rw [Finset.sum_congr rfl fun a ha => Finset.sum_congr rfl (e a ha),
    intertwine2 (range s.ncart) (range t.ncart) (range s.nfun) (range t.nfun)
      (cwS (s.moved g) m f) (cwS (t.moved g) n k) (repMat (linPart g) s.cart)
      (repMat (linPart g) t.cart) (shellRep (linPart g) s f) (shellRep (linPart g) t k)
      (cwS s m) (cwS t n)
      (fun a' ha' => cwS_moved_mul_repMat g s hs m f a' hf (Finset.mem_range.mp ha'))
      (fun c' hc' => cwS_moved_mul_repMat g t ht n k c' hk (Finset.mem_range.mp hc'))
      (fun a' c' => blk.get4 m a' n c')]
  refine Finset.sum_congr rfl fun f' hf' => Finset.sum_congr rfl fun k' hk' => ?_
  rw [wBlock2_get4_eq_sum s t blk m f' n k' (Finset.mem_range.mp hf') (Finset.mem_range.mp hk')]

theorem entry2_moved_of_blocks_asym (g : E3 ≃ᵃⁱ[ℝ] E3) (b1 b2 : Basis ℝ) (hb1 : b1.Movable)
    (hb2 : b2.Movable) (nextra : ℕ) (blk blk' : ℕ → ℕ → Tab (Tab4 ℝ)) (e : ℕ)
    (h : ∀ (i j : ℕ) (hi : i < b1.size) (hj : j < b2.size) (m n : ℕ),
      ∀ a < b1[i].ncart, ∀ c < b2[j].ncart, ((blk' i j).get e).get4 m a n c
        = ∑ a' ∈ range b1[i].ncart, ∑ c' ∈ range b2[j].ncart,
            repMat (linPart g) b1[i].cart a a' * repMat (linPart g) b2[j].cart c c'
              * ((blk i j).get e).get4 m a' n c')
    (r c : ℕ) (hr : r < b1.total) (hc : c < b2.total) :
    entry2 (b1.moved g) (b2.moved g) (pairBlocks (b1.moved g) (b2.moved g) nextra blk') r c e
      = ∑ r' ∈ range b1.total, ∑ c' ∈ range b2.total,
          basisRep b1 (linPart g) r r' * basisRep b2 (linPart g) c c'
            * entry2 b1 b2 (pairBlocks b1 b2 nextra blk) r' c' e := by
  obtain ⟨i, hi, m, f, hm, hf, -, hlr⟩ := locate_cases b1 r hr
  obtain ⟨j, hj, n, k, hn, hk, -, hlc⟩ := locate_cases b2 c hc
  rw [sum_basisRep2 b1 b2 _ r c hr hc]
  unfold shellOf segOf funOf
  rw [hlr, hlc, getElem!_pos b1 i hi, getElem!_pos b2 j hj,
    entry2_of_locate (b1.moved g) (b2.moved g) nextra blk' e ((Basis.moved_locate b1 g r).trans hlr)
      ((Basis.moved_locate b2 g c).trans hlc) ((Basis.moved_size b1 g).symm ▸ hi)
      ((Basis.moved_size b2 g).symm ▸ hj),
    Basis.moved_getElem b1 g i hi, Basis.moved_getElem b2 g j hj,
    wBlock2_moved_of_block g _ _ (hb1 i hi) (hb2 j hj) ((blk i j).get e) _ m n (h i j hi hj m n)
      f k hf hk]
  refine Finset.sum_congr rfl fun f' hf' => Finset.sum_congr rfl fun k' hk' => ?_
  rw [entry2_layout b1 b2 nextra blk i j hi hj m f' n k' e hm (Finset.mem_range.mp hf') hn
    (Finset.mem_range.mp hk')]

theorem entry2_moved_of_blocks (g : E3 ≃ᵃⁱ[ℝ] E3) (b : Basis ℝ) (hb : b.Movable) (nextra : ℕ)
    (blk blk' : ℕ → ℕ → Tab (Tab4 ℝ)) (e : ℕ)
    (h : ∀ (i j : ℕ) (hi : i < b.size) (hj : j < b.size) (m n : ℕ),
      ∀ a < b[i].ncart, ∀ c < b[j].ncart, ((blk' i j).get e).get4 m a n c
        = ∑ a' ∈ range b[i].ncart, ∑ c' ∈ range b[j].ncart,
            repMat (linPart g) b[i].cart a a' * repMat (linPart g) b[j].cart c c'
              * ((blk i j).get e).get4 m a' n c')
    (r c : ℕ) (hr : r < b.total) (hc : c < b.total) :
    entry2 (b.moved g) (b.moved g) (pairBlocks (b.moved g) (b.moved g) nextra blk') r c e
      = ∑ r' ∈ range b.total, ∑ c' ∈ range b.total,
          basisRep b (linPart g) r r' * basisRep b (linPart g) c c'
            * entry2 b b (pairBlocks b b nextra blk) r' c' e :=
  entry2_moved_of_blocks_asym g b b hb hb nextra blk blk' e h r c hr hc

/-- for blocks given shell by shell, `blk i j = B b1[i]! b2[j]!`, as in every block argument of the
driver -/
theorem entry2_moved_of_shells (g : E3 ≃ᵃⁱ[ℝ] E3) (b1 b2 : Basis ℝ) (hb1 : b1.Movable)
    (hb2 : b2.Movable) (nextra : ℕ) (B B' : Shell ℝ → Shell ℝ → Tab (Tab4 ℝ)) (e : ℕ)
    (h : ∀ s t : Shell ℝ, s.Movable → t.Movable → ∀ m n : ℕ,
      ∀ a < s.ncart, ∀ c < t.ncart, ((B' (s.moved g) (t.moved g)).get e).get4 m a n c
        = ∑ a' ∈ range s.ncart, ∑ c' ∈ range t.ncart,
            repMat (linPart g) s.cart a a' * repMat (linPart g) t.cart c c'
              * ((B s t).get e).get4 m a' n c')
    (r c : ℕ) (hr : r < b1.total) (hc : c < b2.total) :
    entry2 (b1.moved g) (b2.moved g) (pairBlocks (b1.moved g) (b2.moved g) nextra
        fun i j => B' (b1.moved g)[i]! (b2.moved g)[j]!) r c e
      = ∑ r' ∈ range b1.total, ∑ c' ∈ range b2.total,
          basisRep b1 (linPart g) r r' * basisRep b2 (linPart g) c c'
            * entry2 b1 b2 (pairBlocks b1 b2 nextra fun i j => B b1[i]! b2[j]!) r' c' e := by
  refine entry2_moved_of_blocks_asym g b1 b2 hb1 hb2 nextra _ _ e (fun i j hi hj m n => ?_)
    r c hr hc
  rw [Basis.moved_getElem! b1 g i hi, Basis.moved_getElem! b2 g j hj, getElem!_pos b1 i hi,
    getElem!_pos b2 j hj]
  exact h b1[i] b2[j] (hb1 i hi) (hb2 j hj) m n

end Generic

/-! ## 5. Overlap, kinetic-energy and point-charge arrays of a moved basis -/
section Arrays

/-- C12 for the overlap array: `g` is any rigid motion (translation, proper or improper rotation, and
their compositions) -/
theorem overlap_array_moved (g : E3 ≃ᵃⁱ[ℝ] E3) (b : Basis ℝ) (hb : b.Movable) (r c : ℕ)
    (hr : r < b.total) (hc : c < b.total) :
    entry2 (b.moved g) (b.moved g)
        (pairBlocks (b.moved g) (b.moved g) 1 (overlapBlk (b.moved g))) r c 0
      = ∑ r' ∈ range b.total, ∑ c' ∈ range b.total,
          basisRep b (linPart g) r r' * basisRep b (linPart g) c c'
            * entry2 b b (pairBlocks b b 1 (overlapBlk b)) r' c' 0 :=
  entry2_moved_of_shells g b b hb hb 1 (fun s t => tab 1 fun _ => overlapBlock s t)
    (fun s t => tab 1 fun _ => overlapBlock s t) 0
    (fun s t hs ht m n a ha c hc => by
      simp only [tab_get]
      exact overlapBlock_moved g s t m a n c hs.exps_pos ht.exps_pos hs.full_cart ht.full_cart ha hc)
    r c hr hc

/-- C12 for the kinetic-energy array -/
theorem kinetic_array_moved (g : E3 ≃ᵃⁱ[ℝ] E3) (b : Basis ℝ) (hb : b.Movable) (r c : ℕ)
    (hr : r < b.total) (hc : c < b.total) :
    entry2 (b.moved g) (b.moved g)
        (pairBlocks (b.moved g) (b.moved g) 1 (kineticBlk (b.moved g))) r c 0
      = ∑ r' ∈ range b.total, ∑ c' ∈ range b.total,
          basisRep b (linPart g) r r' * basisRep b (linPart g) c c'
            * entry2 b b (pairBlocks b b 1 (kineticBlk b)) r' c' 0 :=
  entry2_moved_of_shells g b b hb hb 1 (fun s t => tab 1 fun _ => kineticBlock s t)
    (fun s t => tab 1 fun _ => kineticBlock s t) 0
    (fun s t hs ht m n a ha c hc => by
      simp only [tab_get]
      exact kineticBlock_moved g s t m a n c hs.exps_pos ht.exps_pos hs.full_cart ht.full_cart ha hc)
    r c hr hc

/-- C12 for the point-charge array, the charges moved along with the basis (charge `qs e` at
`g (pts e)`) -/
theorem pointCharge_array_moved (boysT : ℝ → ℕ → Tab ℝ)
    (hboys : ∀ T n m, m < n → (boysT T n).get m = boys T m) (g : E3 ≃ᵃⁱ[ℝ] E3) (b : Basis ℝ)
    (hb : b.Movable) (np : ℕ) (pts : ℕ → ℕ → ℝ) (qs : ℕ → ℝ) (e r c : ℕ)
    (hr : r < b.total) (hc : c < b.total) :
    entry2 (b.moved g) (b.moved g)
        (pairBlocks (b.moved g) (b.moved g) np
          (pointChargeBlk boysT (b.moved g) np (fun e => movedPt g (pts e)) qs)) r c e
      = ∑ r' ∈ range b.total, ∑ c' ∈ range b.total,
          basisRep b (linPart g) r r' * basisRep b (linPart g) c c'
            * entry2 b b (pairBlocks b b np (pointChargeBlk boysT b np pts qs)) r' c' e :=
  entry2_moved_of_shells g b b hb hb np
    (fun s t => tab np fun e => pointChargeBlock boysT s t (pts e) (qs e))
    (fun s t => tab np fun e => pointChargeBlock boysT s t (movedPt g (pts e)) (qs e)) e
    (fun s t hs ht m n a ha c hc => by
      simp only [tab_get]
      exact pointChargeBlock_moved boysT hboys g s t (pts e) (qs e) m a n c hs.exps_pos ht.exps_pos
        hs.full_cart ht.full_cart ha hc)
    r c hr hc

/-! ### the flat arrays `assemble2 …` that the driver prints -/

lemma flat_sum_eq (b1 b2 : Basis ℝ) (R : E3 →ₗ[ℝ] E3) (nextra : ℕ) (blk : ℕ → ℕ → Tab (Tab4 ℝ))
    (r c e : ℕ) (he : e < nextra) :
    ∑ r' ∈ range b1.total, ∑ c' ∈ range b2.total, basisRep b1 R r r' * basisRep b2 R c c'
        * (assemble2 b1 b2 nextra blk)[(r' * b2.total + c') * nextra + e]!
      = ∑ r' ∈ range b1.total, ∑ c' ∈ range b2.total, basisRep b1 R r r' * basisRep b2 R c c'
        * entry2 b1 b2 (pairBlocks b1 b2 nextra blk) r' c' e := by
  refine Finset.sum_congr rfl fun r' hr' => Finset.sum_congr rfl fun c' hc' => ?_
  rw [assemble2_get b1 b2 nextra blk r' c' e (Finset.mem_range.mp hr') (Finset.mem_range.mp hc') he]

lemma flat_moved_eq (g : E3 ≃ᵃⁱ[ℝ] E3) (b1 b2 : Basis ℝ) (nextra : ℕ)
    (blk' : ℕ → ℕ → Tab (Tab4 ℝ)) (r c e : ℕ) (hr : r < b1.total) (hc : c < b2.total)
    (he : e < nextra) :
    (assemble2 (b1.moved g) (b2.moved g) nextra blk')[(r * b2.total + c) * nextra + e]!
      = entry2 (b1.moved g) (b2.moved g) (pairBlocks (b1.moved g) (b2.moved g) nextra blk') r c e := by
  have hL := assemble2_get (b1.moved g) (b2.moved g) nextra blk' r c e
    (by rw [Basis.moved_total]; exact hr) (by rw [Basis.moved_total]; exact hc) he
  rw [Basis.moved_total] at hL
  exact hL

theorem overlap_flat_moved (g : E3 ≃ᵃⁱ[ℝ] E3) (b : Basis ℝ) (hb : b.Movable) (r c : ℕ)
    (hr : r < b.total) (hc : c < b.total) :
    (assemble2 (b.moved g) (b.moved g) 1 (overlapBlk (b.moved g)))[(r * b.total + c) * 1 + 0]!
      = ∑ r' ∈ range b.total, ∑ c' ∈ range b.total,
          basisRep b (linPart g) r r' * basisRep b (linPart g) c c'
            * (assemble2 b b 1 (overlapBlk b))[(r' * b.total + c') * 1 + 0]! := by
  rw [flat_moved_eq g b b 1 _ r c 0 hr hc one_pos, overlap_array_moved g b hb r c hr hc,
    flat_sum_eq b b _ 1 _ r c 0 one_pos]

theorem kinetic_flat_moved (g : E3 ≃ᵃⁱ[ℝ] E3) (b : Basis ℝ) (hb : b.Movable) (r c : ℕ)
    (hr : r < b.total) (hc : c < b.total) :
    (assemble2 (b.moved g) (b.moved g) 1 (kineticBlk (b.moved g)))[(r * b.total + c) * 1 + 0]!
      = ∑ r' ∈ range b.total, ∑ c' ∈ range b.total,
          basisRep b (linPart g) r r' * basisRep b (linPart g) c c'
            * (assemble2 b b 1 (kineticBlk b))[(r' * b.total + c') * 1 + 0]! := by
  rw [flat_moved_eq g b b 1 _ r c 0 hr hc one_pos, kinetic_array_moved g b hb r c hr hc,
    flat_sum_eq b b _ 1 _ r c 0 one_pos]

theorem pointCharge_flat_moved (boysT : ℝ → ℕ → Tab ℝ)
    (hboys : ∀ T n m, m < n → (boysT T n).get m = boys T m) (g : E3 ≃ᵃⁱ[ℝ] E3) (b : Basis ℝ)
    (hb : b.Movable) (np : ℕ) (pts : ℕ → ℕ → ℝ) (qs : ℕ → ℝ) (e r c : ℕ) (he : e < np)
    (hr : r < b.total) (hc : c < b.total) :
    (assemble2 (b.moved g) (b.moved g) np
        (pointChargeBlk boysT (b.moved g) np (fun e => movedPt g (pts e)) qs))[
          (r * b.total + c) * np + e]!
      = ∑ r' ∈ range b.total, ∑ c' ∈ range b.total,
          basisRep b (linPart g) r r' * basisRep b (linPart g) c c'
            * (assemble2 b b np (pointChargeBlk boysT b np pts qs))[(r' * b.total + c') * np + e]! := by
  rw [flat_moved_eq g b b np _ r c e hr hc he,
    pointCharge_array_moved boysT hboys g b hb np pts qs e r c hr hc, flat_sum_eq b b _ np _ r c e he]

end Arrays

/-! ## 6. `basisRep` is the representation on the basis functions themselves -/
section Functions

/-- The matrix in the array theorems is the matrix by which the basis functions of the assembled
arrays (contraction norms and Cartesian → spherical transformation included) transform under the
rigid motion. -/
theorem basisFnE_moved (g : E3 ≃ᵃⁱ[ℝ] E3) (b : Basis ℝ) (hb : b.Movable) (r : ℕ) (hr : r < b.total)
    (x : E3) :
    basisFnE (b.moved g) r (g x)
      = ∑ r' ∈ range b.total, basisRep b (linPart g) r r' * basisFnE b r' x := by
  obtain ⟨-, -, hf, -⟩ := locate_lt' b r hr
  have hs := shellOf_movable b hb r hr
  rw [sum_basisRep b _ r hr]
  unfold basisFnE basisLin cw
  rw [shellOf_moved b g r hr, segOf_moved, funOf_moved]
  simp only [Shell.moved_ncart]
  have e1 : ∀ a ∈ range (shellOf b r).ncart,
      cwS ((shellOf b r).moved g) (segOf b r) (funOf b r) a
          * shellFnE ((shellOf b r).moved g) (segOf b r) a (g x)
        = cwS ((shellOf b r).moved g) (segOf b r) (funOf b r) a
          * ∑ a' ∈ range (shellOf b r).ncart, repMat (linPart g) (shellOf b r).cart a a'
            * shellFnE (shellOf b r) (segOf b r) a' x := fun a ha => by
    rw [shellFnE_moved g _ hs.full_cart _ a (Finset.mem_range.mp ha) x]
  rw [Finset.sum_congr rfl e1,
    intertwine_stage (range (shellOf b r).ncart) (range (shellOf b r).nfun)
      (cwS ((shellOf b r).moved g) (segOf b r) (funOf b r)) (repMat (linPart g) (shellOf b r).cart)
      (shellRep (linPart g) (shellOf b r) (funOf b r)) (cwS (shellOf b r) (segOf b r))
      (fun a' ha' => cwS_moved_mul_repMat g _ hs _ _ a' hf (Finset.mem_range.mp ha'))]
  refine Finset.sum_congr rfl fun f' hf' => ?_
  have hl := locate_row b r hr (Finset.mem_range.mp hf')
  unfold shellOf segOf at hl
  unfold shellOf segOf funOf
  rw [hl]

end Functions

end GB
