import GBProofs.EriBlock
import GBProofs.Block3D

/-!
# The contraction laws at the level of the blocks (C13)

Every entry of every block, as a function of one of its shells `s` and of the (segment, component)
pair `(m, c)` belonging to it, is a one-slot contraction `Σ_k c_s[k,m] · G(α_k)` (`osum`), where `G`
depends on `s` only through its frame (`Shell.frame`: all but exponents and coefficients).  This is
`SlotLinear`, or `SlotLinearOn` where the closed form of the entry needs a side condition
(`Shell.degOK` for `pointChargeBlock`, `EriOK` for `eriBlock`).  For such entries the four laws of
C13 are proved once, over ℝ also for the entries multiplied by `normCont`, and then stated block by
block:
* C13.1, `Shell.column s m`: column `m` of a generalized shell gives the entries of the single-column
  shell with the same primitives;
* C13.2, `Shell.permPrims s σ`: the primitives listed in the order `σ 0, σ 1, …` give the same entries;
* C13.3, `Shell.splitPrim s j x`: primitive `j` split in two with the same exponent, coefficients
  `x·c_j` in place and `(1-x)·c_j` appended as the new last primitive, gives the same entries;
* C13.4, `Shell.scaleColumn s m x`: the raw entries are linear in column `m`; the normalised ones are
  multiplied by the sign of `x`.

The raw laws hold over any field `K` with the instance `fieldTransc e sq pi`; `realTransc` is
definitionally `fieldTransc Real.exp Real.sqrt Real.pi`, so they apply verbatim to `Shell ℝ`.
Entries are read with the total `get4`/`get3`/`get8`, so the indices need no bounds.  The normalised
laws assume `s.unitNorm = true` (otherwise `normCont` is identically 1) and a positive raw
self-overlap of the function in question.
-/
namespace GB

section Ops
variable {K : Type} [Transc K]

def Shell.frame (s : Shell K) : Shell K := { s with exps := #[], coefs := #[] }

def Shell.prim1 (fr : Shell K) (α : K) : Shell K := { fr with exps := #[α], coefs := #[] }

def Shell.unitPrim (fr : Shell K) (α : K) : Shell K :=
  { fr with exps := #[α], coefs := #[#[Num.nat 1]] }

def Shell.atPrim (s : Shell K) (k : Nat) : Shell K := s.frame.prim1 (s.exp! k)

def Shell.column (s : Shell K) (m : Nat) : Shell K :=
  { s with coefs := s.coefs.map fun r => #[r.getD m (Num.nat 0)] }

def Shell.permPrims (s : Shell K) (σ : Nat → Nat) : Shell K :=
  { s with
    exps := Array.ofFn (n := s.nprim) fun k => s.exp! (σ k.val)
    coefs := Array.ofFn (n := s.nprim) fun k => s.coefs.getD (σ k.val) #[] }

def Shell.splitPrim (s : Shell K) (j : Nat) (x : K) : Shell K :=
  { s with
    exps := s.exps.push (s.exp! j)
    coefs := Array.ofFn (n := s.nprim + 1) fun k =>
      if k.val = j then (s.coefs.getD j #[]).map fun c => x * c
      else if k.val = s.nprim then (s.coefs.getD j #[]).map fun c => (Num.nat 1 - x) * c
      else s.coefs.getD k.val #[] }

def Shell.scaleColumn (s : Shell K) (m : Nat) (c : K) : Shell K :=
  { s with coefs := s.coefs.map fun r => r.modify m fun v => c * v }

omit [Transc K] in
@[simp] theorem Shell.frame_l (s : Shell K) : s.frame.l = s.l := rfl
omit [Transc K] in
@[simp] theorem Shell.frame_ctr (s : Shell K) : s.frame.ctr = s.ctr := rfl
omit [Transc K] in
@[simp] theorem Shell.frame_comp (s : Shell K) (c : Nat) : s.frame.comp! c = s.comp! c := rfl

theorem Shell.prim1_exp (fr : Shell K) (α : K) : (fr.prim1 α).exp! 0 = α := rfl
omit [Transc K] in
theorem Shell.prim1_l (fr : Shell K) (α : K) : (fr.prim1 α).l = fr.l := rfl
omit [Transc K] in
theorem Shell.prim1_ctr (fr : Shell K) (α : K) : (fr.prim1 α).ctr = fr.ctr := rfl

/-- holds, with equality, for every component of a well-formed shell; it is what
`pointChargeBlock_eq_rys_self` and `eriBlock_eq_rys_self` ask of each component -/
def Shell.degOK (s : Shell K) (c : Nat) : Prop :=
  (s.comp! c).1 + (s.comp! c).2.1 + (s.comp! c).2.2 ≤ s.l

end Ops

section Field
variable {K : Type} [Field K] (e sq : K → K) (pi : K)

theorem column_coef (s : Shell K) (m k : ℕ) :
    letI := fieldTransc e sq pi
    (s.column m).coef! k 0 = s.coef! k m := by
  simp only [Shell.column, Shell.coef!, Array.getD_eq_getD_getElem?, Array.getElem?_map]
  cases s.coefs[k]? <;> rfl

theorem permPrims_nprim (s : Shell K) (σ : ℕ → ℕ) :
    letI := fieldTransc e sq pi
    (s.permPrims σ).nprim = s.nprim :=
  Array.size_ofFn

theorem permPrims_exp (s : Shell K) (σ : ℕ → ℕ) (k : ℕ) :
    letI := fieldTransc e sq pi
    k < s.nprim → (s.permPrims σ).exp! k = s.exp! (σ k) := by
  intro h
  simp only [Shell.permPrims, Shell.exp!, Array.getD_eq_getD_getElem?, Array.getElem?_ofFn, h,
    dif_pos, Option.getD_some]

theorem permPrims_coef (s : Shell K) (σ : ℕ → ℕ) (k m : ℕ) :
    letI := fieldTransc e sq pi
    k < s.nprim → (s.permPrims σ).coef! k m = s.coef! (σ k) m := by
  intro h
  simp only [Shell.permPrims, Shell.coef!, Array.getD_eq_getD_getElem?, Array.getElem?_ofFn, h,
    dif_pos, Option.getD_some]

theorem splitPrim_nprim (s : Shell K) (j : ℕ) (x : K) :
    letI := fieldTransc e sq pi
    (s.splitPrim j x).nprim = s.nprim + 1 :=
  Array.size_push _

theorem splitPrim_exp_lt (s : Shell K) (j : ℕ) (x : K) (k : ℕ) :
    letI := fieldTransc e sq pi
    k < s.nprim → (s.splitPrim j x).exp! k = s.exp! k := by
  intro h
  simp only [Shell.splitPrim, Shell.exp!, Array.getD_eq_getD_getElem?, Array.getElem?_push,
    (Nat.ne_of_lt h : k ≠ s.exps.size), ↓reduceIte]

theorem splitPrim_exp_last (s : Shell K) (j : ℕ) (x : K) :
    letI := fieldTransc e sq pi
    (s.splitPrim j x).exp! s.nprim = s.exp! j := by
  simp only [Shell.splitPrim, Shell.exp!, Shell.nprim, Array.getD_eq_getD_getElem?,
    Array.getElem?_push, if_pos, Option.getD_some]

theorem splitPrim_row (s : Shell K) (j : ℕ) (x : K) (k : ℕ) (h : k < s.nprim + 1) :
    letI := fieldTransc e sq pi
    (s.splitPrim j x).coefs.getD k #[] =
      if k = j then (s.coefs.getD j #[]).map fun c => x * c
      else if k = s.nprim then (s.coefs.getD j #[]).map fun c => (1 - x) * c
      else s.coefs.getD k #[] := by
  simp only [Shell.splitPrim, Array.getD_eq_getD_getElem? (i := k), Array.getElem?_ofFn, h,
    dif_pos, Option.getD_some, num_nat, Nat.cast_one]

theorem getD_map_mul (r : Array K) (x : K) (m : ℕ) :
    (r.map fun c => x * c).getD m 0 = x * r.getD m 0 := by
  simp only [Array.getD_eq_getD_getElem?, Array.getElem?_map]
  cases r[m]? with
  | none => exact (mul_zero x).symm
  | some v => rfl

theorem splitPrim_coef_ne (s : Shell K) (j : ℕ) (x : K) (k m : ℕ) :
    letI := fieldTransc e sq pi
    k < s.nprim → k ≠ j → (s.splitPrim j x).coef! k m = s.coef! k m := by
  intro h hj
  simp only [Shell.coef!, splitPrim_row e sq pi s j x k (Nat.lt_succ_of_lt h), if_neg hj,
    if_neg (Nat.ne_of_lt h)]

theorem splitPrim_coef_j (s : Shell K) (j : ℕ) (x : K) (m : ℕ) :
    letI := fieldTransc e sq pi
    j < s.nprim → (s.splitPrim j x).coef! j m = x * s.coef! j m := by
  intro h
  simp only [Shell.coef!, splitPrim_row e sq pi s j x j (Nat.lt_succ_of_lt h), if_pos, num_nat,
    Nat.cast_zero, getD_map_mul]

theorem splitPrim_coef_last (s : Shell K) (j : ℕ) (x : K) (m : ℕ) :
    letI := fieldTransc e sq pi
    j < s.nprim → (s.splitPrim j x).coef! s.nprim m = (1 - x) * s.coef! j m := by
  intro h
  simp only [Shell.coef!, splitPrim_row e sq pi s j x s.nprim (Nat.lt_succ_self _),
    if_neg (Nat.ne_of_gt h), if_pos, num_nat, Nat.cast_zero, getD_map_mul]

theorem scaleColumn_coef (s : Shell K) (m : ℕ) (c : K) (k m' : ℕ) :
    letI := fieldTransc e sq pi
    (s.scaleColumn m c).coef! k m' = if m' = m then c * s.coef! k m' else s.coef! k m' := by
  simp only [Shell.scaleColumn, Shell.coef!, Array.getD_eq_getD_getElem?, Array.getElem?_map]
  cases s.coefs[k]? with
  | none =>
    simp only [Option.map_none, Option.getD_none, Array.getElem?_empty, num_nat, Nat.cast_zero,
      mul_zero, ite_self]
  | some r =>
    simp only [Option.map_some, Option.getD_some, Array.getElem?_modify]
    by_cases h : m' = m
    · rw [if_pos h, if_pos h.symm]
      cases r[m']? with
      | none => simp only [Option.map_none, Option.getD_none, num_nat, Nat.cast_zero, mul_zero]
      | some v => rfl
    · rw [if_neg h, if_neg (Ne.symm h)]

theorem column_nseg (s : Shell K) (m : ℕ) (h : 0 < s.coefs.size) :
    letI := fieldTransc e sq pi
    (s.column m).nseg = 1 := by
  simp only [Shell.column, Shell.nseg, Array.getElem?_map, Array.getElem?_eq_getElem h,
    Option.map_some]
  rfl

/-- the form in which a permutation of the primitives is passed as the argument `σ` of
`Shell.permPrims` (with `n = s.nprim`) -/
def permOfFin {n : ℕ} (σ : Equiv.Perm (Fin n)) (k : ℕ) : ℕ :=
  if h : k < n then (σ ⟨k, h⟩ : ℕ) else k

omit [Field K] in
theorem permOfFin_lt {n : ℕ} (σ : Equiv.Perm (Fin n)) : ∀ k < n, permOfFin σ k < n := by
  intro k hk
  simp only [permOfFin, hk, dif_pos]
  exact (σ ⟨k, hk⟩).isLt

omit [Field K] in
theorem permOfFin_inj {n : ℕ} (σ : Equiv.Perm (Fin n)) :
    ∀ k < n, ∀ k' < n, permOfFin σ k = permOfFin σ k' → k = k' := by
  intro k hk k' hk' h
  simp only [permOfFin, hk, hk', dif_pos] at h
  have := σ.injective (Fin.ext h)
  exact congrArg Fin.val this

def osum (s : Shell K) (m : ℕ) (G : K → K) : K :=
  letI := fieldTransc e sq pi
  ∑ k ∈ Finset.range s.nprim, s.coef! k m * G (s.exp! k)

theorem osum_column (s : Shell K) (m : ℕ) (G : K → K) :
    letI := fieldTransc e sq pi
    osum e sq pi (s.column m) 0 G = osum e sq pi s m G := by
  unfold osum
  refine Finset.sum_congr rfl fun k _ => ?_
  rw [column_coef]
  rfl

theorem osum_permPrims (s : Shell K) (σ : ℕ → ℕ) (m : ℕ) (G : K → K)
    (hmap : ∀ k < s.nprim, σ k < s.nprim)
    (hinj : ∀ k < s.nprim, ∀ k' < s.nprim, σ k = σ k' → k = k') :
    letI := fieldTransc e sq pi
    osum e sq pi (s.permPrims σ) m G = osum e sq pi s m G := by
  unfold osum
  rw [permPrims_nprim]
  have hmap' : Set.MapsTo σ (Finset.range s.nprim : Set ℕ) (Finset.range s.nprim : Set ℕ) :=
    fun k hk => Finset.mem_range.2 (hmap k (Finset.mem_range.1 hk))
  have hinj' : Set.InjOn σ (Finset.range s.nprim : Set ℕ) :=
    fun a ha b hb => hinj a (Finset.mem_range.1 ha) b (Finset.mem_range.1 hb)
  refine Finset.sum_nbij σ hmap' hinj'
    (Finset.surjOn_of_injOn_of_card_le σ hmap' hinj' le_rfl) fun k hk => ?_
  have hk := Finset.mem_range.1 hk
  rw [permPrims_coef e sq pi s σ k m hk, permPrims_exp e sq pi s σ k hk]

theorem osum_splitPrim (s : Shell K) (j : ℕ) (x : K) (m : ℕ) (G : K → K) (hj : j < s.nprim) :
    letI := fieldTransc e sq pi
    osum e sq pi (s.splitPrim j x) m G = osum e sq pi s m G := by
  let _ := fieldTransc e sq pi
  have hj' := Finset.mem_range.2 hj
  -- the new last term, and term `j` taken out of both sums
  unfold osum
  rw [splitPrim_nprim, Finset.sum_range_succ, splitPrim_coef_last e sq pi s j x m hj,
    splitPrim_exp_last, ← Finset.add_sum_erase _ _ hj',
    ← Finset.add_sum_erase _ (fun k => s.coef! k m * G (s.exp! k)) hj',
    splitPrim_coef_j e sq pi s j x m hj, splitPrim_exp_lt e sq pi s j x j hj]
  have h : ∀ k ∈ (Finset.range s.nprim).erase j,
      (s.splitPrim j x).coef! k m * G ((s.splitPrim j x).exp! k) = s.coef! k m * G (s.exp! k) := by
    intro k hk
    have hk' := Finset.mem_range.1 (Finset.mem_of_mem_erase hk)
    rw [splitPrim_exp_lt e sq pi s j x k hk',
      splitPrim_coef_ne e sq pi s j x k m hk' (Finset.ne_of_mem_erase hk)]
  rw [Finset.sum_congr rfl h]
  ring

theorem osum_scaleColumn (s : Shell K) (m : ℕ) (c : K) (m' : ℕ) (G : K → K) :
    letI := fieldTransc e sq pi
    osum e sq pi (s.scaleColumn m c) m' G
      = if m' = m then c * osum e sq pi s m' G else osum e sq pi s m' G := by
  unfold osum
  by_cases h : m' = m
  · rw [if_pos h, Finset.mul_sum]
    refine Finset.sum_congr rfl fun k _ => ?_
    rw [scaleColumn_coef, if_pos h, mul_assoc]
    rfl
  · rw [if_neg h]
    refine Finset.sum_congr rfl fun k _ => ?_
    rw [scaleColumn_coef, if_neg h]
    rfl

theorem osum_mul (s : Shell K) (m : ℕ) (G : K → K) (x : K) :
    osum e sq pi s m G * x = osum e sq pi s m fun α => G α * x := by
  simp only [osum, Finset.sum_mul, mul_assoc]

theorem osum_congr (s : Shell K) (m : ℕ) {G G' : K → K} (h : ∀ α, G α = G' α) :
    osum e sq pi s m G = osum e sq pi s m G' :=
  congrArg _ (funext h)

theorem osum_comm (s t : Shell K) (m n : ℕ) (F : K → K → K) :
    osum e sq pi s m (fun α => osum e sq pi t n (F α))
      = osum e sq pi t n fun β => osum e sq pi s m fun α => F α β := by
  simp only [osum, Finset.mul_sum]
  rw [Finset.sum_comm]
  exact Finset.sum_congr rfl fun kb _ => Finset.sum_congr rfl fun ka _ => mul_left_comm _ _ _

theorem column_frame (s : Shell K) (m : ℕ) :
    letI := fieldTransc e sq pi
    (s.column m).frame = s.frame := rfl

theorem permPrims_frame (s : Shell K) (σ : ℕ → ℕ) :
    letI := fieldTransc e sq pi
    (s.permPrims σ).frame = s.frame := rfl

theorem splitPrim_frame (s : Shell K) (j : ℕ) (x : K) :
    letI := fieldTransc e sq pi
    (s.splitPrim j x).frame = s.frame := rfl

theorem scaleColumn_frame (s : Shell K) (m : ℕ) (c : K) :
    letI := fieldTransc e sq pi
    (s.scaleColumn m c).frame = s.frame := rfl

/-- `E s m c` stands for an entry of a block as a function of one of its shells `s` and of the
(segment, component) pair `(m, c)` that belongs to it; the other indices are fixed. -/
def SlotLinear (E : Shell K → ℕ → ℕ → K) : Prop :=
  letI := fieldTransc e sq pi
  ∃ G : Shell K → ℕ → K → K, ∀ s m c, E s m c = osum e sq pi s m (G s.frame c)

def SlotLinearOn (ok : Shell K → ℕ → Prop) (E : Shell K → ℕ → ℕ → K) : Prop :=
  letI := fieldTransc e sq pi
  ∃ G : Shell K → ℕ → K → K, ∀ s m c, ok s c → E s m c = osum e sq pi s m (G s.frame c)

variable {e sq pi}

/-- the way every entry below is shown to be a contraction; for the `F` that occur, `hF` is `rfl` -/
theorem SlotLinearOn.of_eq_osum {ok : Shell K → ℕ → Prop} {E : Shell K → ℕ → ℕ → K}
    {F : Shell K → ℕ → K → K} (hE : ∀ s m c, ok s c → E s m c = osum e sq pi s m (F s c))
    (hF : ∀ s c, F s c = F s.frame c) : SlotLinearOn e sq pi ok E :=
  ⟨F, fun s m c hs => by rw [hE s m c hs, hF]⟩

theorem SlotLinearOn.congr {ok : Shell K → ℕ → Prop} {E E' : Shell K → ℕ → ℕ → K}
    (h : SlotLinearOn e sq pi ok E') (hE : ∀ s m c, ok s c → E s m c = E' s m c) :
    SlotLinearOn e sq pi ok E := by
  obtain ⟨G, hG⟩ := h
  exact ⟨G, fun s m c hs => by rw [hE s m c hs, hG s m c hs]⟩

theorem SlotLinearOn.const_mul {ok : Shell K → ℕ → Prop} {E : Shell K → ℕ → ℕ → K}
    (h : SlotLinearOn e sq pi ok E) (x : K) :
    SlotLinearOn e sq pi ok (fun s m c => x * E s m c) := by
  obtain ⟨G, hG⟩ := h
  exact ⟨fun fr c α => G fr c α * x, fun s m c hs =>
    (congrArg (x * ·) (hG s m c hs)).trans ((mul_comm _ _).trans (osum_mul e sq pi s m _ x))⟩

theorem SlotLinearOn.mul_const {ok : Shell K → ℕ → Prop} {E : Shell K → ℕ → ℕ → K}
    (h : SlotLinearOn e sq pi ok E) (x : K) :
    SlotLinearOn e sq pi ok (fun s m c => E s m c * x) :=
  (h.const_mul x).congr fun _ _ _ _ => mul_comm _ _

/-- C13.1 -/
theorem SlotLinearOn.column {ok : Shell K → ℕ → Prop} {E : Shell K → ℕ → ℕ → K}
    (h : SlotLinearOn e sq pi ok E) (s : Shell K) (m c : ℕ) :
    letI := fieldTransc e sq pi
    ok s c → ok (s.column m) c → E (s.column m) 0 c = E s m c := by
  intro hs hs'
  obtain ⟨G, hG⟩ := h
  rw [hG _ _ _ hs, hG _ _ _ hs', column_frame]
  exact osum_column e sq pi s m _

/-- C13.2 -/
theorem SlotLinearOn.permPrims {ok : Shell K → ℕ → Prop} {E : Shell K → ℕ → ℕ → K}
    (h : SlotLinearOn e sq pi ok E) (s : Shell K) (σ : ℕ → ℕ) (m c : ℕ) :
    letI := fieldTransc e sq pi
    ok s c → ok (s.permPrims σ) c →
    (∀ k < s.nprim, σ k < s.nprim) → (∀ k < s.nprim, ∀ k' < s.nprim, σ k = σ k' → k = k') →
    E (s.permPrims σ) m c = E s m c := by
  intro hs hs' hmap hinj
  obtain ⟨G, hG⟩ := h
  rw [hG _ _ _ hs, hG _ _ _ hs', permPrims_frame]
  exact osum_permPrims e sq pi s σ m _ hmap hinj

/-- C13.3 -/
theorem SlotLinearOn.splitPrim {ok : Shell K → ℕ → Prop} {E : Shell K → ℕ → ℕ → K}
    (h : SlotLinearOn e sq pi ok E) (s : Shell K) (j : ℕ) (x : K) (m c : ℕ) :
    letI := fieldTransc e sq pi
    ok s c → ok (s.splitPrim j x) c → j < s.nprim → E (s.splitPrim j x) m c = E s m c := by
  intro hs hs' hj
  obtain ⟨G, hG⟩ := h
  rw [hG _ _ _ hs, hG _ _ _ hs', splitPrim_frame]
  exact osum_splitPrim e sq pi s j x m _ hj

/-- C13.4 for the raw entries -/
theorem SlotLinearOn.scaleColumn {ok : Shell K → ℕ → Prop} {E : Shell K → ℕ → ℕ → K}
    (h : SlotLinearOn e sq pi ok E) (s : Shell K) (m : ℕ) (x : K) (m' c : ℕ) :
    letI := fieldTransc e sq pi
    ok s c → ok (s.scaleColumn m x) c →
    E (s.scaleColumn m x) m' c = if m' = m then x * E s m' c else E s m' c := by
  intro hs hs'
  obtain ⟨G, hG⟩ := h
  rw [hG _ _ _ hs, hG _ _ _ hs', scaleColumn_frame]
  exact osum_scaleColumn e sq pi s m x m' _

theorem slotLinear_iff {E : Shell K → ℕ → ℕ → K} :
    SlotLinear e sq pi E ↔ SlotLinearOn e sq pi (fun _ _ => True) E :=
  exists_congr fun _ => forall₃_congr fun _ _ _ => (true_imp_iff).symm

theorem SlotLinear.on {E : Shell K → ℕ → ℕ → K} (h : SlotLinear e sq pi E)
    (ok : Shell K → ℕ → Prop) : SlotLinearOn e sq pi ok E := by
  obtain ⟨G, hG⟩ := h
  exact ⟨G, fun s m c _ => hG s m c⟩

theorem SlotLinear.of_eq_osum {E : Shell K → ℕ → ℕ → K} {F : Shell K → ℕ → K → K}
    (hE : ∀ s m c, E s m c = osum e sq pi s m (F s c)) (hF : ∀ s c, F s c = F s.frame c) :
    SlotLinear e sq pi E :=
  slotLinear_iff.2 (.of_eq_osum (fun s m c _ => hE s m c) hF)

theorem SlotLinear.congr {E E' : Shell K → ℕ → ℕ → K} (h : SlotLinear e sq pi E')
    (hE : ∀ s m c, E s m c = E' s m c) : SlotLinear e sq pi E :=
  slotLinear_iff.2 ((h.on _).congr fun s m c _ => hE s m c)

theorem SlotLinear.add {E E' : Shell K → ℕ → ℕ → K} (h : SlotLinear e sq pi E)
    (h' : SlotLinear e sq pi E') : SlotLinear e sq pi (fun s m c => E s m c + E' s m c) := by
  obtain ⟨G, hG⟩ := h
  obtain ⟨G', hG'⟩ := h'
  refine ⟨fun fr c α => G fr c α + G' fr c α, fun s m c => ?_⟩
  simp only [hG, hG', osum, ← Finset.sum_add_distrib, mul_add]

theorem SlotLinear.const_mul {E : Shell K → ℕ → ℕ → K} (h : SlotLinear e sq pi E) (x : K) :
    SlotLinear e sq pi (fun s m c => x * E s m c) :=
  slotLinear_iff.2 ((h.on _).const_mul x)

theorem SlotLinear.mul_const {E : Shell K → ℕ → ℕ → K} (h : SlotLinear e sq pi E) (x : K) :
    SlotLinear e sq pi (fun s m c => E s m c * x) :=
  slotLinear_iff.2 ((h.on _).mul_const x)

theorem SlotLinear.column {E : Shell K → ℕ → ℕ → K} (h : SlotLinear e sq pi E)
    (s : Shell K) (m c : ℕ) :
    letI := fieldTransc e sq pi
    E (s.column m) 0 c = E s m c :=
  (slotLinear_iff.1 h).column s m c trivial trivial

theorem SlotLinear.permPrims {E : Shell K → ℕ → ℕ → K} (h : SlotLinear e sq pi E)
    (s : Shell K) (σ : ℕ → ℕ) (m c : ℕ) :
    letI := fieldTransc e sq pi
    (∀ k < s.nprim, σ k < s.nprim) → (∀ k < s.nprim, ∀ k' < s.nprim, σ k = σ k' → k = k') →
    E (s.permPrims σ) m c = E s m c :=
  (slotLinear_iff.1 h).permPrims s σ m c trivial trivial

theorem SlotLinear.splitPrim {E : Shell K → ℕ → ℕ → K} (h : SlotLinear e sq pi E)
    (s : Shell K) (j : ℕ) (x : K) (m c : ℕ) :
    letI := fieldTransc e sq pi
    j < s.nprim → E (s.splitPrim j x) m c = E s m c :=
  (slotLinear_iff.1 h).splitPrim s j x m c trivial trivial

theorem SlotLinear.scaleColumn {E : Shell K → ℕ → ℕ → K} (h : SlotLinear e sq pi E)
    (s : Shell K) (m : ℕ) (x : K) (m' c : ℕ) :
    letI := fieldTransc e sq pi
    E (s.scaleColumn m x) m' c = if m' = m then x * E s m' c else E s m' c :=
  (slotLinear_iff.1 h).scaleColumn s m x m' c trivial trivial

variable (e sq pi)

/-- `P s t ka kb a b` stands for the primitive-level function of a block former (the argument of
`contract`); the condition says that it depends on `s`, `ka` only through the frame of `s` and the
exponent `α_{ka}`, and likewise on `t`, `kb` -/
def PrimLocal (P : Shell K → Shell K → ℕ → ℕ → Comp → Comp → K) : Prop :=
  letI := fieldTransc e sq pi
  ∀ s t ka kb a b, P s t ka kb a b = P (s.atPrim ka) (t.atPrim kb) 0 0 a b

variable {e sq pi}

theorem sum2_weights (A B : Finset ℕ) (t r : ℕ → ℕ → K) (ua ub : ℕ → K)
    (ht : ∀ a b, t a b = ua a * (ub b * r a b)) :
    ∑ a ∈ A, ∑ b ∈ B, t a b = ∑ a ∈ A, ua a * ∑ b ∈ B, ub b * r a b := by
  simp only [ht, ← Finset.mul_sum]

theorem sum4_weights (A B C D : Finset ℕ) (t r : ℕ → ℕ → ℕ → ℕ → K) (ua ub uc ud : ℕ → K)
    (ht : ∀ a b c d, t a b c d = ua a * (ub b * (uc c * (ud d * r a b c d)))) :
    ∑ a ∈ A, ∑ b ∈ B, ∑ c ∈ C, ∑ d ∈ D, t a b c d
      = ∑ a ∈ A, ua a * ∑ b ∈ B, ub b * ∑ c ∈ C, uc c * ∑ d ∈ D, ud d * r a b c d := by
  simp only [ht, ← Finset.mul_sum]

theorem contract_eq_osum {P : Shell K → Shell K → ℕ → ℕ → Comp → Comp → K}
    (hP : PrimLocal e sq pi P) (s t : Shell K) (ma ca mb cb : ℕ) :
    letI := fieldTransc e sq pi
    contract s t s.normTab t.normTab (P s t) ma ca mb cb
      = osum e sq pi s ma fun α => osum e sq pi t mb fun β =>
          normPrim α s.l (s.comp! ca) * normPrim β t.l (t.comp! cb)
            * P (s.frame.prim1 α) (t.frame.prim1 β) 0 0 (s.comp! ca) (t.comp! cb) := by
  simp only [contract, sumN_eq_sum, Shell.normTab, tab2_get, hP s t, Shell.atPrim]
  exact sum2_weights _ _ _ _ _ _ fun ka kb => by ring

theorem contract_slotLinear_left {P : Shell K → Shell K → ℕ → ℕ → Comp → Comp → K}
    (hP : PrimLocal e sq pi P) (t : Shell K) (mb cb : ℕ) :
    letI := fieldTransc e sq pi
    SlotLinear e sq pi (fun s m c => contract s t s.normTab t.normTab (P s t) m c mb cb) :=
  .of_eq_osum (fun s m c => contract_eq_osum hP s t m c mb cb) fun _ _ => rfl

theorem contract_slotLinear_right {P : Shell K → Shell K → ℕ → ℕ → Comp → Comp → K}
    (hP : PrimLocal e sq pi P) (s : Shell K) (ma ca : ℕ) :
    letI := fieldTransc e sq pi
    SlotLinear e sq pi (fun t m c => contract s t s.normTab t.normTab (P s t) ma ca m c) :=
  .of_eq_osum (fun t m c => (contract_eq_osum hP s t ma ca m c).trans (osum_comm e sq pi s t ma m _))
    fun _ _ => rfl

theorem momAx_atPrim (s t : Shell K) (O : ℕ → K) (nk ka kb : ℕ) :
    letI := fieldTransc e sq pi
    momAx s t O nk ka kb = momAx (s.atPrim ka) (t.atPrim kb) O nk 0 0 := by
  funext axis
  simp only [momAx, Shell.atPrim, Shell.prim1_exp, Shell.prim1_ctr, Shell.prim1_l, Shell.frame_l,
    Shell.frame_ctr]

theorem diffAx_atPrim (s t : Shell K) (dmax ka kb : ℕ) :
    letI := fieldTransc e sq pi
    diffAx s t dmax ka kb = diffAx (s.atPrim ka) (t.atPrim kb) dmax 0 0 := by
  funext axis
  simp only [diffAx, Shell.atPrim, Shell.prim1_exp, Shell.prim1_ctr, Shell.prim1_l, Shell.frame_l,
    Shell.frame_ctr]

theorem momentPrim_local (O : ℕ → K) (nk : ℕ) (o : Comp) :
    letI := fieldTransc e sq pi
    PrimLocal e sq pi (fun s t => prod3 (pairTabs s t (momAx s t O nk)) o) := by
  intro s t ka kb a b
  simp only [prod3, pairTabs, tab3_get, momAx_atPrim s t O nk ka kb]

theorem diffPrim_local (dmax : ℕ) (o : Comp) :
    letI := fieldTransc e sq pi
    PrimLocal e sq pi (fun s t => prod3 (pairTabs s t (diffAx s t dmax)) o) := by
  intro s t ka kb a b
  simp only [prod3, pairTabs, tab3_get, diffAx_atPrim s t dmax ka kb]

variable (e sq pi)

theorem momentBlock_slotLinear_left (t : Shell K) (O : ℕ → K) (orders : List Comp) (d mb cb : ℕ) :
    letI := fieldTransc e sq pi
    SlotLinear e sq pi (fun s m c => ((momentBlock s t O orders).get d).get4 m c mb cb) :=
  (contract_slotLinear_left (momentPrim_local O _ _) t mb cb).congr fun s m c => by
    simp only [momentBlock, tab_get, blockTab, tab4_get]
    rfl

theorem momentBlock_slotLinear_right (s : Shell K) (O : ℕ → K) (orders : List Comp) (d ma ca : ℕ) :
    letI := fieldTransc e sq pi
    SlotLinear e sq pi (fun t m c => ((momentBlock s t O orders).get d).get4 ma ca m c) :=
  (contract_slotLinear_right (momentPrim_local O _ _) s ma ca).congr fun t m c => by
    simp only [momentBlock, tab_get, blockTab, tab4_get]
    rfl

theorem overlapBlock_slotLinear_left (t : Shell K) (mb cb : ℕ) :
    letI := fieldTransc e sq pi
    SlotLinear e sq pi (fun s m c => (overlapBlock s t).get4 m c mb cb) :=
  momentBlock_slotLinear_left e sq pi t _ _ 0 mb cb

theorem overlapBlock_slotLinear_right (s : Shell K) (ma ca : ℕ) :
    letI := fieldTransc e sq pi
    SlotLinear e sq pi (fun t m c => (overlapBlock s t).get4 ma ca m c) :=
  momentBlock_slotLinear_right e sq pi s _ _ 0 ma ca

theorem diffBlock_slotLinear_left (t : Shell K) (orders : List Comp) (d mb cb : ℕ) :
    letI := fieldTransc e sq pi
    SlotLinear e sq pi (fun s m c => ((diffBlock s t orders).get d).get4 m c mb cb) :=
  (contract_slotLinear_left (diffPrim_local _ _) t mb cb).congr fun s m c => by
    simp only [diffBlock, tab_get, blockTab, tab4_get]
    rfl

theorem diffBlock_slotLinear_right (s : Shell K) (orders : List Comp) (d ma ca : ℕ) :
    letI := fieldTransc e sq pi
    SlotLinear e sq pi (fun t m c => ((diffBlock s t orders).get d).get4 ma ca m c) :=
  (contract_slotLinear_right (diffPrim_local _ _) s ma ca).congr fun t m c => by
    simp only [diffBlock, tab_get, blockTab, tab4_get]
    rfl

/-- `kineticBlock` = `-½ Σ` of three `diffBlock`s -/
theorem kineticBlock_slotLinear_left (t : Shell K) (mb cb : ℕ) :
    letI := fieldTransc e sq pi
    SlotLinear e sq pi (fun s m c => (kineticBlock s t).get4 m c mb cb) :=
  have h := fun d => diffBlock_slotLinear_left e sq pi t [(2,0,0), (0,2,0), (0,0,2)] d mb cb
  ((((h 0).add (h 1)).add (h 2)).const_mul (-(1 / 2))).congr fun s m c => by
    simp only [kineticBlock, blockTab, tab4_get, num_nat, Nat.cast_one, Nat.cast_ofNat]

theorem kineticBlock_slotLinear_right (s : Shell K) (ma ca : ℕ) :
    letI := fieldTransc e sq pi
    SlotLinear e sq pi (fun t m c => (kineticBlock s t).get4 ma ca m c) :=
  have h := fun d => diffBlock_slotLinear_right e sq pi s [(2,0,0), (0,2,0), (0,0,2)] d ma ca
  ((((h 0).add (h 1)).add (h 2)).const_mul (-(1 / 2))).congr fun t m c => by
    simp only [kineticBlock, blockTab, tab4_get, num_nat, Nat.cast_one, Nat.cast_ofNat]

theorem momentumBlock_slotLinear_left (t : Shell K) (axis mb cb : ℕ) :
    letI := fieldTransc e sq pi
    SlotLinear e sq pi (fun s m c => ((momentumBlock s t).get axis).get4 m c mb cb) :=
  diffBlock_slotLinear_left e sq pi t _ axis mb cb

theorem momentumBlock_slotLinear_right (s : Shell K) (axis ma ca : ℕ) :
    letI := fieldTransc e sq pi
    SlotLinear e sq pi (fun t m c => ((momentumBlock s t).get axis).get4 ma ca m c) :=
  diffBlock_slotLinear_right e sq pi s _ axis ma ca

def angmomPrim (axis : ℕ) (s t : Shell K) (ka kb : ℕ) (a b : Comp) : K :=
  letI := fieldTransc e sq pi
  let dt := pairTabs s t (diffAx s t 1)
  let mt := pairTabs s t (momAx s t (fun _ => Num.nat 0) 2)
  let u := axis
  let v := (axis + 1) % 3
  let w := (axis + 2) % 3
  (mt.get3 ka kb u).get3 0 (b.ax u) (a.ax u) *
    ((mt.get3 ka kb v).get3 1 (b.ax v) (a.ax v) * (dt.get3 ka kb w).get3 1 (b.ax w) (a.ax w)
      - (mt.get3 ka kb w).get3 1 (b.ax w) (a.ax w) * (dt.get3 ka kb v).get3 1 (b.ax v) (a.ax v))

theorem angmomPrim_local (axis : ℕ) : PrimLocal e sq pi (angmomPrim e sq pi axis) := by
  intro s t ka kb a b
  simp only [angmomPrim, pairTabs, tab3_get, momAx_atPrim s t _ _ ka kb, diffAx_atPrim s t _ ka kb]

theorem angmomBlock_slotLinear_left (t : Shell K) (axis mb cb : ℕ) :
    letI := fieldTransc e sq pi
    SlotLinear e sq pi (fun s m c => ((angmomBlock s t).get axis).get4 m c mb cb) :=
  (contract_slotLinear_left (angmomPrim_local e sq pi axis) t mb cb).congr fun s m c => by
    simp only [angmomBlock, tab_get, blockTab, tab4_get]
    rfl

theorem angmomBlock_slotLinear_right (s : Shell K) (axis ma ca : ℕ) :
    letI := fieldTransc e sq pi
    SlotLinear e sq pi (fun t m c => ((angmomBlock s t).get axis).get4 ma ca m c) :=
  (contract_slotLinear_right (angmomPrim_local e sq pi axis) s ma ca).congr fun t m c => by
    simp only [angmomBlock, tab_get, blockTab, tab4_get]
    rfl

theorem rysPrim_prim1 (Fb : K → ℕ → K) (s t : Shell K) (Cpt : ℕ → K) (ka kb : ℕ) :
    letI := fieldTransc e sq pi
    rysPrim e sq pi Fb s t Cpt ka kb
      = rysPrim e sq pi Fb (s.frame.prim1 (s.exp! ka)) (t.frame.prim1 (t.exp! kb)) Cpt 0 0 := by
  funext a b
  simp only [rysPrim, Shell.prim1_exp, Shell.prim1_ctr, Shell.frame_ctr]

theorem rysBlock_eq_osum (Fb : K → ℕ → K) (s t : Shell K) (Cpt : ℕ → K) (ma ca mb cb : ℕ) :
    letI := fieldTransc e sq pi
    rysBlock e sq pi Fb s t Cpt ma ca mb cb
      = osum e sq pi s ma fun α => osum e sq pi t mb fun β =>
          normRad α s.l * normRad β t.l
            * rysPrim e sq pi Fb (s.frame.prim1 α) (t.frame.prim1 β) Cpt 0 0 (s.comp! ca) (t.comp! cb)
            * normAng (s.comp! ca) * normAng (t.comp! cb) := by
  simp only [rysBlock, Finset.sum_mul, rysPrim_prim1 e sq pi Fb s t]
  exact sum2_weights _ _ _ _ _ _ fun ka kb => by ring

/-- the Boys table may depend on the angular momentum of the shell: in `pointChargeBlock` its order
is `l_s + l_t + 1` -/
theorem rysBlock_slotLinear_left (Fb : ℕ → K → ℕ → K) (t : Shell K) (Cpt : ℕ → K) (mb cb : ℕ) :
    SlotLinear e sq pi (fun s m c => rysBlock e sq pi (Fb s.l) s t Cpt m c mb cb) :=
  .of_eq_osum (fun s m c => rysBlock_eq_osum e sq pi (Fb s.l) s t Cpt m c mb cb) fun _ _ => rfl

theorem rysBlock_slotLinear_right (Fb : ℕ → K → ℕ → K) (s : Shell K) (Cpt : ℕ → K) (ma ca : ℕ) :
    SlotLinear e sq pi (fun t m c => rysBlock e sq pi (Fb t.l) s t Cpt ma ca m c) :=
  .of_eq_osum (fun t m c => (rysBlock_eq_osum e sq pi (Fb t.l) s t Cpt ma ca m c).trans
    (osum_comm e sq pi s t ma m _)) fun _ _ => rfl

/-- covers the whole code path of `pointChargeBlock` (vertical recursion, contraction, horizontal
recursion, shell swap), through `pointChargeBlock_eq_rys_self` -/
theorem pointChargeBlock_slotLinear_left (boys : K → ℕ → Tab K) (t : Shell K) (Cpt : ℕ → K) (q : K)
    (mb cb : ℕ) :
    letI := fieldTransc e sq pi
    t.degOK cb →
    SlotLinearOn e sq pi Shell.degOK
      (fun s m c => (pointChargeBlock boys s t Cpt q).get4 m c mb cb) := fun hb =>
  (((rysBlock_slotLinear_left e sq pi (fun l T m => (boys T (l + t.l + 1)).get m) t Cpt mb
    cb).const_mul (-q)).on _).congr fun s m c hs =>
      pointChargeBlock_eq_rys_self e sq pi boys s t Cpt q m c mb cb hs hb

theorem pointChargeBlock_slotLinear_right (boys : K → ℕ → Tab K) (s : Shell K) (Cpt : ℕ → K) (q : K)
    (ma ca : ℕ) :
    letI := fieldTransc e sq pi
    s.degOK ca →
    SlotLinearOn e sq pi Shell.degOK
      (fun t m c => (pointChargeBlock boys s t Cpt q).get4 ma ca m c) := fun ha =>
  (((rysBlock_slotLinear_right e sq pi (fun l T m => (boys T (s.l + l + 1)).get m) s Cpt ma
    ca).const_mul (-q)).on _).congr fun t m c ht =>
      pointChargeBlock_eq_rys_self e sq pi boys s t Cpt q ma ca m c ha ht

/-- `G` is the entry of the shell with the single primitive `α`, coefficient 1 -/
theorem evalBlock_slotLinear (be : Backend) (orders : Comp) (pts : Array (ℕ → K)) (p : ℕ) :
    letI := fieldTransc e sq pi
    SlotLinear e sq pi (fun s m c => (evalBlock s be orders pts).get3 m c p) := by
  let _ := fieldTransc e sq pi
  refine ⟨fun fr c α => (evalBlock (fr.unitPrim α) be orders pts).get3 0 c p, fun s m c => ?_⟩
  have hn : ∀ α, (s.frame.unitPrim α).nprim = 1 := fun _ => rfl
  have hc : ∀ α, (s.frame.unitPrim α).coef! 0 0 = 1 := fun _ => Nat.cast_one
  have he : ∀ α, (s.frame.unitPrim α).exp! 0 = α := fun _ => rfl
  have hl : ∀ α, (s.frame.unitPrim α).l = s.l := fun _ => rfl
  have hctr : ∀ α, (s.frame.unitPrim α).ctr = s.ctr := fun _ => rfl
  have hcart : ∀ α, (s.frame.unitPrim α).cart = s.cart := fun _ => rfl
  have hcomp : ∀ α c, (s.frame.unitPrim α).comp! c = s.comp! c := fun _ _ => rfl
  simp only [evalBlock, tab3_get, tab4_get, Shell.normTab, tab2_get, sumN_eq_sum, osum, hn, hc, he,
    hl, hctr, hcart, hcomp, Finset.sum_range_one, one_mul]

theorem eriContr_eq_osum (Fb : K → ℕ → K) (sa sb sc sd : Shell K) (ma mb mc md : ℕ)
    (a b c d : Comp) :
    letI := fieldTransc e sq pi
    eriContr e sq pi Fb sa sb sc sd ma mb mc md a b c d
      = osum e sq pi sa ma fun α => osum e sq pi sb mb fun β => osum e sq pi sc mc fun γ =>
          osum e sq pi sd md fun δ =>
            normRad α sa.l * normRad β sb.l * normRad γ sc.l * normRad δ sd.l
              * eriQuartet e sq pi Fb α β γ δ sa.ctr sb.ctr sc.ctr sd.ctr a b c d :=
  sum4_weights _ _ _ _ _ _ _ _ _ _ fun ka kb kc kd => by simp only [eriPrim]; ring

theorem eriRys_eq_osum (Fb : K → ℕ → K) (sa sb sc sd : Shell K) (ma ca mb cb mc cc md cd : ℕ) :
    letI := fieldTransc e sq pi
    eriRys e sq pi Fb sa sb sc sd ma ca mb cb mc cc md cd
      = osum e sq pi sa ma fun α => osum e sq pi sb mb fun β => osum e sq pi sc mc fun γ =>
          osum e sq pi sd md fun δ =>
            normRad α sa.l * normRad β sb.l * normRad γ sc.l * normRad δ sd.l
              * eriQuartet e sq pi Fb α β γ δ sa.ctr sb.ctr sc.ctr sd.ctr
                  (sa.comp! ca) (sb.comp! cb) (sc.comp! cc) (sd.comp! cd)
              * normAng (sa.comp! ca) * normAng (sb.comp! cb) * normAng (sc.comp! cc)
              * normAng (sd.comp! cd) := by
  simp only [eriRys, eriContr_eq_osum, osum_mul]

def Shell.ExpsIn (s' s : Shell K) : Prop :=
  letI := fieldTransc e sq pi
  ∀ k < s'.nprim, ∃ k' < s.nprim, s'.exp! k = s.exp! k'

theorem Shell.ExpsIn.refl (s : Shell K) : s.ExpsIn e sq pi s := fun k hk => ⟨k, hk, rfl⟩

theorem column_expsIn (s : Shell K) (m : ℕ) :
    letI := fieldTransc e sq pi
    (s.column m).ExpsIn e sq pi s := fun k hk => ⟨k, hk, rfl⟩

theorem scaleColumn_expsIn (s : Shell K) (m : ℕ) (x : K) :
    letI := fieldTransc e sq pi
    (s.scaleColumn m x).ExpsIn e sq pi s := fun k hk => ⟨k, hk, rfl⟩

theorem permPrims_expsIn (s : Shell K) (σ : ℕ → ℕ) (hmap : ∀ k < s.nprim, σ k < s.nprim) :
    letI := fieldTransc e sq pi
    (s.permPrims σ).ExpsIn e sq pi s := by
  intro k hk
  rw [permPrims_nprim] at hk
  exact ⟨σ k, hmap k hk, permPrims_exp e sq pi s σ k hk⟩

theorem splitPrim_expsIn (s : Shell K) (j : ℕ) (x : K) (hj : j < s.nprim) :
    letI := fieldTransc e sq pi
    (s.splitPrim j x).ExpsIn e sq pi s := by
  intro k hk
  rw [splitPrim_nprim] at hk
  by_cases h : k < s.nprim
  · exact ⟨k, h, splitPrim_exp_lt e sq pi s j x k h⟩
  · have hk' : k = s.nprim := by omega
    subst hk'
    exact ⟨j, hj, splitPrim_exp_last e sq pi s j x⟩

/-- the hypotheses under which `eriBlock_eq_rys_self` identifies the entry
`[·][ca][·][cb][·][cc][·][cd]` of `eriBlock` with the contracted Rys form.  Over ℝ all but the
`degOK` ones follow from positive exponents (`EriOK.of_pos`). -/
structure EriOK (sa sb sc sd : Shell K) (ca cb cc cd : ℕ) : Prop where
  sq_one : sq 1 = 1
  hp : letI := fieldTransc e sq pi
    ∀ ka kb, ka < sa.nprim → kb < sb.nprim → sa.exp! ka + sb.exp! kb ≠ 0
  hq : letI := fieldTransc e sq pi
    ∀ kc kd, kc < sc.nprim → kd < sd.nprim → sc.exp! kc + sd.exp! kd ≠ 0
  hpq : letI := fieldTransc e sq pi
    ∀ ka kb kc kd, ka < sa.nprim → kb < sb.nprim → kc < sc.nprim → kd < sd.nprim →
      (sa.exp! ka + sb.exp! kb) + (sc.exp! kc + sd.exp! kd) ≠ 0
  da : sa.degOK ca
  db : sb.degOK cb
  dc : sc.degOK cc
  dd : sd.degOK cd

variable {e sq pi}

theorem EriOK.mono {sa sb sc sd sa' sb' sc' sd' : Shell K} {ca cb cc cd : ℕ}
    (h : EriOK e sq pi sa sb sc sd ca cb cc cd)
    (ha : sa'.ExpsIn e sq pi sa) (hb : sb'.ExpsIn e sq pi sb) (hc : sc'.ExpsIn e sq pi sc)
    (hd : sd'.ExpsIn e sq pi sd)
    (da : sa'.degOK ca) (db : sb'.degOK cb) (dc : sc'.degOK cc) (dd : sd'.degOK cd) :
    EriOK e sq pi sa' sb' sc' sd' ca cb cc cd := by
  refine ⟨h.sq_one, ?_, ?_, ?_, da, db, dc, dd⟩
  · intro ka kb hka hkb
    obtain ⟨ka', hka', ea⟩ := ha ka hka
    obtain ⟨kb', hkb', eb⟩ := hb kb hkb
    rw [ea, eb]; exact h.hp ka' kb' hka' hkb'
  · intro kc kd hkc hkd
    obtain ⟨kc', hkc', ec⟩ := hc kc hkc
    obtain ⟨kd', hkd', ed⟩ := hd kd hkd
    rw [ec, ed]; exact h.hq kc' kd' hkc' hkd'
  · intro ka kb kc kd hka hkb hkc hkd
    obtain ⟨ka', hka', ea⟩ := ha ka hka
    obtain ⟨kb', hkb', eb⟩ := hb kb hkb
    obtain ⟨kc', hkc', ec⟩ := hc kc hkc
    obtain ⟨kd', hkd', ed⟩ := hd kd hkd
    rw [ea, eb, ec, ed]; exact h.hpq ka' kb' kc' kd' hka' hkb' hkc' hkd'

theorem EriOK.mono_a {sa sb sc sd sa' : Shell K} {ca cb cc cd : ℕ}
    (h : EriOK e sq pi sa sb sc sd ca cb cc cd) (ha : sa'.ExpsIn e sq pi sa) (da : sa'.degOK ca) :
    EriOK e sq pi sa' sb sc sd ca cb cc cd :=
  h.mono ha (.refl e sq pi sb) (.refl e sq pi sc) (.refl e sq pi sd) da h.db h.dc h.dd

theorem EriOK.mono_b {sa sb sc sd sb' : Shell K} {ca cb cc cd : ℕ}
    (h : EriOK e sq pi sa sb sc sd ca cb cc cd) (hb : sb'.ExpsIn e sq pi sb) (db : sb'.degOK cb) :
    EriOK e sq pi sa sb' sc sd ca cb cc cd :=
  h.mono (.refl e sq pi sa) hb (.refl e sq pi sc) (.refl e sq pi sd) h.da db h.dc h.dd

theorem EriOK.mono_c {sa sb sc sd sc' : Shell K} {ca cb cc cd : ℕ}
    (h : EriOK e sq pi sa sb sc sd ca cb cc cd) (hc : sc'.ExpsIn e sq pi sc) (dc : sc'.degOK cc) :
    EriOK e sq pi sa sb sc' sd ca cb cc cd :=
  h.mono (.refl e sq pi sa) (.refl e sq pi sb) hc (.refl e sq pi sd) h.da h.db dc h.dd

theorem EriOK.mono_d {sa sb sc sd sd' : Shell K} {ca cb cc cd : ℕ}
    (h : EriOK e sq pi sa sb sc sd ca cb cc cd) (hd : sd'.ExpsIn e sq pi sd) (dd : sd'.degOK cd) :
    EriOK e sq pi sa sb sc sd' ca cb cc cd :=
  h.mono (.refl e sq pi sa) (.refl e sq pi sb) (.refl e sq pi sc) hd h.da h.db h.dc dd

variable (e sq pi)

end Field

section FieldChar
variable {K : Type} [Field K] [CharZero K] (e sq : K → K) (pi : K)

variable {e sq pi} in
theorem EriOK.eq_rys {sa sb sc sd : Shell K} {ca cb cc cd : ℕ}
    (h : EriOK e sq pi sa sb sc sd ca cb cc cd) (boys : K → ℕ → Tab K) (ma mb mc md : ℕ) :
    letI := fieldTransc e sq pi
    (eriBlock boys sa sb sc sd).get8 ma ca mb cb mc cc md cd
      = eriRys e sq pi (fun T m => (boys T (sa.l + sb.l + sc.l + sd.l + 1)).get m)
          sa sb sc sd ma ca mb cb mc cc md cd :=
  eriBlock_eq_rys_self e sq pi boys sa sb sc sd ma ca mb cb mc cc md cd h.sq_one h.hp h.hq h.hpq
    h.da h.db h.dc h.dd

/-- covers the whole code path of `eriBlock` (dispatch, recursions, contraction in the code's order),
through `eriBlock_eq_rys_self` -/
theorem eriBlock_slotLinear_a (boys : K → ℕ → Tab K) (sb sc sd : Shell K)
    (mb cb mc cc md cd : ℕ) :
    letI := fieldTransc e sq pi
    SlotLinearOn e sq pi (fun sa c => EriOK e sq pi sa sb sc sd c cb cc cd)
      (fun sa m c => (eriBlock boys sa sb sc sd).get8 m c mb cb mc cc md cd) :=
  .of_eq_osum (fun sa m c h => (h.eq_rys boys m mb mc md).trans
    (eriRys_eq_osum e sq pi _ sa sb sc sd m c mb cb mc cc md cd)) fun _ _ => rfl

theorem eriBlock_slotLinear_b (boys : K → ℕ → Tab K) (sa sc sd : Shell K)
    (ma ca mc cc md cd : ℕ) :
    letI := fieldTransc e sq pi
    SlotLinearOn e sq pi (fun sb c => EriOK e sq pi sa sb sc sd ca c cc cd)
      (fun sb m c => (eriBlock boys sa sb sc sd).get8 ma ca m c mc cc md cd) :=
  .of_eq_osum (fun sb m c h => (h.eq_rys boys ma m mc md).trans
    ((eriRys_eq_osum e sq pi _ sa sb sc sd ma ca m c mc cc md cd).trans
      (osum_comm e sq pi sa sb ma m _))) fun _ _ => rfl

/-- the contraction over `sc` is moved outwards past `sb`, then past `sa` -/
theorem eriBlock_slotLinear_c (boys : K → ℕ → Tab K) (sa sb sd : Shell K)
    (ma ca mb cb md cd : ℕ) :
    letI := fieldTransc e sq pi
    SlotLinearOn e sq pi (fun sc c => EriOK e sq pi sa sb sc sd ca cb c cd)
      (fun sc m c => (eriBlock boys sa sb sc sd).get8 ma ca mb cb m c md cd) :=
  .of_eq_osum (fun sc m c h => (h.eq_rys boys ma mb m md).trans
    ((eriRys_eq_osum e sq pi _ sa sb sc sd ma ca mb cb m c md cd).trans
      ((osum_congr e sq pi sa ma fun _ => osum_comm e sq pi sb sc mb m _).trans
        (osum_comm e sq pi sa sc ma m _)))) fun _ _ => rfl

/-- the contraction over `sd` is moved outwards past `sc`, `sb`, `sa` -/
theorem eriBlock_slotLinear_d (boys : K → ℕ → Tab K) (sa sb sc : Shell K)
    (ma ca mb cb mc cc : ℕ) :
    letI := fieldTransc e sq pi
    SlotLinearOn e sq pi (fun sd c => EriOK e sq pi sa sb sc sd ca cb cc c)
      (fun sd m c => (eriBlock boys sa sb sc sd).get8 ma ca mb cb mc cc m c) :=
  .of_eq_osum (fun sd m c h => (h.eq_rys boys ma mb mc m).trans
    ((eriRys_eq_osum e sq pi _ sa sb sc sd ma ca mb cb mc cc m c).trans
      ((osum_congr e sq pi sa ma fun _ =>
          (osum_congr e sq pi sb mb fun _ => osum_comm e sq pi sc sd mc m _).trans
            (osum_comm e sq pi sb sd mb m _)).trans
        (osum_comm e sq pi sa sd ma m _)))) fun _ _ => rfl

end FieldChar

section Real

theorem overlapBlock_scaleColumn_self (s : Shell ℝ) (m : ℕ) (x : ℝ) (m' c : ℕ) :
    (overlapBlock (s.scaleColumn m x) (s.scaleColumn m x)).get4 m' c m' c
      = if m' = m then x * x * (overlapBlock s s).get4 m' c m' c
        else (overlapBlock s s).get4 m' c m' c := by
  have h1 := (overlapBlock_slotLinear_left Real.exp Real.sqrt Real.pi (s.scaleColumn m x) m' c
    ).scaleColumn s m x m' c
  have h2 := (overlapBlock_slotLinear_right Real.exp Real.sqrt Real.pi s m' c).scaleColumn s m x m'
      c
  beta_reduce at h1 h2
  rw [h1, h2]
  split_ifs
  · ring
  · rfl

theorem normCont_scaleColumn_other (s : Shell ℝ) (m : ℕ) (x : ℝ) (m' c : ℕ) (h : m' ≠ m) :
    (normCont (s.scaleColumn m x)).get2 m' c = (normCont s).get2 m' c := by
  have hu : (s.scaleColumn m x).unitNorm = s.unitNorm := rfl
  unfold normCont
  rw [hu]
  cases s.unitNorm
  · simp only [Bool.false_eq_true, if_false, tab2_get]
  · simp only [if_true, tab2_get, overlapBlock_scaleColumn_self, if_neg h]

theorem normCont_scaleColumn_self (s : Shell ℝ) (m : ℕ) (x : ℝ) (c : ℕ) (hn : s.unitNorm = true) :
    (normCont (s.scaleColumn m x)).get2 m c
      = 1 / Real.sqrt (x * x * (overlapBlock s s).get4 m c m c) := by
  have hu : (s.scaleColumn m x).unitNorm = true := hn
  simp only [normCont, hu, if_true, tab2_get, overlapBlock_scaleColumn_self, Transc.sqrt, num_nat,
    Nat.cast_one]

theorem normCont_unit (s : Shell ℝ) (m c : ℕ) (hn : s.unitNorm = true) :
    (normCont s).get2 m c = 1 / Real.sqrt ((overlapBlock s s).get4 m c m c) := by
  simp only [normCont, hn, if_true, tab2_get, Transc.sqrt, num_nat, Nat.cast_one]

variable {ok : Shell ℝ → ℕ → Prop} {E : Shell ℝ → ℕ → ℕ → ℝ}

/-- C13.4 for the normalised entries; `x / |x|` is the sign of `x`. -/
theorem SlotLinearOn.normalised_scaleColumn (h : SlotLinearOn Real.exp Real.sqrt Real.pi ok E)
    (s : Shell ℝ) (m : ℕ) (x : ℝ) (c : ℕ) (hs : ok s c) (hs' : ok (s.scaleColumn m x) c)
    (hn : s.unitNorm = true) (hx : x ≠ 0) (hov : 0 < (overlapBlock s s).get4 m c m c) :
    E (s.scaleColumn m x) m c * (normCont (s.scaleColumn m x)).get2 m c
      = x / |x| * (E s m c * (normCont s).get2 m c) := by
  rw [h.scaleColumn s m x m c hs hs', if_pos rfl, normCont_scaleColumn_self s m x c hn,
    normCont_unit s m c hn]
  exact scale_norm x _ _ hov hx

theorem SlotLinearOn.normalised_scaleColumn_pos (h : SlotLinearOn Real.exp Real.sqrt Real.pi ok E)
    (s : Shell ℝ) (m : ℕ) (x : ℝ) (c : ℕ) (hs : ok s c) (hs' : ok (s.scaleColumn m x) c)
    (hn : s.unitNorm = true) (hx : 0 < x) (hov : 0 < (overlapBlock s s).get4 m c m c) :
    E (s.scaleColumn m x) m c * (normCont (s.scaleColumn m x)).get2 m c
      = E s m c * (normCont s).get2 m c := by
  rw [h.normalised_scaleColumn s m x c hs hs' hn hx.ne' hov, abs_of_pos hx, div_self hx.ne',
      one_mul]

theorem SlotLinearOn.normalised_scaleColumn_neg (h : SlotLinearOn Real.exp Real.sqrt Real.pi ok E)
    (s : Shell ℝ) (m : ℕ) (x : ℝ) (c : ℕ) (hs : ok s c) (hs' : ok (s.scaleColumn m x) c)
    (hn : s.unitNorm = true) (hx : x < 0) (hov : 0 < (overlapBlock s s).get4 m c m c) :
    E (s.scaleColumn m x) m c * (normCont (s.scaleColumn m x)).get2 m c
      = -(E s m c * (normCont s).get2 m c) := by
  rw [h.normalised_scaleColumn s m x c hs hs' hn hx.ne hov, abs_of_neg hx, div_neg, div_self hx.ne,
    neg_one_mul]

theorem SlotLinearOn.normalised_scaleColumn_other (h : SlotLinearOn Real.exp Real.sqrt Real.pi ok E)
    (s : Shell ℝ) (m : ℕ) (x : ℝ) (m' c : ℕ) (hs : ok s c) (hs' : ok (s.scaleColumn m x) c)
    (hm : m' ≠ m) :
    E (s.scaleColumn m x) m' c * (normCont (s.scaleColumn m x)).get2 m' c
      = E s m' c * (normCont s).get2 m' c := by
  rw [h.scaleColumn s m x m' c hs hs', if_neg hm, normCont_scaleColumn_other s m x m' c hm]

omit ok in
theorem SlotLinear.normalised_scaleColumn_pos (h : SlotLinear Real.exp Real.sqrt Real.pi E)
    (s : Shell ℝ) (m : ℕ) (x : ℝ) (c : ℕ)
    (hn : s.unitNorm = true) (hx : 0 < x) (hov : 0 < (overlapBlock s s).get4 m c m c) :
    E (s.scaleColumn m x) m c * (normCont (s.scaleColumn m x)).get2 m c
      = E s m c * (normCont s).get2 m c :=
  (slotLinear_iff.1 h).normalised_scaleColumn_pos s m x c trivial trivial hn hx hov

omit ok in
theorem SlotLinear.normalised_scaleColumn_neg (h : SlotLinear Real.exp Real.sqrt Real.pi E)
    (s : Shell ℝ) (m : ℕ) (x : ℝ) (c : ℕ)
    (hn : s.unitNorm = true) (hx : x < 0) (hov : 0 < (overlapBlock s s).get4 m c m c) :
    E (s.scaleColumn m x) m c * (normCont (s.scaleColumn m x)).get2 m c
      = -(E s m c * (normCont s).get2 m c) :=
  (slotLinear_iff.1 h).normalised_scaleColumn_neg s m x c trivial trivial hn hx hov

omit ok in
theorem SlotLinear.normalised_scaleColumn_other (h : SlotLinear Real.exp Real.sqrt Real.pi E)
    (s : Shell ℝ) (m : ℕ) (x : ℝ) (m' c : ℕ) (hm : m' ≠ m) :
    E (s.scaleColumn m x) m' c * (normCont (s.scaleColumn m x)).get2 m' c
      = E s m' c * (normCont s).get2 m' c :=
  (slotLinear_iff.1 h).normalised_scaleColumn_other s m x m' c trivial trivial hm

/-- both slots at once, as in the diagonal blocks of the arrays: the two signs cancel.  Obtained by
chaining the left-slot and the right-slot law; the same chaining works for every block. -/
theorem overlapBlock_normalised_scaleColumn_same (s : Shell ℝ) (m : ℕ) (x : ℝ) (ca cb : ℕ)
    (hn : s.unitNorm = true) (hx : x ≠ 0) (hova : 0 < (overlapBlock s s).get4 m ca m ca)
    (hovb : 0 < (overlapBlock s s).get4 m cb m cb) :
    (overlapBlock (s.scaleColumn m x) (s.scaleColumn m x)).get4 m ca m cb
        * (normCont (s.scaleColumn m x)).get2 m ca * (normCont (s.scaleColumn m x)).get2 m cb
      = (overlapBlock s s).get4 m ca m cb * (normCont s).get2 m ca * (normCont s).get2 m cb := by
  -- left slot with the right norm as a constant factor, then right slot with the left norm
  have h1 := (slotLinear_iff.1 ((overlapBlock_slotLinear_left Real.exp Real.sqrt Real.pi
    (s.scaleColumn m x) m cb).mul_const ((normCont (s.scaleColumn m x)).get2 m cb))
      ).normalised_scaleColumn s m x ca trivial trivial hn hx hova
  have h2 := (slotLinear_iff.1 ((overlapBlock_slotLinear_right Real.exp Real.sqrt Real.pi s m
    ca).mul_const ((normCont s).get2 m ca))).normalised_scaleColumn s m x cb trivial trivial hn hx
      hovb
  beta_reduce at h1 h2
  rw [mul_right_comm, h1, mul_right_comm ((overlapBlock s (s.scaleColumn m x)).get4 m ca m cb), h2,
    ← mul_assoc, div_mul_div_comm, abs_mul_abs_self, div_self (mul_self_ne_zero.mpr hx), one_mul]

/-! the normalisation factor of one slot among the four of `(ab|cd)` -/

theorem mul_slot₁ {a' n' a n y₂ y₃ y₄ : ℝ} (h : a' * n' = a * n) :
    a' * (n' * y₂ * y₃ * y₄) = a * (n * y₂ * y₃ * y₄) := by
  linear_combination (y₂ * y₃ * y₄) * h

theorem mul_slot₂ {a' n' a n y₁ y₃ y₄ : ℝ} (h : a' * n' = a * n) :
    a' * (y₁ * n' * y₃ * y₄) = a * (y₁ * n * y₃ * y₄) := by
  linear_combination (y₁ * y₃ * y₄) * h

theorem mul_slot₃ {a' n' a n y₁ y₂ y₄ : ℝ} (h : a' * n' = a * n) :
    a' * (y₁ * y₂ * n' * y₄) = a * (y₁ * y₂ * n * y₄) := by
  linear_combination (y₁ * y₂ * y₄) * h

theorem mul_slot₄ {a' n' a n y₁ y₂ y₃ : ℝ} (h : a' * n' = a * n) :
    a' * (y₁ * y₂ * y₃ * n') = a * (y₁ * y₂ * y₃ * n) := by
  linear_combination (y₁ * y₂ * y₃) * h

end Real

section BlocksField
variable {K : Type} [Field K] (e sq : K → K) (pi : K)

theorem overlapBlock_column (s t : Shell K) (m ca mb cb : ℕ) :
    letI := fieldTransc e sq pi
    (overlapBlock (s.column m) t).get4 0 ca mb cb = (overlapBlock s t).get4 m ca mb cb :=
  (overlapBlock_slotLinear_left e sq pi t mb cb).column s m ca

theorem overlapBlock_column_right (s t : Shell K) (ma ca m cb : ℕ) :
    letI := fieldTransc e sq pi
    (overlapBlock s (t.column m)).get4 ma ca 0 cb = (overlapBlock s t).get4 ma ca m cb :=
  (overlapBlock_slotLinear_right e sq pi s ma ca).column t m cb

theorem overlapBlock_permPrims (s t : Shell K) (σ : ℕ → ℕ) (ma ca mb cb : ℕ)
    (hmap : ∀ k < s.nprim, σ k < s.nprim)
    (hinj : ∀ k < s.nprim, ∀ k' < s.nprim, σ k = σ k' → k = k') :
    letI := fieldTransc e sq pi
    (overlapBlock (s.permPrims σ) t).get4 ma ca mb cb = (overlapBlock s t).get4 ma ca mb cb :=
  (overlapBlock_slotLinear_left e sq pi t mb cb).permPrims s σ ma ca hmap hinj

theorem overlapBlock_permPrims_right (s t : Shell K) (σ : ℕ → ℕ) (ma ca mb cb : ℕ)
    (hmap : ∀ k < t.nprim, σ k < t.nprim)
    (hinj : ∀ k < t.nprim, ∀ k' < t.nprim, σ k = σ k' → k = k') :
    letI := fieldTransc e sq pi
    (overlapBlock s (t.permPrims σ)).get4 ma ca mb cb = (overlapBlock s t).get4 ma ca mb cb :=
  (overlapBlock_slotLinear_right e sq pi s ma ca).permPrims t σ mb cb hmap hinj

theorem overlapBlock_splitPrim (s t : Shell K) (j : ℕ) (x : K) (ma ca mb cb : ℕ)
    (hj : j < s.nprim) :
    letI := fieldTransc e sq pi
    (overlapBlock (s.splitPrim j x) t).get4 ma ca mb cb = (overlapBlock s t).get4 ma ca mb cb :=
  (overlapBlock_slotLinear_left e sq pi t mb cb).splitPrim s j x ma ca hj

theorem overlapBlock_splitPrim_right (s t : Shell K) (j : ℕ) (x : K) (ma ca mb cb : ℕ)
    (hj : j < t.nprim) :
    letI := fieldTransc e sq pi
    (overlapBlock s (t.splitPrim j x)).get4 ma ca mb cb = (overlapBlock s t).get4 ma ca mb cb :=
  (overlapBlock_slotLinear_right e sq pi s ma ca).splitPrim t j x mb cb hj

theorem overlapBlock_scaleColumn (s t : Shell K) (m : ℕ) (x : K) (ma ca mb cb : ℕ) :
    letI := fieldTransc e sq pi
    (overlapBlock (s.scaleColumn m x) t).get4 ma ca mb cb
      = if ma = m then x * (overlapBlock s t).get4 ma ca mb cb
        else (overlapBlock s t).get4 ma ca mb cb :=
  (overlapBlock_slotLinear_left e sq pi t mb cb).scaleColumn s m x ma ca

theorem overlapBlock_scaleColumn_right (s t : Shell K) (m : ℕ) (x : K) (ma ca mb cb : ℕ) :
    letI := fieldTransc e sq pi
    (overlapBlock s (t.scaleColumn m x)).get4 ma ca mb cb
      = if mb = m then x * (overlapBlock s t).get4 ma ca mb cb
        else (overlapBlock s t).get4 ma ca mb cb :=
  (overlapBlock_slotLinear_right e sq pi s ma ca).scaleColumn t m x mb cb

theorem kineticBlock_column (s t : Shell K) (m ca mb cb : ℕ) :
    letI := fieldTransc e sq pi
    (kineticBlock (s.column m) t).get4 0 ca mb cb = (kineticBlock s t).get4 m ca mb cb :=
  (kineticBlock_slotLinear_left e sq pi t mb cb).column s m ca

theorem kineticBlock_column_right (s t : Shell K) (ma ca m cb : ℕ) :
    letI := fieldTransc e sq pi
    (kineticBlock s (t.column m)).get4 ma ca 0 cb = (kineticBlock s t).get4 ma ca m cb :=
  (kineticBlock_slotLinear_right e sq pi s ma ca).column t m cb

theorem kineticBlock_permPrims (s t : Shell K) (σ : ℕ → ℕ) (ma ca mb cb : ℕ)
    (hmap : ∀ k < s.nprim, σ k < s.nprim)
    (hinj : ∀ k < s.nprim, ∀ k' < s.nprim, σ k = σ k' → k = k') :
    letI := fieldTransc e sq pi
    (kineticBlock (s.permPrims σ) t).get4 ma ca mb cb = (kineticBlock s t).get4 ma ca mb cb :=
  (kineticBlock_slotLinear_left e sq pi t mb cb).permPrims s σ ma ca hmap hinj

theorem kineticBlock_permPrims_right (s t : Shell K) (σ : ℕ → ℕ) (ma ca mb cb : ℕ)
    (hmap : ∀ k < t.nprim, σ k < t.nprim)
    (hinj : ∀ k < t.nprim, ∀ k' < t.nprim, σ k = σ k' → k = k') :
    letI := fieldTransc e sq pi
    (kineticBlock s (t.permPrims σ)).get4 ma ca mb cb = (kineticBlock s t).get4 ma ca mb cb :=
  (kineticBlock_slotLinear_right e sq pi s ma ca).permPrims t σ mb cb hmap hinj

theorem kineticBlock_splitPrim (s t : Shell K) (j : ℕ) (x : K) (ma ca mb cb : ℕ)
    (hj : j < s.nprim) :
    letI := fieldTransc e sq pi
    (kineticBlock (s.splitPrim j x) t).get4 ma ca mb cb = (kineticBlock s t).get4 ma ca mb cb :=
  (kineticBlock_slotLinear_left e sq pi t mb cb).splitPrim s j x ma ca hj

theorem kineticBlock_splitPrim_right (s t : Shell K) (j : ℕ) (x : K) (ma ca mb cb : ℕ)
    (hj : j < t.nprim) :
    letI := fieldTransc e sq pi
    (kineticBlock s (t.splitPrim j x)).get4 ma ca mb cb = (kineticBlock s t).get4 ma ca mb cb :=
  (kineticBlock_slotLinear_right e sq pi s ma ca).splitPrim t j x mb cb hj

theorem kineticBlock_scaleColumn (s t : Shell K) (m : ℕ) (x : K) (ma ca mb cb : ℕ) :
    letI := fieldTransc e sq pi
    (kineticBlock (s.scaleColumn m x) t).get4 ma ca mb cb
      = if ma = m then x * (kineticBlock s t).get4 ma ca mb cb
        else (kineticBlock s t).get4 ma ca mb cb :=
  (kineticBlock_slotLinear_left e sq pi t mb cb).scaleColumn s m x ma ca

theorem kineticBlock_scaleColumn_right (s t : Shell K) (m : ℕ) (x : K) (ma ca mb cb : ℕ) :
    letI := fieldTransc e sq pi
    (kineticBlock s (t.scaleColumn m x)).get4 ma ca mb cb
      = if mb = m then x * (kineticBlock s t).get4 ma ca mb cb
        else (kineticBlock s t).get4 ma ca mb cb :=
  (kineticBlock_slotLinear_right e sq pi s ma ca).scaleColumn t m x mb cb

theorem momentBlock_column (O : ℕ → K) (orders : List Comp) (d : ℕ) (s t : Shell K) (m ca mb cb : ℕ)
    :
    letI := fieldTransc e sq pi
    ((momentBlock (s.column m) t O orders).get d).get4 0 ca mb cb =
        ((momentBlock s t O orders).get d).get4 m ca mb cb :=
  (momentBlock_slotLinear_left e sq pi t O orders d mb cb).column s m ca

theorem momentBlock_column_right (O : ℕ → K) (orders : List Comp) (d : ℕ) (s t : Shell K)
    (ma ca m cb : ℕ) :
    letI := fieldTransc e sq pi
    ((momentBlock s (t.column m) O orders).get d).get4 ma ca 0 cb =
        ((momentBlock s t O orders).get d).get4 ma ca m cb :=
  (momentBlock_slotLinear_right e sq pi s O orders d ma ca).column t m cb

theorem momentBlock_permPrims (O : ℕ → K) (orders : List Comp) (d : ℕ) (s t : Shell K) (σ : ℕ → ℕ)
    (ma ca mb cb : ℕ)
    (hmap : ∀ k < s.nprim, σ k < s.nprim)
    (hinj : ∀ k < s.nprim, ∀ k' < s.nprim, σ k = σ k' → k = k') :
    letI := fieldTransc e sq pi
    ((momentBlock (s.permPrims σ) t O orders).get d).get4 ma ca mb cb =
        ((momentBlock s t O orders).get d).get4 ma ca mb cb :=
  (momentBlock_slotLinear_left e sq pi t O orders d mb cb).permPrims s σ ma ca hmap hinj

theorem momentBlock_permPrims_right (O : ℕ → K) (orders : List Comp) (d : ℕ) (s t : Shell K)
    (σ : ℕ → ℕ) (ma ca mb cb : ℕ)
    (hmap : ∀ k < t.nprim, σ k < t.nprim)
    (hinj : ∀ k < t.nprim, ∀ k' < t.nprim, σ k = σ k' → k = k') :
    letI := fieldTransc e sq pi
    ((momentBlock s (t.permPrims σ) O orders).get d).get4 ma ca mb cb =
        ((momentBlock s t O orders).get d).get4 ma ca mb cb :=
  (momentBlock_slotLinear_right e sq pi s O orders d ma ca).permPrims t σ mb cb hmap hinj

theorem momentBlock_splitPrim (O : ℕ → K) (orders : List Comp) (d : ℕ) (s t : Shell K) (j : ℕ)
    (x : K) (ma ca mb cb : ℕ)
    (hj : j < s.nprim) :
    letI := fieldTransc e sq pi
    ((momentBlock (s.splitPrim j x) t O orders).get d).get4 ma ca mb cb =
        ((momentBlock s t O orders).get d).get4 ma ca mb cb :=
  (momentBlock_slotLinear_left e sq pi t O orders d mb cb).splitPrim s j x ma ca hj

theorem momentBlock_splitPrim_right (O : ℕ → K) (orders : List Comp) (d : ℕ) (s t : Shell K) (j : ℕ)
    (x : K) (ma ca mb cb : ℕ)
    (hj : j < t.nprim) :
    letI := fieldTransc e sq pi
    ((momentBlock s (t.splitPrim j x) O orders).get d).get4 ma ca mb cb =
        ((momentBlock s t O orders).get d).get4 ma ca mb cb :=
  (momentBlock_slotLinear_right e sq pi s O orders d ma ca).splitPrim t j x mb cb hj

theorem momentBlock_scaleColumn (O : ℕ → K) (orders : List Comp) (d : ℕ) (s t : Shell K) (m : ℕ)
    (x : K) (ma ca mb cb : ℕ) :
    letI := fieldTransc e sq pi
    ((momentBlock (s.scaleColumn m x) t O orders).get d).get4 ma ca mb cb
      = if ma = m then x * ((momentBlock s t O orders).get d).get4 ma ca mb cb
        else ((momentBlock s t O orders).get d).get4 ma ca mb cb :=
  (momentBlock_slotLinear_left e sq pi t O orders d mb cb).scaleColumn s m x ma ca

theorem momentBlock_scaleColumn_right (O : ℕ → K) (orders : List Comp) (d : ℕ) (s t : Shell K)
    (m : ℕ) (x : K) (ma ca mb cb : ℕ) :
    letI := fieldTransc e sq pi
    ((momentBlock s (t.scaleColumn m x) O orders).get d).get4 ma ca mb cb
      = if mb = m then x * ((momentBlock s t O orders).get d).get4 ma ca mb cb
        else ((momentBlock s t O orders).get d).get4 ma ca mb cb :=
  (momentBlock_slotLinear_right e sq pi s O orders d ma ca).scaleColumn t m x mb cb

theorem pointChargeBlock_column (boys : K → ℕ → Tab K) (Cpt : ℕ → K) (q : K) (s t : Shell K)
    (m ca mb cb : ℕ)
    (ha : s.degOK ca) (hb : t.degOK cb) :
    letI := fieldTransc e sq pi
    (pointChargeBlock boys (s.column m) t Cpt q).get4 0 ca mb cb =
        (pointChargeBlock boys s t Cpt q).get4 m ca mb cb :=
  (pointChargeBlock_slotLinear_left e sq pi boys t Cpt q mb cb hb).column s m ca ha ha

theorem pointChargeBlock_column_right (boys : K → ℕ → Tab K) (Cpt : ℕ → K) (q : K) (s t : Shell K)
    (ma ca m cb : ℕ)
    (ha : s.degOK ca) (hb : t.degOK cb) :
    letI := fieldTransc e sq pi
    (pointChargeBlock boys s (t.column m) Cpt q).get4 ma ca 0 cb =
        (pointChargeBlock boys s t Cpt q).get4 ma ca m cb :=
  (pointChargeBlock_slotLinear_right e sq pi boys s Cpt q ma ca ha).column t m cb hb hb

theorem pointChargeBlock_permPrims (boys : K → ℕ → Tab K) (Cpt : ℕ → K) (q : K) (s t : Shell K)
    (σ : ℕ → ℕ) (ma ca mb cb : ℕ)
    (hmap : ∀ k < s.nprim, σ k < s.nprim)
    (hinj : ∀ k < s.nprim, ∀ k' < s.nprim, σ k = σ k' → k = k')
    (ha : s.degOK ca) (hb : t.degOK cb) :
    letI := fieldTransc e sq pi
    (pointChargeBlock boys (s.permPrims σ) t Cpt q).get4 ma ca mb cb =
        (pointChargeBlock boys s t Cpt q).get4 ma ca mb cb :=
  (pointChargeBlock_slotLinear_left e sq pi boys t Cpt q mb cb hb).permPrims s σ ma ca ha ha hmap
      hinj

theorem pointChargeBlock_permPrims_right (boys : K → ℕ → Tab K) (Cpt : ℕ → K) (q : K)
    (s t : Shell K) (σ : ℕ → ℕ) (ma ca mb cb : ℕ)
    (hmap : ∀ k < t.nprim, σ k < t.nprim)
    (hinj : ∀ k < t.nprim, ∀ k' < t.nprim, σ k = σ k' → k = k')
    (ha : s.degOK ca) (hb : t.degOK cb) :
    letI := fieldTransc e sq pi
    (pointChargeBlock boys s (t.permPrims σ) Cpt q).get4 ma ca mb cb =
        (pointChargeBlock boys s t Cpt q).get4 ma ca mb cb :=
  (pointChargeBlock_slotLinear_right e sq pi boys s Cpt q ma ca ha).permPrims t σ mb cb hb hb hmap
      hinj

theorem pointChargeBlock_splitPrim (boys : K → ℕ → Tab K) (Cpt : ℕ → K) (q : K) (s t : Shell K)
    (j : ℕ) (x : K) (ma ca mb cb : ℕ)
    (hj : j < s.nprim)
    (ha : s.degOK ca) (hb : t.degOK cb) :
    letI := fieldTransc e sq pi
    (pointChargeBlock boys (s.splitPrim j x) t Cpt q).get4 ma ca mb cb =
        (pointChargeBlock boys s t Cpt q).get4 ma ca mb cb :=
  (pointChargeBlock_slotLinear_left e sq pi boys t Cpt q mb cb hb).splitPrim s j x ma ca ha ha hj

theorem pointChargeBlock_splitPrim_right (boys : K → ℕ → Tab K) (Cpt : ℕ → K) (q : K)
    (s t : Shell K) (j : ℕ) (x : K) (ma ca mb cb : ℕ)
    (hj : j < t.nprim)
    (ha : s.degOK ca) (hb : t.degOK cb) :
    letI := fieldTransc e sq pi
    (pointChargeBlock boys s (t.splitPrim j x) Cpt q).get4 ma ca mb cb =
        (pointChargeBlock boys s t Cpt q).get4 ma ca mb cb :=
  (pointChargeBlock_slotLinear_right e sq pi boys s Cpt q ma ca ha).splitPrim t j x mb cb hb hb hj

theorem pointChargeBlock_scaleColumn (boys : K → ℕ → Tab K) (Cpt : ℕ → K) (q : K) (s t : Shell K)
    (m : ℕ) (x : K) (ma ca mb cb : ℕ)
    (ha : s.degOK ca) (hb : t.degOK cb) :
    letI := fieldTransc e sq pi
    (pointChargeBlock boys (s.scaleColumn m x) t Cpt q).get4 ma ca mb cb
      = if ma = m then x * (pointChargeBlock boys s t Cpt q).get4 ma ca mb cb
        else (pointChargeBlock boys s t Cpt q).get4 ma ca mb cb :=
  (pointChargeBlock_slotLinear_left e sq pi boys t Cpt q mb cb hb).scaleColumn s m x ma ca ha ha

theorem pointChargeBlock_scaleColumn_right (boys : K → ℕ → Tab K) (Cpt : ℕ → K) (q : K)
    (s t : Shell K) (m : ℕ) (x : K) (ma ca mb cb : ℕ)
    (ha : s.degOK ca) (hb : t.degOK cb) :
    letI := fieldTransc e sq pi
    (pointChargeBlock boys s (t.scaleColumn m x) Cpt q).get4 ma ca mb cb
      = if mb = m then x * (pointChargeBlock boys s t Cpt q).get4 ma ca mb cb
        else (pointChargeBlock boys s t Cpt q).get4 ma ca mb cb :=
  (pointChargeBlock_slotLinear_right e sq pi boys s Cpt q ma ca ha).scaleColumn t m x mb cb hb hb

theorem momentumBlock_column (axis : ℕ) (s t : Shell K) (m ca mb cb : ℕ) :
    letI := fieldTransc e sq pi
    ((momentumBlock (s.column m) t).get axis).get4 0 ca mb cb = ((momentumBlock s t).get axis).get4
        m ca mb cb :=
  (momentumBlock_slotLinear_left e sq pi t axis mb cb).column s m ca

theorem momentumBlock_column_right (axis : ℕ) (s t : Shell K) (ma ca m cb : ℕ) :
    letI := fieldTransc e sq pi
    ((momentumBlock s (t.column m)).get axis).get4 ma ca 0 cb = ((momentumBlock s t).get axis).get4
        ma ca m cb :=
  (momentumBlock_slotLinear_right e sq pi s axis ma ca).column t m cb

theorem momentumBlock_permPrims (axis : ℕ) (s t : Shell K) (σ : ℕ → ℕ) (ma ca mb cb : ℕ)
    (hmap : ∀ k < s.nprim, σ k < s.nprim)
    (hinj : ∀ k < s.nprim, ∀ k' < s.nprim, σ k = σ k' → k = k') :
    letI := fieldTransc e sq pi
    ((momentumBlock (s.permPrims σ) t).get axis).get4 ma ca mb cb =
        ((momentumBlock s t).get axis).get4 ma ca mb cb :=
  (momentumBlock_slotLinear_left e sq pi t axis mb cb).permPrims s σ ma ca hmap hinj

theorem momentumBlock_permPrims_right (axis : ℕ) (s t : Shell K) (σ : ℕ → ℕ) (ma ca mb cb : ℕ)
    (hmap : ∀ k < t.nprim, σ k < t.nprim)
    (hinj : ∀ k < t.nprim, ∀ k' < t.nprim, σ k = σ k' → k = k') :
    letI := fieldTransc e sq pi
    ((momentumBlock s (t.permPrims σ)).get axis).get4 ma ca mb cb =
        ((momentumBlock s t).get axis).get4 ma ca mb cb :=
  (momentumBlock_slotLinear_right e sq pi s axis ma ca).permPrims t σ mb cb hmap hinj

theorem momentumBlock_splitPrim (axis : ℕ) (s t : Shell K) (j : ℕ) (x : K) (ma ca mb cb : ℕ)
    (hj : j < s.nprim) :
    letI := fieldTransc e sq pi
    ((momentumBlock (s.splitPrim j x) t).get axis).get4 ma ca mb cb =
        ((momentumBlock s t).get axis).get4 ma ca mb cb :=
  (momentumBlock_slotLinear_left e sq pi t axis mb cb).splitPrim s j x ma ca hj

theorem momentumBlock_splitPrim_right (axis : ℕ) (s t : Shell K) (j : ℕ) (x : K) (ma ca mb cb : ℕ)
    (hj : j < t.nprim) :
    letI := fieldTransc e sq pi
    ((momentumBlock s (t.splitPrim j x)).get axis).get4 ma ca mb cb =
        ((momentumBlock s t).get axis).get4 ma ca mb cb :=
  (momentumBlock_slotLinear_right e sq pi s axis ma ca).splitPrim t j x mb cb hj

theorem momentumBlock_scaleColumn (axis : ℕ) (s t : Shell K) (m : ℕ) (x : K) (ma ca mb cb : ℕ) :
    letI := fieldTransc e sq pi
    ((momentumBlock (s.scaleColumn m x) t).get axis).get4 ma ca mb cb
      = if ma = m then x * ((momentumBlock s t).get axis).get4 ma ca mb cb
        else ((momentumBlock s t).get axis).get4 ma ca mb cb :=
  (momentumBlock_slotLinear_left e sq pi t axis mb cb).scaleColumn s m x ma ca

theorem momentumBlock_scaleColumn_right (axis : ℕ) (s t : Shell K) (m : ℕ) (x : K) (ma ca mb cb : ℕ)
    :
    letI := fieldTransc e sq pi
    ((momentumBlock s (t.scaleColumn m x)).get axis).get4 ma ca mb cb
      = if mb = m then x * ((momentumBlock s t).get axis).get4 ma ca mb cb
        else ((momentumBlock s t).get axis).get4 ma ca mb cb :=
  (momentumBlock_slotLinear_right e sq pi s axis ma ca).scaleColumn t m x mb cb

theorem angmomBlock_column (axis : ℕ) (s t : Shell K) (m ca mb cb : ℕ) :
    letI := fieldTransc e sq pi
    ((angmomBlock (s.column m) t).get axis).get4 0 ca mb cb = ((angmomBlock s t).get axis).get4 m ca
        mb cb :=
  (angmomBlock_slotLinear_left e sq pi t axis mb cb).column s m ca

theorem angmomBlock_column_right (axis : ℕ) (s t : Shell K) (ma ca m cb : ℕ) :
    letI := fieldTransc e sq pi
    ((angmomBlock s (t.column m)).get axis).get4 ma ca 0 cb = ((angmomBlock s t).get axis).get4 ma
        ca m cb :=
  (angmomBlock_slotLinear_right e sq pi s axis ma ca).column t m cb

theorem angmomBlock_permPrims (axis : ℕ) (s t : Shell K) (σ : ℕ → ℕ) (ma ca mb cb : ℕ)
    (hmap : ∀ k < s.nprim, σ k < s.nprim)
    (hinj : ∀ k < s.nprim, ∀ k' < s.nprim, σ k = σ k' → k = k') :
    letI := fieldTransc e sq pi
    ((angmomBlock (s.permPrims σ) t).get axis).get4 ma ca mb cb = ((angmomBlock s t).get axis).get4
        ma ca mb cb :=
  (angmomBlock_slotLinear_left e sq pi t axis mb cb).permPrims s σ ma ca hmap hinj

theorem angmomBlock_permPrims_right (axis : ℕ) (s t : Shell K) (σ : ℕ → ℕ) (ma ca mb cb : ℕ)
    (hmap : ∀ k < t.nprim, σ k < t.nprim)
    (hinj : ∀ k < t.nprim, ∀ k' < t.nprim, σ k = σ k' → k = k') :
    letI := fieldTransc e sq pi
    ((angmomBlock s (t.permPrims σ)).get axis).get4 ma ca mb cb = ((angmomBlock s t).get axis).get4
        ma ca mb cb :=
  (angmomBlock_slotLinear_right e sq pi s axis ma ca).permPrims t σ mb cb hmap hinj

theorem angmomBlock_splitPrim (axis : ℕ) (s t : Shell K) (j : ℕ) (x : K) (ma ca mb cb : ℕ)
    (hj : j < s.nprim) :
    letI := fieldTransc e sq pi
    ((angmomBlock (s.splitPrim j x) t).get axis).get4 ma ca mb cb =
        ((angmomBlock s t).get axis).get4 ma ca mb cb :=
  (angmomBlock_slotLinear_left e sq pi t axis mb cb).splitPrim s j x ma ca hj

theorem angmomBlock_splitPrim_right (axis : ℕ) (s t : Shell K) (j : ℕ) (x : K) (ma ca mb cb : ℕ)
    (hj : j < t.nprim) :
    letI := fieldTransc e sq pi
    ((angmomBlock s (t.splitPrim j x)).get axis).get4 ma ca mb cb =
        ((angmomBlock s t).get axis).get4 ma ca mb cb :=
  (angmomBlock_slotLinear_right e sq pi s axis ma ca).splitPrim t j x mb cb hj

theorem angmomBlock_scaleColumn (axis : ℕ) (s t : Shell K) (m : ℕ) (x : K) (ma ca mb cb : ℕ) :
    letI := fieldTransc e sq pi
    ((angmomBlock (s.scaleColumn m x) t).get axis).get4 ma ca mb cb
      = if ma = m then x * ((angmomBlock s t).get axis).get4 ma ca mb cb
        else ((angmomBlock s t).get axis).get4 ma ca mb cb :=
  (angmomBlock_slotLinear_left e sq pi t axis mb cb).scaleColumn s m x ma ca

theorem angmomBlock_scaleColumn_right (axis : ℕ) (s t : Shell K) (m : ℕ) (x : K) (ma ca mb cb : ℕ) :
    letI := fieldTransc e sq pi
    ((angmomBlock s (t.scaleColumn m x)).get axis).get4 ma ca mb cb
      = if mb = m then x * ((angmomBlock s t).get axis).get4 ma ca mb cb
        else ((angmomBlock s t).get axis).get4 ma ca mb cb :=
  (angmomBlock_slotLinear_right e sq pi s axis ma ca).scaleColumn t m x mb cb


theorem evalBlock_column (be : Backend) (orders : Comp) (pts : Array (ℕ → K)) (p : ℕ) (s : Shell K)
    (m c : ℕ) :
    letI := fieldTransc e sq pi
    (evalBlock (s.column m) be orders pts).get3 0 c p = (evalBlock s be orders pts).get3 m c p :=
  (evalBlock_slotLinear e sq pi be orders pts p).column s m c

theorem evalBlock_permPrims (be : Backend) (orders : Comp) (pts : Array (ℕ → K)) (p : ℕ)
    (s : Shell K) (σ : ℕ → ℕ) (m c : ℕ)
    (hmap : ∀ k < s.nprim, σ k < s.nprim)
    (hinj : ∀ k < s.nprim, ∀ k' < s.nprim, σ k = σ k' → k = k') :
    letI := fieldTransc e sq pi
    (evalBlock (s.permPrims σ) be orders pts).get3 m c p = (evalBlock s be orders pts).get3 m c p :=
  (evalBlock_slotLinear e sq pi be orders pts p).permPrims s σ m c hmap hinj

theorem evalBlock_splitPrim (be : Backend) (orders : Comp) (pts : Array (ℕ → K)) (p : ℕ)
    (s : Shell K) (j : ℕ) (x : K) (m c : ℕ)
    (hj : j < s.nprim) :
    letI := fieldTransc e sq pi
    (evalBlock (s.splitPrim j x) be orders pts).get3 m c p = (evalBlock s be orders pts).get3 m c p
        :=
  (evalBlock_slotLinear e sq pi be orders pts p).splitPrim s j x m c hj

theorem evalBlock_scaleColumn (be : Backend) (orders : Comp) (pts : Array (ℕ → K)) (p : ℕ)
    (s : Shell K) (m : ℕ) (x : K) (m' c : ℕ) :
    letI := fieldTransc e sq pi
    (evalBlock (s.scaleColumn m x) be orders pts).get3 m' c p
      = if m' = m then x * (evalBlock s be orders pts).get3 m' c p else
          (evalBlock s be orders pts).get3 m' c p :=
  (evalBlock_slotLinear e sq pi be orders pts p).scaleColumn s m x m' c


end BlocksField

section BlocksEri
variable {K : Type} [Field K] [CharZero K] (e sq : K → K) (pi : K)

theorem eriBlock_column_a (boys : K → ℕ → Tab K) (sa sb sc sd : Shell K)
    (m ca mb cb mc cc md cd : ℕ)
    (h : EriOK e sq pi sa sb sc sd ca cb cc cd) :
    letI := fieldTransc e sq pi
    (eriBlock boys (sa.column m) sb sc sd).get8 0 ca mb cb mc cc md cd
      = (eriBlock boys sa sb sc sd).get8 m ca mb cb mc cc md cd :=
  (eriBlock_slotLinear_a e sq pi boys sb sc sd mb cb mc cc md cd).column sa m ca h
    (h.mono_a (column_expsIn e sq pi sa m) h.da)

theorem eriBlock_permPrims_a (boys : K → ℕ → Tab K) (sa sb sc sd : Shell K) (σ : ℕ → ℕ)
    (ma ca mb cb mc cc md cd : ℕ) (h : EriOK e sq pi sa sb sc sd ca cb cc cd)
    (hmap : ∀ k < sa.nprim, σ k < sa.nprim)
    (hinj : ∀ k < sa.nprim, ∀ k' < sa.nprim, σ k = σ k' → k = k') :
    letI := fieldTransc e sq pi
    (eriBlock boys (sa.permPrims σ) sb sc sd).get8 ma ca mb cb mc cc md cd
      = (eriBlock boys sa sb sc sd).get8 ma ca mb cb mc cc md cd :=
  (eriBlock_slotLinear_a e sq pi boys sb sc sd mb cb mc cc md cd).permPrims sa σ ma ca h
    (h.mono_a (permPrims_expsIn e sq pi sa σ hmap) h.da) hmap hinj

theorem eriBlock_splitPrim_a (boys : K → ℕ → Tab K) (sa sb sc sd : Shell K) (j : ℕ) (x : K)
    (ma ca mb cb mc cc md cd : ℕ) (h : EriOK e sq pi sa sb sc sd ca cb cc cd) (hj : j < sa.nprim) :
    letI := fieldTransc e sq pi
    (eriBlock boys (sa.splitPrim j x) sb sc sd).get8 ma ca mb cb mc cc md cd
      = (eriBlock boys sa sb sc sd).get8 ma ca mb cb mc cc md cd :=
  (eriBlock_slotLinear_a e sq pi boys sb sc sd mb cb mc cc md cd).splitPrim sa j x ma ca h
    (h.mono_a (splitPrim_expsIn e sq pi sa j x hj) h.da) hj

theorem eriBlock_scaleColumn_a (boys : K → ℕ → Tab K) (sa sb sc sd : Shell K) (m : ℕ) (x : K)
    (ma ca mb cb mc cc md cd : ℕ) (h : EriOK e sq pi sa sb sc sd ca cb cc cd) :
    letI := fieldTransc e sq pi
    (eriBlock boys (sa.scaleColumn m x) sb sc sd).get8 ma ca mb cb mc cc md cd
      = if ma = m then x * (eriBlock boys sa sb sc sd).get8 ma ca mb cb mc cc md cd
        else (eriBlock boys sa sb sc sd).get8 ma ca mb cb mc cc md cd :=
  (eriBlock_slotLinear_a e sq pi boys sb sc sd mb cb mc cc md cd).scaleColumn sa m x ma ca h
    (h.mono_a (scaleColumn_expsIn e sq pi sa m x) h.da)

theorem eriBlock_column_b (boys : K → ℕ → Tab K) (sa sb sc sd : Shell K)
    (m ma ca cb mc cc md cd : ℕ)
    (h : EriOK e sq pi sa sb sc sd ca cb cc cd) :
    letI := fieldTransc e sq pi
    (eriBlock boys sa (sb.column m) sc sd).get8 ma ca 0 cb mc cc md cd
      = (eriBlock boys sa sb sc sd).get8 ma ca m cb mc cc md cd :=
  (eriBlock_slotLinear_b e sq pi boys sa sc sd ma ca mc cc md cd).column sb m cb h
    (h.mono_b (column_expsIn e sq pi sb m) h.db)

theorem eriBlock_permPrims_b (boys : K → ℕ → Tab K) (sa sb sc sd : Shell K) (σ : ℕ → ℕ)
    (ma ca mb cb mc cc md cd : ℕ) (h : EriOK e sq pi sa sb sc sd ca cb cc cd)
    (hmap : ∀ k < sb.nprim, σ k < sb.nprim)
    (hinj : ∀ k < sb.nprim, ∀ k' < sb.nprim, σ k = σ k' → k = k') :
    letI := fieldTransc e sq pi
    (eriBlock boys sa (sb.permPrims σ) sc sd).get8 ma ca mb cb mc cc md cd
      = (eriBlock boys sa sb sc sd).get8 ma ca mb cb mc cc md cd :=
  (eriBlock_slotLinear_b e sq pi boys sa sc sd ma ca mc cc md cd).permPrims sb σ mb cb h
    (h.mono_b (permPrims_expsIn e sq pi sb σ hmap) h.db) hmap hinj

theorem eriBlock_splitPrim_b (boys : K → ℕ → Tab K) (sa sb sc sd : Shell K) (j : ℕ) (x : K)
    (ma ca mb cb mc cc md cd : ℕ) (h : EriOK e sq pi sa sb sc sd ca cb cc cd) (hj : j < sb.nprim) :
    letI := fieldTransc e sq pi
    (eriBlock boys sa (sb.splitPrim j x) sc sd).get8 ma ca mb cb mc cc md cd
      = (eriBlock boys sa sb sc sd).get8 ma ca mb cb mc cc md cd :=
  (eriBlock_slotLinear_b e sq pi boys sa sc sd ma ca mc cc md cd).splitPrim sb j x mb cb h
    (h.mono_b (splitPrim_expsIn e sq pi sb j x hj) h.db) hj

theorem eriBlock_scaleColumn_b (boys : K → ℕ → Tab K) (sa sb sc sd : Shell K) (m : ℕ) (x : K)
    (ma ca mb cb mc cc md cd : ℕ) (h : EriOK e sq pi sa sb sc sd ca cb cc cd) :
    letI := fieldTransc e sq pi
    (eriBlock boys sa (sb.scaleColumn m x) sc sd).get8 ma ca mb cb mc cc md cd
      = if mb = m then x * (eriBlock boys sa sb sc sd).get8 ma ca mb cb mc cc md cd
        else (eriBlock boys sa sb sc sd).get8 ma ca mb cb mc cc md cd :=
  (eriBlock_slotLinear_b e sq pi boys sa sc sd ma ca mc cc md cd).scaleColumn sb m x mb cb h
    (h.mono_b (scaleColumn_expsIn e sq pi sb m x) h.db)

theorem eriBlock_column_c (boys : K → ℕ → Tab K) (sa sb sc sd : Shell K)
    (m ma ca mb cb cc md cd : ℕ)
    (h : EriOK e sq pi sa sb sc sd ca cb cc cd) :
    letI := fieldTransc e sq pi
    (eriBlock boys sa sb (sc.column m) sd).get8 ma ca mb cb 0 cc md cd
      = (eriBlock boys sa sb sc sd).get8 ma ca mb cb m cc md cd :=
  (eriBlock_slotLinear_c e sq pi boys sa sb sd ma ca mb cb md cd).column sc m cc h
    (h.mono_c (column_expsIn e sq pi sc m) h.dc)

theorem eriBlock_permPrims_c (boys : K → ℕ → Tab K) (sa sb sc sd : Shell K) (σ : ℕ → ℕ)
    (ma ca mb cb mc cc md cd : ℕ) (h : EriOK e sq pi sa sb sc sd ca cb cc cd)
    (hmap : ∀ k < sc.nprim, σ k < sc.nprim)
    (hinj : ∀ k < sc.nprim, ∀ k' < sc.nprim, σ k = σ k' → k = k') :
    letI := fieldTransc e sq pi
    (eriBlock boys sa sb (sc.permPrims σ) sd).get8 ma ca mb cb mc cc md cd
      = (eriBlock boys sa sb sc sd).get8 ma ca mb cb mc cc md cd :=
  (eriBlock_slotLinear_c e sq pi boys sa sb sd ma ca mb cb md cd).permPrims sc σ mc cc h
    (h.mono_c (permPrims_expsIn e sq pi sc σ hmap) h.dc) hmap hinj

theorem eriBlock_splitPrim_c (boys : K → ℕ → Tab K) (sa sb sc sd : Shell K) (j : ℕ) (x : K)
    (ma ca mb cb mc cc md cd : ℕ) (h : EriOK e sq pi sa sb sc sd ca cb cc cd) (hj : j < sc.nprim) :
    letI := fieldTransc e sq pi
    (eriBlock boys sa sb (sc.splitPrim j x) sd).get8 ma ca mb cb mc cc md cd
      = (eriBlock boys sa sb sc sd).get8 ma ca mb cb mc cc md cd :=
  (eriBlock_slotLinear_c e sq pi boys sa sb sd ma ca mb cb md cd).splitPrim sc j x mc cc h
    (h.mono_c (splitPrim_expsIn e sq pi sc j x hj) h.dc) hj

theorem eriBlock_scaleColumn_c (boys : K → ℕ → Tab K) (sa sb sc sd : Shell K) (m : ℕ) (x : K)
    (ma ca mb cb mc cc md cd : ℕ) (h : EriOK e sq pi sa sb sc sd ca cb cc cd) :
    letI := fieldTransc e sq pi
    (eriBlock boys sa sb (sc.scaleColumn m x) sd).get8 ma ca mb cb mc cc md cd
      = if mc = m then x * (eriBlock boys sa sb sc sd).get8 ma ca mb cb mc cc md cd
        else (eriBlock boys sa sb sc sd).get8 ma ca mb cb mc cc md cd :=
  (eriBlock_slotLinear_c e sq pi boys sa sb sd ma ca mb cb md cd).scaleColumn sc m x mc cc h
    (h.mono_c (scaleColumn_expsIn e sq pi sc m x) h.dc)

theorem eriBlock_column_d (boys : K → ℕ → Tab K) (sa sb sc sd : Shell K)
    (m ma ca mb cb mc cc cd : ℕ)
    (h : EriOK e sq pi sa sb sc sd ca cb cc cd) :
    letI := fieldTransc e sq pi
    (eriBlock boys sa sb sc (sd.column m)).get8 ma ca mb cb mc cc 0 cd
      = (eriBlock boys sa sb sc sd).get8 ma ca mb cb mc cc m cd :=
  (eriBlock_slotLinear_d e sq pi boys sa sb sc ma ca mb cb mc cc).column sd m cd h
    (h.mono_d (column_expsIn e sq pi sd m) h.dd)

theorem eriBlock_permPrims_d (boys : K → ℕ → Tab K) (sa sb sc sd : Shell K) (σ : ℕ → ℕ)
    (ma ca mb cb mc cc md cd : ℕ) (h : EriOK e sq pi sa sb sc sd ca cb cc cd)
    (hmap : ∀ k < sd.nprim, σ k < sd.nprim)
    (hinj : ∀ k < sd.nprim, ∀ k' < sd.nprim, σ k = σ k' → k = k') :
    letI := fieldTransc e sq pi
    (eriBlock boys sa sb sc (sd.permPrims σ)).get8 ma ca mb cb mc cc md cd
      = (eriBlock boys sa sb sc sd).get8 ma ca mb cb mc cc md cd :=
  (eriBlock_slotLinear_d e sq pi boys sa sb sc ma ca mb cb mc cc).permPrims sd σ md cd h
    (h.mono_d (permPrims_expsIn e sq pi sd σ hmap) h.dd) hmap hinj

theorem eriBlock_splitPrim_d (boys : K → ℕ → Tab K) (sa sb sc sd : Shell K) (j : ℕ) (x : K)
    (ma ca mb cb mc cc md cd : ℕ) (h : EriOK e sq pi sa sb sc sd ca cb cc cd) (hj : j < sd.nprim) :
    letI := fieldTransc e sq pi
    (eriBlock boys sa sb sc (sd.splitPrim j x)).get8 ma ca mb cb mc cc md cd
      = (eriBlock boys sa sb sc sd).get8 ma ca mb cb mc cc md cd :=
  (eriBlock_slotLinear_d e sq pi boys sa sb sc ma ca mb cb mc cc).splitPrim sd j x md cd h
    (h.mono_d (splitPrim_expsIn e sq pi sd j x hj) h.dd) hj

theorem eriBlock_scaleColumn_d (boys : K → ℕ → Tab K) (sa sb sc sd : Shell K) (m : ℕ) (x : K)
    (ma ca mb cb mc cc md cd : ℕ) (h : EriOK e sq pi sa sb sc sd ca cb cc cd) :
    letI := fieldTransc e sq pi
    (eriBlock boys sa sb sc (sd.scaleColumn m x)).get8 ma ca mb cb mc cc md cd
      = if md = m then x * (eriBlock boys sa sb sc sd).get8 ma ca mb cb mc cc md cd
        else (eriBlock boys sa sb sc sd).get8 ma ca mb cb mc cc md cd :=
  (eriBlock_slotLinear_d e sq pi boys sa sb sc ma ca mb cb mc cc).scaleColumn sd m x md cd h
    (h.mono_d (scaleColumn_expsIn e sq pi sd m x) h.dd)


end BlocksEri

section BlocksReal

theorem overlapBlock_normalised_scaleColumn_pos (s t : Shell ℝ) (m : ℕ) (x : ℝ) (ca mb cb : ℕ)
    (hn : s.unitNorm = true) (hx : 0 < x) (hov : 0 < (overlapBlock s s).get4 m ca m ca) :
    (overlapBlock (s.scaleColumn m x) t).get4 m ca mb cb * (normCont (s.scaleColumn m x)).get2 m ca
        * (normCont t).get2 mb cb
      = (overlapBlock s t).get4 m ca mb cb * (normCont s).get2 m ca
        * (normCont t).get2 mb cb :=
  congrArg (fun z => z * (normCont t).get2 mb cb)
    ((overlapBlock_slotLinear_left Real.exp Real.sqrt Real.pi t mb cb).normalised_scaleColumn_pos s m x ca hn hx hov)

theorem overlapBlock_normalised_scaleColumn_neg (s t : Shell ℝ) (m : ℕ) (x : ℝ) (ca mb cb : ℕ)
    (hn : s.unitNorm = true) (hx : x < 0) (hov : 0 < (overlapBlock s s).get4 m ca m ca) :
    (overlapBlock (s.scaleColumn m x) t).get4 m ca mb cb * (normCont (s.scaleColumn m x)).get2 m ca
        * (normCont t).get2 mb cb
      = -((overlapBlock s t).get4 m ca mb cb * (normCont s).get2 m ca
        * (normCont t).get2 mb cb) :=
  (congrArg (fun z => z * (normCont t).get2 mb cb)
    ((overlapBlock_slotLinear_left Real.exp Real.sqrt Real.pi t mb cb).normalised_scaleColumn_neg s m x ca hn hx hov)).trans (neg_mul _ _)

theorem overlapBlock_normalised_scaleColumn_other (s t : Shell ℝ) (m : ℕ) (x : ℝ) (ma ca mb cb : ℕ)
    (hm : ma ≠ m) :
    (overlapBlock (s.scaleColumn m x) t).get4 ma ca mb cb * (normCont (s.scaleColumn m x)).get2 ma
        ca
        * (normCont t).get2 mb cb
      = (overlapBlock s t).get4 ma ca mb cb * (normCont s).get2 ma ca
        * (normCont t).get2 mb cb :=
  congrArg (fun z => z * (normCont t).get2 mb cb)
    ((overlapBlock_slotLinear_left Real.exp Real.sqrt Real.pi t mb cb).normalised_scaleColumn_other s m x ma ca hm)

theorem overlapBlock_normalised_scaleColumn_pos_right (s t : Shell ℝ) (m : ℕ) (x : ℝ) (ma ca cb : ℕ)
    (hn : t.unitNorm = true) (hx : 0 < x) (hov : 0 < (overlapBlock t t).get4 m cb m cb) :
    (overlapBlock s (t.scaleColumn m x)).get4 ma ca m cb * (normCont s).get2 ma ca
        * (normCont (t.scaleColumn m x)).get2 m cb
      = (overlapBlock s t).get4 ma ca m cb * (normCont s).get2 ma ca
        * (normCont t).get2 m cb :=
  ((overlapBlock_slotLinear_right Real.exp Real.sqrt Real.pi s ma ca).mul_const
    ((normCont s).get2 ma ca)).normalised_scaleColumn_pos t m x cb hn hx hov

theorem overlapBlock_normalised_scaleColumn_neg_right (s t : Shell ℝ) (m : ℕ) (x : ℝ) (ma ca cb : ℕ)
    (hn : t.unitNorm = true) (hx : x < 0) (hov : 0 < (overlapBlock t t).get4 m cb m cb) :
    (overlapBlock s (t.scaleColumn m x)).get4 ma ca m cb * (normCont s).get2 ma ca
        * (normCont (t.scaleColumn m x)).get2 m cb
      = -((overlapBlock s t).get4 ma ca m cb * (normCont s).get2 ma ca
        * (normCont t).get2 m cb) :=
  ((overlapBlock_slotLinear_right Real.exp Real.sqrt Real.pi s ma ca).mul_const
    ((normCont s).get2 ma ca)).normalised_scaleColumn_neg t m x cb hn hx hov

theorem overlapBlock_normalised_scaleColumn_other_right (s t : Shell ℝ) (m : ℕ) (x : ℝ)
    (ma ca mb cb : ℕ)
    (hm : mb ≠ m) :
    (overlapBlock s (t.scaleColumn m x)).get4 ma ca mb cb * (normCont s).get2 ma ca
        * (normCont (t.scaleColumn m x)).get2 mb cb
      = (overlapBlock s t).get4 ma ca mb cb * (normCont s).get2 ma ca
        * (normCont t).get2 mb cb :=
  ((overlapBlock_slotLinear_right Real.exp Real.sqrt Real.pi s ma ca).mul_const
    ((normCont s).get2 ma ca)).normalised_scaleColumn_other t m x mb cb hm

theorem kineticBlock_normalised_scaleColumn_pos (s t : Shell ℝ) (m : ℕ) (x : ℝ) (ca mb cb : ℕ)
    (hn : s.unitNorm = true) (hx : 0 < x) (hov : 0 < (overlapBlock s s).get4 m ca m ca) :
    (kineticBlock (s.scaleColumn m x) t).get4 m ca mb cb * (normCont (s.scaleColumn m x)).get2 m ca
        * (normCont t).get2 mb cb
      = (kineticBlock s t).get4 m ca mb cb * (normCont s).get2 m ca
        * (normCont t).get2 mb cb :=
  congrArg (fun z => z * (normCont t).get2 mb cb)
    ((kineticBlock_slotLinear_left Real.exp Real.sqrt Real.pi t mb cb).normalised_scaleColumn_pos s m x ca hn hx hov)

theorem kineticBlock_normalised_scaleColumn_neg (s t : Shell ℝ) (m : ℕ) (x : ℝ) (ca mb cb : ℕ)
    (hn : s.unitNorm = true) (hx : x < 0) (hov : 0 < (overlapBlock s s).get4 m ca m ca) :
    (kineticBlock (s.scaleColumn m x) t).get4 m ca mb cb * (normCont (s.scaleColumn m x)).get2 m ca
        * (normCont t).get2 mb cb
      = -((kineticBlock s t).get4 m ca mb cb * (normCont s).get2 m ca
        * (normCont t).get2 mb cb) :=
  (congrArg (fun z => z * (normCont t).get2 mb cb)
    ((kineticBlock_slotLinear_left Real.exp Real.sqrt Real.pi t mb cb).normalised_scaleColumn_neg s m x ca hn hx hov)).trans (neg_mul _ _)

theorem kineticBlock_normalised_scaleColumn_other (s t : Shell ℝ) (m : ℕ) (x : ℝ) (ma ca mb cb : ℕ)
    (hm : ma ≠ m) :
    (kineticBlock (s.scaleColumn m x) t).get4 ma ca mb cb * (normCont (s.scaleColumn m x)).get2 ma
        ca
        * (normCont t).get2 mb cb
      = (kineticBlock s t).get4 ma ca mb cb * (normCont s).get2 ma ca
        * (normCont t).get2 mb cb :=
  congrArg (fun z => z * (normCont t).get2 mb cb)
    ((kineticBlock_slotLinear_left Real.exp Real.sqrt Real.pi t mb cb).normalised_scaleColumn_other s m x ma ca hm)

theorem kineticBlock_normalised_scaleColumn_pos_right (s t : Shell ℝ) (m : ℕ) (x : ℝ) (ma ca cb : ℕ)
    (hn : t.unitNorm = true) (hx : 0 < x) (hov : 0 < (overlapBlock t t).get4 m cb m cb) :
    (kineticBlock s (t.scaleColumn m x)).get4 ma ca m cb * (normCont s).get2 ma ca
        * (normCont (t.scaleColumn m x)).get2 m cb
      = (kineticBlock s t).get4 ma ca m cb * (normCont s).get2 ma ca
        * (normCont t).get2 m cb :=
  ((kineticBlock_slotLinear_right Real.exp Real.sqrt Real.pi s ma ca).mul_const
    ((normCont s).get2 ma ca)).normalised_scaleColumn_pos t m x cb hn hx hov

theorem kineticBlock_normalised_scaleColumn_neg_right (s t : Shell ℝ) (m : ℕ) (x : ℝ) (ma ca cb : ℕ)
    (hn : t.unitNorm = true) (hx : x < 0) (hov : 0 < (overlapBlock t t).get4 m cb m cb) :
    (kineticBlock s (t.scaleColumn m x)).get4 ma ca m cb * (normCont s).get2 ma ca
        * (normCont (t.scaleColumn m x)).get2 m cb
      = -((kineticBlock s t).get4 ma ca m cb * (normCont s).get2 ma ca
        * (normCont t).get2 m cb) :=
  ((kineticBlock_slotLinear_right Real.exp Real.sqrt Real.pi s ma ca).mul_const
    ((normCont s).get2 ma ca)).normalised_scaleColumn_neg t m x cb hn hx hov

theorem kineticBlock_normalised_scaleColumn_other_right (s t : Shell ℝ) (m : ℕ) (x : ℝ)
    (ma ca mb cb : ℕ)
    (hm : mb ≠ m) :
    (kineticBlock s (t.scaleColumn m x)).get4 ma ca mb cb * (normCont s).get2 ma ca
        * (normCont (t.scaleColumn m x)).get2 mb cb
      = (kineticBlock s t).get4 ma ca mb cb * (normCont s).get2 ma ca
        * (normCont t).get2 mb cb :=
  ((kineticBlock_slotLinear_right Real.exp Real.sqrt Real.pi s ma ca).mul_const
    ((normCont s).get2 ma ca)).normalised_scaleColumn_other t m x mb cb hm

theorem momentBlock_normalised_scaleColumn_pos (O : ℕ → ℝ) (orders : List Comp) (d : ℕ)
    (s t : Shell ℝ) (m : ℕ) (x : ℝ) (ca mb cb : ℕ)
    (hn : s.unitNorm = true) (hx : 0 < x) (hov : 0 < (overlapBlock s s).get4 m ca m ca) :
    ((momentBlock (s.scaleColumn m x) t O orders).get d).get4 m ca mb cb *
        (normCont (s.scaleColumn m x)).get2 m ca
        * (normCont t).get2 mb cb
      = ((momentBlock s t O orders).get d).get4 m ca mb cb * (normCont s).get2 m ca
        * (normCont t).get2 mb cb :=
  congrArg (fun z => z * (normCont t).get2 mb cb)
    ((momentBlock_slotLinear_left Real.exp Real.sqrt Real.pi t O orders d mb cb).normalised_scaleColumn_pos s m x ca hn hx hov)

theorem momentBlock_normalised_scaleColumn_neg (O : ℕ → ℝ) (orders : List Comp) (d : ℕ)
    (s t : Shell ℝ) (m : ℕ) (x : ℝ) (ca mb cb : ℕ)
    (hn : s.unitNorm = true) (hx : x < 0) (hov : 0 < (overlapBlock s s).get4 m ca m ca) :
    ((momentBlock (s.scaleColumn m x) t O orders).get d).get4 m ca mb cb *
        (normCont (s.scaleColumn m x)).get2 m ca
        * (normCont t).get2 mb cb
      = -(((momentBlock s t O orders).get d).get4 m ca mb cb * (normCont s).get2 m ca
        * (normCont t).get2 mb cb) :=
  (congrArg (fun z => z * (normCont t).get2 mb cb)
    ((momentBlock_slotLinear_left Real.exp Real.sqrt Real.pi t O orders d mb cb).normalised_scaleColumn_neg s m x ca hn hx hov)).trans (neg_mul _ _)

theorem momentBlock_normalised_scaleColumn_other (O : ℕ → ℝ) (orders : List Comp) (d : ℕ)
    (s t : Shell ℝ) (m : ℕ) (x : ℝ) (ma ca mb cb : ℕ)
    (hm : ma ≠ m) :
    ((momentBlock (s.scaleColumn m x) t O orders).get d).get4 ma ca mb cb *
        (normCont (s.scaleColumn m x)).get2 ma ca
        * (normCont t).get2 mb cb
      = ((momentBlock s t O orders).get d).get4 ma ca mb cb * (normCont s).get2 ma ca
        * (normCont t).get2 mb cb :=
  congrArg (fun z => z * (normCont t).get2 mb cb)
    ((momentBlock_slotLinear_left Real.exp Real.sqrt Real.pi t O orders d mb cb).normalised_scaleColumn_other s m x ma ca hm)

theorem momentBlock_normalised_scaleColumn_pos_right (O : ℕ → ℝ) (orders : List Comp) (d : ℕ)
    (s t : Shell ℝ) (m : ℕ) (x : ℝ) (ma ca cb : ℕ)
    (hn : t.unitNorm = true) (hx : 0 < x) (hov : 0 < (overlapBlock t t).get4 m cb m cb) :
    ((momentBlock s (t.scaleColumn m x) O orders).get d).get4 ma ca m cb * (normCont s).get2 ma ca
        * (normCont (t.scaleColumn m x)).get2 m cb
      = ((momentBlock s t O orders).get d).get4 ma ca m cb * (normCont s).get2 ma ca
        * (normCont t).get2 m cb :=
  ((momentBlock_slotLinear_right Real.exp Real.sqrt Real.pi s O orders d ma ca).mul_const
    ((normCont s).get2 ma ca)).normalised_scaleColumn_pos t m x cb hn hx hov

theorem momentBlock_normalised_scaleColumn_neg_right (O : ℕ → ℝ) (orders : List Comp) (d : ℕ)
    (s t : Shell ℝ) (m : ℕ) (x : ℝ) (ma ca cb : ℕ)
    (hn : t.unitNorm = true) (hx : x < 0) (hov : 0 < (overlapBlock t t).get4 m cb m cb) :
    ((momentBlock s (t.scaleColumn m x) O orders).get d).get4 ma ca m cb * (normCont s).get2 ma ca
        * (normCont (t.scaleColumn m x)).get2 m cb
      = -(((momentBlock s t O orders).get d).get4 ma ca m cb * (normCont s).get2 ma ca
        * (normCont t).get2 m cb) :=
  ((momentBlock_slotLinear_right Real.exp Real.sqrt Real.pi s O orders d ma ca).mul_const
    ((normCont s).get2 ma ca)).normalised_scaleColumn_neg t m x cb hn hx hov

theorem momentBlock_normalised_scaleColumn_other_right (O : ℕ → ℝ) (orders : List Comp) (d : ℕ)
    (s t : Shell ℝ) (m : ℕ) (x : ℝ) (ma ca mb cb : ℕ)
    (hm : mb ≠ m) :
    ((momentBlock s (t.scaleColumn m x) O orders).get d).get4 ma ca mb cb * (normCont s).get2 ma ca
        * (normCont (t.scaleColumn m x)).get2 mb cb
      = ((momentBlock s t O orders).get d).get4 ma ca mb cb * (normCont s).get2 ma ca
        * (normCont t).get2 mb cb :=
  ((momentBlock_slotLinear_right Real.exp Real.sqrt Real.pi s O orders d ma ca).mul_const
    ((normCont s).get2 ma ca)).normalised_scaleColumn_other t m x mb cb hm

theorem pointChargeBlock_normalised_scaleColumn_pos (boys : ℝ → ℕ → Tab ℝ) (Cpt : ℕ → ℝ) (q : ℝ)
    (s t : Shell ℝ) (m : ℕ) (x : ℝ) (ca mb cb : ℕ)
    (ha : s.degOK ca) (hb : t.degOK cb)
    (hn : s.unitNorm = true) (hx : 0 < x) (hov : 0 < (overlapBlock s s).get4 m ca m ca) :
    (pointChargeBlock boys (s.scaleColumn m x) t Cpt q).get4 m ca mb cb *
        (normCont (s.scaleColumn m x)).get2 m ca
        * (normCont t).get2 mb cb
      = (pointChargeBlock boys s t Cpt q).get4 m ca mb cb * (normCont s).get2 m ca
        * (normCont t).get2 mb cb :=
  congrArg (fun z => z * (normCont t).get2 mb cb)
    ((pointChargeBlock_slotLinear_left Real.exp Real.sqrt Real.pi boys t Cpt q mb cb hb).normalised_scaleColumn_pos s m x ca ha ha hn hx hov)

theorem pointChargeBlock_normalised_scaleColumn_neg (boys : ℝ → ℕ → Tab ℝ) (Cpt : ℕ → ℝ) (q : ℝ)
    (s t : Shell ℝ) (m : ℕ) (x : ℝ) (ca mb cb : ℕ)
    (ha : s.degOK ca) (hb : t.degOK cb)
    (hn : s.unitNorm = true) (hx : x < 0) (hov : 0 < (overlapBlock s s).get4 m ca m ca) :
    (pointChargeBlock boys (s.scaleColumn m x) t Cpt q).get4 m ca mb cb *
        (normCont (s.scaleColumn m x)).get2 m ca
        * (normCont t).get2 mb cb
      = -((pointChargeBlock boys s t Cpt q).get4 m ca mb cb * (normCont s).get2 m ca
        * (normCont t).get2 mb cb) :=
  (congrArg (fun z => z * (normCont t).get2 mb cb)
    ((pointChargeBlock_slotLinear_left Real.exp Real.sqrt Real.pi boys t Cpt q mb cb hb).normalised_scaleColumn_neg s m x ca ha ha hn hx hov)).trans (neg_mul _ _)

theorem pointChargeBlock_normalised_scaleColumn_other (boys : ℝ → ℕ → Tab ℝ) (Cpt : ℕ → ℝ) (q : ℝ)
    (s t : Shell ℝ) (m : ℕ) (x : ℝ) (ma ca mb cb : ℕ)
    (ha : s.degOK ca) (hb : t.degOK cb)
    (hm : ma ≠ m) :
    (pointChargeBlock boys (s.scaleColumn m x) t Cpt q).get4 ma ca mb cb *
        (normCont (s.scaleColumn m x)).get2 ma ca
        * (normCont t).get2 mb cb
      = (pointChargeBlock boys s t Cpt q).get4 ma ca mb cb * (normCont s).get2 ma ca
        * (normCont t).get2 mb cb :=
  congrArg (fun z => z * (normCont t).get2 mb cb)
    ((pointChargeBlock_slotLinear_left Real.exp Real.sqrt Real.pi boys t Cpt q mb cb hb).normalised_scaleColumn_other s m x ma ca ha ha hm)

theorem pointChargeBlock_normalised_scaleColumn_pos_right (boys : ℝ → ℕ → Tab ℝ) (Cpt : ℕ → ℝ)
    (q : ℝ) (s t : Shell ℝ) (m : ℕ) (x : ℝ) (ma ca cb : ℕ)
    (ha : s.degOK ca) (hb : t.degOK cb)
    (hn : t.unitNorm = true) (hx : 0 < x) (hov : 0 < (overlapBlock t t).get4 m cb m cb) :
    (pointChargeBlock boys s (t.scaleColumn m x) Cpt q).get4 ma ca m cb * (normCont s).get2 ma ca
        * (normCont (t.scaleColumn m x)).get2 m cb
      = (pointChargeBlock boys s t Cpt q).get4 ma ca m cb * (normCont s).get2 ma ca
        * (normCont t).get2 m cb :=
  ((pointChargeBlock_slotLinear_right Real.exp Real.sqrt Real.pi boys s Cpt q ma ca ha).mul_const
    ((normCont s).get2 ma ca)).normalised_scaleColumn_pos t m x cb hb hb hn hx hov

theorem pointChargeBlock_normalised_scaleColumn_neg_right (boys : ℝ → ℕ → Tab ℝ) (Cpt : ℕ → ℝ)
    (q : ℝ) (s t : Shell ℝ) (m : ℕ) (x : ℝ) (ma ca cb : ℕ)
    (ha : s.degOK ca) (hb : t.degOK cb)
    (hn : t.unitNorm = true) (hx : x < 0) (hov : 0 < (overlapBlock t t).get4 m cb m cb) :
    (pointChargeBlock boys s (t.scaleColumn m x) Cpt q).get4 ma ca m cb * (normCont s).get2 ma ca
        * (normCont (t.scaleColumn m x)).get2 m cb
      = -((pointChargeBlock boys s t Cpt q).get4 ma ca m cb * (normCont s).get2 ma ca
        * (normCont t).get2 m cb) :=
  ((pointChargeBlock_slotLinear_right Real.exp Real.sqrt Real.pi boys s Cpt q ma ca ha).mul_const
    ((normCont s).get2 ma ca)).normalised_scaleColumn_neg t m x cb hb hb hn hx hov

theorem pointChargeBlock_normalised_scaleColumn_other_right (boys : ℝ → ℕ → Tab ℝ) (Cpt : ℕ → ℝ)
    (q : ℝ) (s t : Shell ℝ) (m : ℕ) (x : ℝ) (ma ca mb cb : ℕ)
    (ha : s.degOK ca) (hb : t.degOK cb)
    (hm : mb ≠ m) :
    (pointChargeBlock boys s (t.scaleColumn m x) Cpt q).get4 ma ca mb cb * (normCont s).get2 ma ca
        * (normCont (t.scaleColumn m x)).get2 mb cb
      = (pointChargeBlock boys s t Cpt q).get4 ma ca mb cb * (normCont s).get2 ma ca
        * (normCont t).get2 mb cb :=
  ((pointChargeBlock_slotLinear_right Real.exp Real.sqrt Real.pi boys s Cpt q ma ca ha).mul_const
    ((normCont s).get2 ma ca)).normalised_scaleColumn_other t m x mb cb hb hb hm

theorem momentumBlock_normalised_scaleColumn_pos (axis : ℕ) (s t : Shell ℝ) (m : ℕ) (x : ℝ)
    (ca mb cb : ℕ)
    (hn : s.unitNorm = true) (hx : 0 < x) (hov : 0 < (overlapBlock s s).get4 m ca m ca) :
    ((momentumBlock (s.scaleColumn m x) t).get axis).get4 m ca mb cb *
        (normCont (s.scaleColumn m x)).get2 m ca
        * (normCont t).get2 mb cb
      = ((momentumBlock s t).get axis).get4 m ca mb cb * (normCont s).get2 m ca
        * (normCont t).get2 mb cb :=
  congrArg (fun z => z * (normCont t).get2 mb cb)
    ((momentumBlock_slotLinear_left Real.exp Real.sqrt Real.pi t axis mb cb).normalised_scaleColumn_pos s m x ca hn hx hov)

theorem momentumBlock_normalised_scaleColumn_neg (axis : ℕ) (s t : Shell ℝ) (m : ℕ) (x : ℝ)
    (ca mb cb : ℕ)
    (hn : s.unitNorm = true) (hx : x < 0) (hov : 0 < (overlapBlock s s).get4 m ca m ca) :
    ((momentumBlock (s.scaleColumn m x) t).get axis).get4 m ca mb cb *
        (normCont (s.scaleColumn m x)).get2 m ca
        * (normCont t).get2 mb cb
      = -(((momentumBlock s t).get axis).get4 m ca mb cb * (normCont s).get2 m ca
        * (normCont t).get2 mb cb) :=
  (congrArg (fun z => z * (normCont t).get2 mb cb)
    ((momentumBlock_slotLinear_left Real.exp Real.sqrt Real.pi t axis mb cb).normalised_scaleColumn_neg s m x ca hn hx hov)).trans (neg_mul _ _)

theorem momentumBlock_normalised_scaleColumn_other (axis : ℕ) (s t : Shell ℝ) (m : ℕ) (x : ℝ)
    (ma ca mb cb : ℕ)
    (hm : ma ≠ m) :
    ((momentumBlock (s.scaleColumn m x) t).get axis).get4 ma ca mb cb *
        (normCont (s.scaleColumn m x)).get2 ma ca
        * (normCont t).get2 mb cb
      = ((momentumBlock s t).get axis).get4 ma ca mb cb * (normCont s).get2 ma ca
        * (normCont t).get2 mb cb :=
  congrArg (fun z => z * (normCont t).get2 mb cb)
    ((momentumBlock_slotLinear_left Real.exp Real.sqrt Real.pi t axis mb cb).normalised_scaleColumn_other s m x ma ca hm)

theorem momentumBlock_normalised_scaleColumn_pos_right (axis : ℕ) (s t : Shell ℝ) (m : ℕ) (x : ℝ)
    (ma ca cb : ℕ)
    (hn : t.unitNorm = true) (hx : 0 < x) (hov : 0 < (overlapBlock t t).get4 m cb m cb) :
    ((momentumBlock s (t.scaleColumn m x)).get axis).get4 ma ca m cb * (normCont s).get2 ma ca
        * (normCont (t.scaleColumn m x)).get2 m cb
      = ((momentumBlock s t).get axis).get4 ma ca m cb * (normCont s).get2 ma ca
        * (normCont t).get2 m cb :=
  ((momentumBlock_slotLinear_right Real.exp Real.sqrt Real.pi s axis ma ca).mul_const
    ((normCont s).get2 ma ca)).normalised_scaleColumn_pos t m x cb hn hx hov

theorem momentumBlock_normalised_scaleColumn_neg_right (axis : ℕ) (s t : Shell ℝ) (m : ℕ) (x : ℝ)
    (ma ca cb : ℕ)
    (hn : t.unitNorm = true) (hx : x < 0) (hov : 0 < (overlapBlock t t).get4 m cb m cb) :
    ((momentumBlock s (t.scaleColumn m x)).get axis).get4 ma ca m cb * (normCont s).get2 ma ca
        * (normCont (t.scaleColumn m x)).get2 m cb
      = -(((momentumBlock s t).get axis).get4 ma ca m cb * (normCont s).get2 ma ca
        * (normCont t).get2 m cb) :=
  ((momentumBlock_slotLinear_right Real.exp Real.sqrt Real.pi s axis ma ca).mul_const
    ((normCont s).get2 ma ca)).normalised_scaleColumn_neg t m x cb hn hx hov

theorem momentumBlock_normalised_scaleColumn_other_right (axis : ℕ) (s t : Shell ℝ) (m : ℕ) (x : ℝ)
    (ma ca mb cb : ℕ)
    (hm : mb ≠ m) :
    ((momentumBlock s (t.scaleColumn m x)).get axis).get4 ma ca mb cb * (normCont s).get2 ma ca
        * (normCont (t.scaleColumn m x)).get2 mb cb
      = ((momentumBlock s t).get axis).get4 ma ca mb cb * (normCont s).get2 ma ca
        * (normCont t).get2 mb cb :=
  ((momentumBlock_slotLinear_right Real.exp Real.sqrt Real.pi s axis ma ca).mul_const
    ((normCont s).get2 ma ca)).normalised_scaleColumn_other t m x mb cb hm

theorem angmomBlock_normalised_scaleColumn_pos (axis : ℕ) (s t : Shell ℝ) (m : ℕ) (x : ℝ)
    (ca mb cb : ℕ)
    (hn : s.unitNorm = true) (hx : 0 < x) (hov : 0 < (overlapBlock s s).get4 m ca m ca) :
    ((angmomBlock (s.scaleColumn m x) t).get axis).get4 m ca mb cb *
        (normCont (s.scaleColumn m x)).get2 m ca
        * (normCont t).get2 mb cb
      = ((angmomBlock s t).get axis).get4 m ca mb cb * (normCont s).get2 m ca
        * (normCont t).get2 mb cb :=
  congrArg (fun z => z * (normCont t).get2 mb cb)
    ((angmomBlock_slotLinear_left Real.exp Real.sqrt Real.pi t axis mb cb).normalised_scaleColumn_pos s m x ca hn hx hov)

theorem angmomBlock_normalised_scaleColumn_neg (axis : ℕ) (s t : Shell ℝ) (m : ℕ) (x : ℝ)
    (ca mb cb : ℕ)
    (hn : s.unitNorm = true) (hx : x < 0) (hov : 0 < (overlapBlock s s).get4 m ca m ca) :
    ((angmomBlock (s.scaleColumn m x) t).get axis).get4 m ca mb cb *
        (normCont (s.scaleColumn m x)).get2 m ca
        * (normCont t).get2 mb cb
      = -(((angmomBlock s t).get axis).get4 m ca mb cb * (normCont s).get2 m ca
        * (normCont t).get2 mb cb) :=
  (congrArg (fun z => z * (normCont t).get2 mb cb)
    ((angmomBlock_slotLinear_left Real.exp Real.sqrt Real.pi t axis mb cb).normalised_scaleColumn_neg s m x ca hn hx hov)).trans (neg_mul _ _)

theorem angmomBlock_normalised_scaleColumn_other (axis : ℕ) (s t : Shell ℝ) (m : ℕ) (x : ℝ)
    (ma ca mb cb : ℕ)
    (hm : ma ≠ m) :
    ((angmomBlock (s.scaleColumn m x) t).get axis).get4 ma ca mb cb *
        (normCont (s.scaleColumn m x)).get2 ma ca
        * (normCont t).get2 mb cb
      = ((angmomBlock s t).get axis).get4 ma ca mb cb * (normCont s).get2 ma ca
        * (normCont t).get2 mb cb :=
  congrArg (fun z => z * (normCont t).get2 mb cb)
    ((angmomBlock_slotLinear_left Real.exp Real.sqrt Real.pi t axis mb cb).normalised_scaleColumn_other s m x ma ca hm)

theorem angmomBlock_normalised_scaleColumn_pos_right (axis : ℕ) (s t : Shell ℝ) (m : ℕ) (x : ℝ)
    (ma ca cb : ℕ)
    (hn : t.unitNorm = true) (hx : 0 < x) (hov : 0 < (overlapBlock t t).get4 m cb m cb) :
    ((angmomBlock s (t.scaleColumn m x)).get axis).get4 ma ca m cb * (normCont s).get2 ma ca
        * (normCont (t.scaleColumn m x)).get2 m cb
      = ((angmomBlock s t).get axis).get4 ma ca m cb * (normCont s).get2 ma ca
        * (normCont t).get2 m cb :=
  ((angmomBlock_slotLinear_right Real.exp Real.sqrt Real.pi s axis ma ca).mul_const
    ((normCont s).get2 ma ca)).normalised_scaleColumn_pos t m x cb hn hx hov

theorem angmomBlock_normalised_scaleColumn_neg_right (axis : ℕ) (s t : Shell ℝ) (m : ℕ) (x : ℝ)
    (ma ca cb : ℕ)
    (hn : t.unitNorm = true) (hx : x < 0) (hov : 0 < (overlapBlock t t).get4 m cb m cb) :
    ((angmomBlock s (t.scaleColumn m x)).get axis).get4 ma ca m cb * (normCont s).get2 ma ca
        * (normCont (t.scaleColumn m x)).get2 m cb
      = -(((angmomBlock s t).get axis).get4 ma ca m cb * (normCont s).get2 ma ca
        * (normCont t).get2 m cb) :=
  ((angmomBlock_slotLinear_right Real.exp Real.sqrt Real.pi s axis ma ca).mul_const
    ((normCont s).get2 ma ca)).normalised_scaleColumn_neg t m x cb hn hx hov

theorem angmomBlock_normalised_scaleColumn_other_right (axis : ℕ) (s t : Shell ℝ) (m : ℕ) (x : ℝ)
    (ma ca mb cb : ℕ)
    (hm : mb ≠ m) :
    ((angmomBlock s (t.scaleColumn m x)).get axis).get4 ma ca mb cb * (normCont s).get2 ma ca
        * (normCont (t.scaleColumn m x)).get2 mb cb
      = ((angmomBlock s t).get axis).get4 ma ca mb cb * (normCont s).get2 ma ca
        * (normCont t).get2 mb cb :=
  ((angmomBlock_slotLinear_right Real.exp Real.sqrt Real.pi s axis ma ca).mul_const
    ((normCont s).get2 ma ca)).normalised_scaleColumn_other t m x mb cb hm


theorem evalBlock_normalised_scaleColumn_pos (be : Backend) (orders : Comp) (pts : Array (ℕ → ℝ))
    (p : ℕ) (s : Shell ℝ) (m : ℕ) (x : ℝ) (c : ℕ)
    (hn : s.unitNorm = true) (hx : 0 < x) (hov : 0 < (overlapBlock s s).get4 m c m c) :
    (evalBlock (s.scaleColumn m x) be orders pts).get3 m c p * (normCont (s.scaleColumn m x)).get2 m
        c
      = (evalBlock s be orders pts).get3 m c p * (normCont s).get2 m c :=
  (evalBlock_slotLinear Real.exp Real.sqrt Real.pi be orders pts p).normalised_scaleColumn_pos s m x c hn hx hov

theorem evalBlock_normalised_scaleColumn_neg (be : Backend) (orders : Comp) (pts : Array (ℕ → ℝ))
    (p : ℕ) (s : Shell ℝ) (m : ℕ) (x : ℝ) (c : ℕ)
    (hn : s.unitNorm = true) (hx : x < 0) (hov : 0 < (overlapBlock s s).get4 m c m c) :
    (evalBlock (s.scaleColumn m x) be orders pts).get3 m c p * (normCont (s.scaleColumn m x)).get2 m
        c
      = -((evalBlock s be orders pts).get3 m c p * (normCont s).get2 m c) :=
  (evalBlock_slotLinear Real.exp Real.sqrt Real.pi be orders pts p).normalised_scaleColumn_neg s m x c hn hx hov

theorem evalBlock_normalised_scaleColumn_other (be : Backend) (orders : Comp) (pts : Array (ℕ → ℝ))
    (p : ℕ) (s : Shell ℝ) (m : ℕ) (x : ℝ) (m' c : ℕ)
    (hm : m' ≠ m) :
    (evalBlock (s.scaleColumn m x) be orders pts).get3 m' c p * (normCont (s.scaleColumn m x)).get2
        m' c
      = (evalBlock s be orders pts).get3 m' c p * (normCont s).get2 m' c :=
  (evalBlock_slotLinear Real.exp Real.sqrt Real.pi be orders pts p).normalised_scaleColumn_other s m x m' c hm


theorem EriOK.of_pos (sa sb sc sd : Shell ℝ) (ca cb cc cd : ℕ)
    (ha : ∀ k < sa.nprim, 0 < sa.exp! k) (hb : ∀ k < sb.nprim, 0 < sb.exp! k)
    (hc : ∀ k < sc.nprim, 0 < sc.exp! k) (hd : ∀ k < sd.nprim, 0 < sd.exp! k)
    (da : sa.degOK ca) (db : sb.degOK cb) (dc : sc.degOK cc) (dd : sd.degOK cd) :
    EriOK Real.exp Real.sqrt Real.pi sa sb sc sd ca cb cc cd :=
  ⟨Real.sqrt_one, fun ka kb hka hkb => (add_pos (ha ka hka) (hb kb hkb)).ne',
    fun kc kd hkc hkd => (add_pos (hc kc hkc) (hd kd hkd)).ne',
    fun ka kb kc kd hka hkb hkc hkd =>
      (add_pos (add_pos (ha ka hka) (hb kb hkb)) (add_pos (hc kc hkc) (hd kd hkd))).ne',
    da, db, dc, dd⟩

theorem eriBlock_normalised_scaleColumn_pos_a (boys : ℝ → ℕ → Tab ℝ) (sa sb sc sd : Shell ℝ)
    (m : ℕ) (x : ℝ) (ca mb cb mc cc md cd : ℕ)
        (h : EriOK Real.exp Real.sqrt Real.pi sa sb sc sd ca cb cc cd)
    (hn : sa.unitNorm = true) (hx : 0 < x) (hov : 0 < (overlapBlock sa sa).get4 m ca m ca) :
    (eriBlock boys (sa.scaleColumn m x) sb sc sd).get8 m ca mb cb mc cc md cd
        * ((normCont (sa.scaleColumn m x)).get2 m ca * (normCont sb).get2 mb cb * (normCont sc).get2
            mc cc * (normCont sd).get2 md cd)
      = (eriBlock boys sa sb sc sd).get8 m ca mb cb mc cc md cd
        * ((normCont sa).get2 m ca * (normCont sb).get2 mb cb * (normCont sc).get2 mc cc *
            (normCont sd).get2 md cd) :=
  mul_slot₁ ((eriBlock_slotLinear_a Real.exp Real.sqrt Real.pi boys sb sc sd mb cb mc cc md cd).normalised_scaleColumn_pos
    sa m x ca h (h.mono_a (scaleColumn_expsIn Real.exp Real.sqrt Real.pi sa m x) h.da) hn hx hov)

theorem eriBlock_normalised_scaleColumn_neg_a (boys : ℝ → ℕ → Tab ℝ) (sa sb sc sd : Shell ℝ)
    (m : ℕ) (x : ℝ) (ca mb cb mc cc md cd : ℕ)
        (h : EriOK Real.exp Real.sqrt Real.pi sa sb sc sd ca cb cc cd)
    (hn : sa.unitNorm = true) (hx : x < 0) (hov : 0 < (overlapBlock sa sa).get4 m ca m ca) :
    (eriBlock boys (sa.scaleColumn m x) sb sc sd).get8 m ca mb cb mc cc md cd
        * ((normCont (sa.scaleColumn m x)).get2 m ca * (normCont sb).get2 mb cb * (normCont sc).get2
            mc cc * (normCont sd).get2 md cd)
      = -((eriBlock boys sa sb sc sd).get8 m ca mb cb mc cc md cd
        * ((normCont sa).get2 m ca * (normCont sb).get2 mb cb * (normCont sc).get2 mc cc *
            (normCont sd).get2 md cd)) :=
  (mul_slot₁ (((eriBlock_slotLinear_a Real.exp Real.sqrt Real.pi boys sb sc sd mb cb mc cc md cd).normalised_scaleColumn_neg
    sa m x ca h (h.mono_a (scaleColumn_expsIn Real.exp Real.sqrt Real.pi sa m x) h.da) hn hx hov).trans
    (neg_mul _ _).symm)).trans (neg_mul _ _)

theorem eriBlock_normalised_scaleColumn_other_a (boys : ℝ → ℕ → Tab ℝ) (sa sb sc sd : Shell ℝ)
    (m : ℕ) (x : ℝ) (ma ca mb cb mc cc md cd : ℕ)
        (h : EriOK Real.exp Real.sqrt Real.pi sa sb sc sd ca cb cc cd)
    (hm : ma ≠ m) :
    (eriBlock boys (sa.scaleColumn m x) sb sc sd).get8 ma ca mb cb mc cc md cd
        * ((normCont (sa.scaleColumn m x)).get2 ma ca * (normCont sb).get2 mb cb *
            (normCont sc).get2 mc cc * (normCont sd).get2 md cd)
      = (eriBlock boys sa sb sc sd).get8 ma ca mb cb mc cc md cd
        * ((normCont sa).get2 ma ca * (normCont sb).get2 mb cb * (normCont sc).get2 mc cc *
            (normCont sd).get2 md cd) :=
  mul_slot₁ ((eriBlock_slotLinear_a Real.exp Real.sqrt Real.pi boys sb sc sd mb cb mc cc md cd).normalised_scaleColumn_other
    sa m x ma ca h (h.mono_a (scaleColumn_expsIn Real.exp Real.sqrt Real.pi sa m x) h.da) hm)

theorem eriBlock_normalised_scaleColumn_pos_b (boys : ℝ → ℕ → Tab ℝ) (sa sb sc sd : Shell ℝ)
    (m : ℕ) (x : ℝ) (ma ca cb mc cc md cd : ℕ)
        (h : EriOK Real.exp Real.sqrt Real.pi sa sb sc sd ca cb cc cd)
    (hn : sb.unitNorm = true) (hx : 0 < x) (hov : 0 < (overlapBlock sb sb).get4 m cb m cb) :
    (eriBlock boys sa (sb.scaleColumn m x) sc sd).get8 ma ca m cb mc cc md cd
        * ((normCont sa).get2 ma ca * (normCont (sb.scaleColumn m x)).get2 m cb * (normCont sc).get2
            mc cc * (normCont sd).get2 md cd)
      = (eriBlock boys sa sb sc sd).get8 ma ca m cb mc cc md cd
        * ((normCont sa).get2 ma ca * (normCont sb).get2 m cb * (normCont sc).get2 mc cc *
            (normCont sd).get2 md cd) :=
  mul_slot₂ ((eriBlock_slotLinear_b Real.exp Real.sqrt Real.pi boys sa sc sd ma ca mc cc md cd).normalised_scaleColumn_pos
    sb m x cb h (h.mono_b (scaleColumn_expsIn Real.exp Real.sqrt Real.pi sb m x) h.db) hn hx hov)

theorem eriBlock_normalised_scaleColumn_neg_b (boys : ℝ → ℕ → Tab ℝ) (sa sb sc sd : Shell ℝ)
    (m : ℕ) (x : ℝ) (ma ca cb mc cc md cd : ℕ)
        (h : EriOK Real.exp Real.sqrt Real.pi sa sb sc sd ca cb cc cd)
    (hn : sb.unitNorm = true) (hx : x < 0) (hov : 0 < (overlapBlock sb sb).get4 m cb m cb) :
    (eriBlock boys sa (sb.scaleColumn m x) sc sd).get8 ma ca m cb mc cc md cd
        * ((normCont sa).get2 ma ca * (normCont (sb.scaleColumn m x)).get2 m cb * (normCont sc).get2
            mc cc * (normCont sd).get2 md cd)
      = -((eriBlock boys sa sb sc sd).get8 ma ca m cb mc cc md cd
        * ((normCont sa).get2 ma ca * (normCont sb).get2 m cb * (normCont sc).get2 mc cc *
            (normCont sd).get2 md cd)) :=
  (mul_slot₂ (((eriBlock_slotLinear_b Real.exp Real.sqrt Real.pi boys sa sc sd ma ca mc cc md cd).normalised_scaleColumn_neg
    sb m x cb h (h.mono_b (scaleColumn_expsIn Real.exp Real.sqrt Real.pi sb m x) h.db) hn hx hov).trans
    (neg_mul _ _).symm)).trans (neg_mul _ _)

theorem eriBlock_normalised_scaleColumn_other_b (boys : ℝ → ℕ → Tab ℝ) (sa sb sc sd : Shell ℝ)
    (m : ℕ) (x : ℝ) (ma ca mb cb mc cc md cd : ℕ)
        (h : EriOK Real.exp Real.sqrt Real.pi sa sb sc sd ca cb cc cd)
    (hm : mb ≠ m) :
    (eriBlock boys sa (sb.scaleColumn m x) sc sd).get8 ma ca mb cb mc cc md cd
        * ((normCont sa).get2 ma ca * (normCont (sb.scaleColumn m x)).get2 mb cb *
            (normCont sc).get2 mc cc * (normCont sd).get2 md cd)
      = (eriBlock boys sa sb sc sd).get8 ma ca mb cb mc cc md cd
        * ((normCont sa).get2 ma ca * (normCont sb).get2 mb cb * (normCont sc).get2 mc cc *
            (normCont sd).get2 md cd) :=
  mul_slot₂ ((eriBlock_slotLinear_b Real.exp Real.sqrt Real.pi boys sa sc sd ma ca mc cc md cd).normalised_scaleColumn_other
    sb m x mb cb h (h.mono_b (scaleColumn_expsIn Real.exp Real.sqrt Real.pi sb m x) h.db) hm)

theorem eriBlock_normalised_scaleColumn_pos_c (boys : ℝ → ℕ → Tab ℝ) (sa sb sc sd : Shell ℝ)
    (m : ℕ) (x : ℝ) (ma ca mb cb cc md cd : ℕ)
        (h : EriOK Real.exp Real.sqrt Real.pi sa sb sc sd ca cb cc cd)
    (hn : sc.unitNorm = true) (hx : 0 < x) (hov : 0 < (overlapBlock sc sc).get4 m cc m cc) :
    (eriBlock boys sa sb (sc.scaleColumn m x) sd).get8 ma ca mb cb m cc md cd
        * ((normCont sa).get2 ma ca * (normCont sb).get2 mb cb *
            (normCont (sc.scaleColumn m x)).get2 m cc * (normCont sd).get2 md cd)
      = (eriBlock boys sa sb sc sd).get8 ma ca mb cb m cc md cd
        * ((normCont sa).get2 ma ca * (normCont sb).get2 mb cb * (normCont sc).get2 m cc *
            (normCont sd).get2 md cd) :=
  mul_slot₃ ((eriBlock_slotLinear_c Real.exp Real.sqrt Real.pi boys sa sb sd ma ca mb cb md cd).normalised_scaleColumn_pos
    sc m x cc h (h.mono_c (scaleColumn_expsIn Real.exp Real.sqrt Real.pi sc m x) h.dc) hn hx hov)

theorem eriBlock_normalised_scaleColumn_neg_c (boys : ℝ → ℕ → Tab ℝ) (sa sb sc sd : Shell ℝ)
    (m : ℕ) (x : ℝ) (ma ca mb cb cc md cd : ℕ)
        (h : EriOK Real.exp Real.sqrt Real.pi sa sb sc sd ca cb cc cd)
    (hn : sc.unitNorm = true) (hx : x < 0) (hov : 0 < (overlapBlock sc sc).get4 m cc m cc) :
    (eriBlock boys sa sb (sc.scaleColumn m x) sd).get8 ma ca mb cb m cc md cd
        * ((normCont sa).get2 ma ca * (normCont sb).get2 mb cb *
            (normCont (sc.scaleColumn m x)).get2 m cc * (normCont sd).get2 md cd)
      = -((eriBlock boys sa sb sc sd).get8 ma ca mb cb m cc md cd
        * ((normCont sa).get2 ma ca * (normCont sb).get2 mb cb * (normCont sc).get2 m cc *
            (normCont sd).get2 md cd)) :=
  (mul_slot₃ (((eriBlock_slotLinear_c Real.exp Real.sqrt Real.pi boys sa sb sd ma ca mb cb md cd).normalised_scaleColumn_neg
    sc m x cc h (h.mono_c (scaleColumn_expsIn Real.exp Real.sqrt Real.pi sc m x) h.dc) hn hx hov).trans
    (neg_mul _ _).symm)).trans (neg_mul _ _)

theorem eriBlock_normalised_scaleColumn_other_c (boys : ℝ → ℕ → Tab ℝ) (sa sb sc sd : Shell ℝ)
    (m : ℕ) (x : ℝ) (ma ca mb cb mc cc md cd : ℕ)
        (h : EriOK Real.exp Real.sqrt Real.pi sa sb sc sd ca cb cc cd)
    (hm : mc ≠ m) :
    (eriBlock boys sa sb (sc.scaleColumn m x) sd).get8 ma ca mb cb mc cc md cd
        * ((normCont sa).get2 ma ca * (normCont sb).get2 mb cb *
            (normCont (sc.scaleColumn m x)).get2 mc cc * (normCont sd).get2 md cd)
      = (eriBlock boys sa sb sc sd).get8 ma ca mb cb mc cc md cd
        * ((normCont sa).get2 ma ca * (normCont sb).get2 mb cb * (normCont sc).get2 mc cc *
            (normCont sd).get2 md cd) :=
  mul_slot₃ ((eriBlock_slotLinear_c Real.exp Real.sqrt Real.pi boys sa sb sd ma ca mb cb md cd).normalised_scaleColumn_other
    sc m x mc cc h (h.mono_c (scaleColumn_expsIn Real.exp Real.sqrt Real.pi sc m x) h.dc) hm)

theorem eriBlock_normalised_scaleColumn_pos_d (boys : ℝ → ℕ → Tab ℝ) (sa sb sc sd : Shell ℝ)
    (m : ℕ) (x : ℝ) (ma ca mb cb mc cc cd : ℕ)
        (h : EriOK Real.exp Real.sqrt Real.pi sa sb sc sd ca cb cc cd)
    (hn : sd.unitNorm = true) (hx : 0 < x) (hov : 0 < (overlapBlock sd sd).get4 m cd m cd) :
    (eriBlock boys sa sb sc (sd.scaleColumn m x)).get8 ma ca mb cb mc cc m cd
        * ((normCont sa).get2 ma ca * (normCont sb).get2 mb cb * (normCont sc).get2 mc cc *
            (normCont (sd.scaleColumn m x)).get2 m cd)
      = (eriBlock boys sa sb sc sd).get8 ma ca mb cb mc cc m cd
        * ((normCont sa).get2 ma ca * (normCont sb).get2 mb cb * (normCont sc).get2 mc cc *
            (normCont sd).get2 m cd) :=
  mul_slot₄ ((eriBlock_slotLinear_d Real.exp Real.sqrt Real.pi boys sa sb sc ma ca mb cb mc cc).normalised_scaleColumn_pos
    sd m x cd h (h.mono_d (scaleColumn_expsIn Real.exp Real.sqrt Real.pi sd m x) h.dd) hn hx hov)

theorem eriBlock_normalised_scaleColumn_neg_d (boys : ℝ → ℕ → Tab ℝ) (sa sb sc sd : Shell ℝ)
    (m : ℕ) (x : ℝ) (ma ca mb cb mc cc cd : ℕ)
        (h : EriOK Real.exp Real.sqrt Real.pi sa sb sc sd ca cb cc cd)
    (hn : sd.unitNorm = true) (hx : x < 0) (hov : 0 < (overlapBlock sd sd).get4 m cd m cd) :
    (eriBlock boys sa sb sc (sd.scaleColumn m x)).get8 ma ca mb cb mc cc m cd
        * ((normCont sa).get2 ma ca * (normCont sb).get2 mb cb * (normCont sc).get2 mc cc *
            (normCont (sd.scaleColumn m x)).get2 m cd)
      = -((eriBlock boys sa sb sc sd).get8 ma ca mb cb mc cc m cd
        * ((normCont sa).get2 ma ca * (normCont sb).get2 mb cb * (normCont sc).get2 mc cc *
            (normCont sd).get2 m cd)) :=
  (mul_slot₄ (((eriBlock_slotLinear_d Real.exp Real.sqrt Real.pi boys sa sb sc ma ca mb cb mc cc).normalised_scaleColumn_neg
    sd m x cd h (h.mono_d (scaleColumn_expsIn Real.exp Real.sqrt Real.pi sd m x) h.dd) hn hx hov).trans
    (neg_mul _ _).symm)).trans (neg_mul _ _)

theorem eriBlock_normalised_scaleColumn_other_d (boys : ℝ → ℕ → Tab ℝ) (sa sb sc sd : Shell ℝ)
    (m : ℕ) (x : ℝ) (ma ca mb cb mc cc md cd : ℕ)
        (h : EriOK Real.exp Real.sqrt Real.pi sa sb sc sd ca cb cc cd)
    (hm : md ≠ m) :
    (eriBlock boys sa sb sc (sd.scaleColumn m x)).get8 ma ca mb cb mc cc md cd
        * ((normCont sa).get2 ma ca * (normCont sb).get2 mb cb * (normCont sc).get2 mc cc *
            (normCont (sd.scaleColumn m x)).get2 md cd)
      = (eriBlock boys sa sb sc sd).get8 ma ca mb cb mc cc md cd
        * ((normCont sa).get2 ma ca * (normCont sb).get2 mb cb * (normCont sc).get2 mc cc *
            (normCont sd).get2 md cd) :=
  mul_slot₄ ((eriBlock_slotLinear_d Real.exp Real.sqrt Real.pi boys sa sb sc ma ca mb cb mc cc).normalised_scaleColumn_other
    sd m x md cd h (h.mono_d (scaleColumn_expsIn Real.exp Real.sqrt Real.pi sd m x) h.dd) hm)


/-! ## The statements over an arbitrary field apply verbatim to `Shell ℝ` -/

example (s t : Shell ℝ) (m ca mb cb : ℕ) :
    (overlapBlock (s.column m) t).get4 0 ca mb cb = (overlapBlock s t).get4 m ca mb cb :=
  overlapBlock_column Real.exp Real.sqrt Real.pi s t m ca mb cb

example (s t : Shell ℝ) (σ : Equiv.Perm (Fin s.nprim)) (ma ca mb cb : ℕ) :
    (kineticBlock (s.permPrims (permOfFin σ)) t).get4 ma ca mb cb
      = (kineticBlock s t).get4 ma ca mb cb :=
  kineticBlock_permPrims Real.exp Real.sqrt Real.pi s t _ ma ca mb cb (permOfFin_lt σ)
    (permOfFin_inj σ)

example (boys : ℝ → ℕ → Tab ℝ) (sa sb sc sd : Shell ℝ) (j : ℕ) (x : ℝ)
    (ma ca mb cb mc cc md cd : ℕ)
    (ha : ∀ k < sa.nprim, 0 < sa.exp! k) (hb : ∀ k < sb.nprim, 0 < sb.exp! k)
    (hc : ∀ k < sc.nprim, 0 < sc.exp! k) (hd : ∀ k < sd.nprim, 0 < sd.exp! k)
    (da : sa.degOK ca) (db : sb.degOK cb) (dc : sc.degOK cc) (dd : sd.degOK cd)
    (hj : j < sc.nprim) :
    (eriBlock boys sa sb (sc.splitPrim j x) sd).get8 ma ca mb cb mc cc md cd
      = (eriBlock boys sa sb sc sd).get8 ma ca mb cb mc cc md cd :=
  eriBlock_splitPrim_c Real.exp Real.sqrt Real.pi boys sa sb sc sd j x ma ca mb cb mc cc md cd
    (EriOK.of_pos sa sb sc sd ca cb cc cd ha hb hc hd da db dc dd) hj

end BlocksReal

end GB
