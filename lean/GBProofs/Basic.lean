import GBModel
import Mathlib.Algebra.Field.Defs
import Mathlib.Algebra.BigOperators.Group.List.Basic
import Mathlib.Algebra.BigOperators.Group.Finset.Basic
import Mathlib.Algebra.BigOperators.Intervals
import Mathlib.Data.Nat.Choose.Basic
import Mathlib.Tactic.Ring
import Mathlib.Tactic.FieldSimp

/-!
# Bridge between the operations-only model class and Mathlib's algebraic hierarchy

Every field is a `Num`; with this (reducible) instance the model's definitions
unfold to ordinary field expressions and `ring` / `field_simp` apply.  Also here, because every later file needs them:
the model's `choose`, `dfactOdd`, `sumN`, `powN` in Mathlib's terms, and the default Cartesian component list
(`mem_defaultCart`, `defaultCart_nodup`).
-/

@[reducible] instance fieldNum {K : Type} [Field K] : Num K := { nat := fun n => (n : K) }

namespace GB
variable {K : Type} [Field K]

@[simp] theorem num_nat (n : ℕ) : (Num.nat n : K) = (n : K) := rfl

theorem sumL_eq_sum (l : List K) : sumL l = l.sum := by
  induction l with
  | nil => simp [sumL]
  | cons x xs ih => simp [sumL, ih]

theorem sumN_eq_sum (n : ℕ) (f : ℕ → K) : sumN n f = ∑ i ∈ Finset.range n, f i := by
  unfold sumN
  rw [sumL_eq_sum]
  induction n with
  | zero => simp
  | succ n ih => rw [List.range_succ, List.map_append, List.sum_append, ih, Finset.sum_range_succ]; simp

theorem powN_eq_pow (x : K) (n : ℕ) : powN x n = x ^ n := by
  induction n with
  | zero => simp [powN]
  | succ n ih => simp [powN, ih, pow_succ]

/-! ## The model's combinatorial functions are Mathlib's -/

theorem choose_eq_choose (n k : ℕ) : GB.choose n k = Nat.choose n k := by
  induction n generalizing k with
  | zero => cases k <;> simp [GB.choose]
  | succ n ih => cases k with
    | zero => simp [GB.choose]
    | succ k => simp [GB.choose, ih, Nat.choose_succ_succ]

theorem dfactOdd_pos (n : ℕ) : 0 < dfactOdd n := by
  induction n with
  | zero => simp [dfactOdd]
  | succ k ih => exact Nat.mul_pos (Nat.succ_pos _) ih

theorem sum_map_eq_sum_range {β M : Type*} [AddCommMonoid M] (l : List β) (d : β) (f : β → M) :
    (l.map f).sum = ∑ i ∈ Finset.range l.length, f (l.getD i d) := by
  induction l with
  | nil => rfl
  | cons x xs ih =>
    rw [List.map_cons, List.sum_cons, List.length_cons, Finset.sum_range_succ', ih, add_comm]
    rfl

/-! ## The default component list holds each exponent triple of total degree `l` exactly once -/

theorem mem_defaultCart (l : ℕ) (c : Comp) :
    c ∈ defaultCart l ↔ c.1 + c.2.1 + c.2.2 = l := by
  obtain ⟨x, y, z⟩ := c
  simp only [defaultCart, List.mem_flatMap, List.mem_map, List.mem_reverse, List.mem_range,
    Prod.mk.injEq]
  constructor
  · rintro ⟨x', hx', y', hy', rfl, rfl, rfl⟩
    omega
  · intro h
    exact ⟨x, by omega, y, by omega, rfl, rfl, by omega⟩

theorem defaultCart_nodup (l : ℕ) : (defaultCart l).Nodup := by
  unfold defaultCart
  rw [List.nodup_flatMap]
  refine ⟨fun x _ => ?_, ?_⟩
  · refine List.Nodup.map ?_ (List.nodup_reverse.mpr List.nodup_range)
    intro y y' h
    simp only [Prod.mk.injEq, true_and] at h
    exact h.1
  · refine List.Pairwise.imp_of_mem ?_ (List.nodup_reverse.mpr List.nodup_range)
    intro x x' _ _ hne
    simp only [Function.onFun, List.disjoint_left, List.mem_map, List.mem_reverse, List.mem_range]
    rintro c ⟨y, _, rfl⟩ ⟨y', _, h⟩
    simp only [Prod.mk.injEq] at h
    exact hne h.1.symm

end GB
