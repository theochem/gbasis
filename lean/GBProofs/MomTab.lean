import GBProofs.GaussFunctional

/-!
# The moment-type recursion table equals the Gaussian-functional specification

`momTab` models `_compute_multipole_moment_integrals_intermediate`; its entry `[k][j][i]` is `base`
times `S3 p PA PB PC i j k`, with no bound on the indices or on the table sizes (a `Tab` read out
of range returns the value of its generating function).  The three nested recursions of the code
(`momRow0` in `i`, `momRows` in `j`, `momPlanes` in `k`) are `S3_succ_i`, `S3_succ_j`, `S3_succ_k`;
`momRows` and `momPlanes` return the previous slice as second component, so the induction carries a
statement about it too, guarded by `0 < j` resp. `0 < k`.
-/
namespace GB
variable {K : Type} [Field K] [CharZero K]

theorem lin2_spec (f0 f1 : K) (s : ℕ → K → K → K) (T : ℕ → K)
    (h0 : T 0 = f0) (h1 : T 1 = f1) (hs : ∀ n, T (n+2) = s n (T n) (T (n+1))) (n : ℕ) :
    lin2 f0 f1 s n = (T n, T (n+1)) := by
  induction n with
  | zero => simp [lin2, h0, h1]
  | succ n ih => simp [lin2, ih, hs]

theorem momRow0_eq (p PA PB PC base : K) (hp : p ≠ 0) (i : ℕ) :
    momRow0 (1/(2*p)) PA base i = base * S3 p PA PB PC i 0 0 := by
  unfold momRow0
  rw [lin2_spec _ _ _ (fun i => base * S3 p PA PB PC i 0 0)]
  · simp [S3_zero]
  · rw [S3_succ_i p PA PB PC hp 0 0 0]; simp [S3_zero, mul_comm]
  · intro n
    rw [S3_succ_i p PA PB PC hp (n+1) 0 0]
    simp only [num_nat, Nat.add_sub_cancel]
    push_cast
    ring

theorem momRows_eq (p PA PB PC base : K) (hp : p ≠ 0) (ni : ℕ) (j : ℕ) :
    (∀ i, (momRows (1/(2*p)) PA PB base ni j).1.get i = base * S3 p PA PB PC i j 0) ∧
    (∀ i, 0 < j → (momRows (1/(2*p)) PA PB base ni j).2.get i = base * S3 p PA PB PC i (j-1) 0) := by
  induction j with
  | zero =>
    refine ⟨fun i => ?_, fun i h => absurd h (lt_irrefl 0)⟩
    simp only [momRows, tab_get]
    exact momRow0_eq p PA PB PC base hp i
  | succ j ih =>
    obtain ⟨ih1, ih2⟩ := ih
    refine ⟨fun i => ?_, fun i _ => ?_⟩
    · simp only [momRows, tab_get, ih1]
      rw [S3_succ_j p PA PB PC hp i j 0]
      rcases Nat.eq_zero_or_pos j with rfl | hj
      · simp only [num_nat]; push_cast; ring
      · rw [ih2 i hj]; simp only [num_nat]; push_cast; ring
    · simp only [momRows, Nat.add_sub_cancel]
      exact ih1 i

theorem momPlanes_eq (p PA PB PC base : K) (hp : p ≠ 0) (nj ni : ℕ) (k : ℕ) :
    (∀ j i, (momPlanes (1/(2*p)) PA PB PC base nj ni k).1.get2 j i = base * S3 p PA PB PC i j k) ∧
    (∀ j i, 0 < k → (momPlanes (1/(2*p)) PA PB PC base nj ni k).2.get2 j i
        = base * S3 p PA PB PC i j (k-1)) := by
  induction k with
  | zero =>
    refine ⟨fun j i => ?_, fun j i h => absurd h (lt_irrefl 0)⟩
    simp only [momPlanes, Tab.get2, tab_get]
    exact (momRows_eq p PA PB PC base hp ni j).1 i
  | succ k ih =>
    obtain ⟨ih1, ih2⟩ := ih
    refine ⟨fun j i => ?_, fun j i _ => ?_⟩
    · simp only [momPlanes, tab2_get, ih1]
      rw [S3_succ_k p PA PB PC hp i j k]
      rcases Nat.eq_zero_or_pos k with rfl | hk
      · simp only [num_nat]; ring
      · rw [ih2 j i hk]; simp only [num_nat]; push_cast; ring
    · simp only [momPlanes, Nat.add_sub_cancel]
      exact ih1 j i

theorem momTab_eq (p PA PB PC base : K) (hp : p ≠ 0) (nk nj ni : ℕ) (k j i : ℕ) :
    (momTab (1/(2*p)) PA PB PC base nk nj ni).get3 k j i = base * S3 p PA PB PC i j k := by
  simp only [momTab, Tab.get3, tab_get]
  exact (momPlanes_eq p PA PB PC base hp nj ni k).1 j i

end GB
