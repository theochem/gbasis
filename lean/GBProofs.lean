import GBProofs.Basic
import GBProofs.RealInst
import GBProofs.GaussFunctional
import GBProofs.GaussIntegral
import GBProofs.MomTab
import GBProofs.DiffTab
import GBProofs.EvalDeriv
import GBProofs.Block3D
import GBProofs.TranslationLaws
import GBProofs.OriginShift
import GBProofs.ContractionLaws
import GBProofs.OneElecProofs
import GBProofs.RysAnalytic
import GBProofs.BoysSeries
import GBProofs.CoulombGeneral
import GBProofs.PointChargeBlock
import GBProofs.CoulombTwoElectron
import GBProofs.EriBlock
import GBProofs.EriIntegral
import GBProofs.GramLaws
import GBProofs.Definiteness
import GBProofs.Harmonics
import GBProofs.SphericalNorm
import GBProofs.RigidMotion
import GBProofs.TraceLaws
import GBProofs.AngMom
import GBProofs.MomentMotion
import GBProofs.AngMomMotion
import GBProofs.SphRotation
import GBProofs.Layout
import GBProofs.Layout14
import GBProofs.Reorder
import GBProofs.ScreenLaws
import GBProofs.ScreenArray
import GBProofs.EspLaws
import GBProofs.ArrayDefiniteness
import GBProofs.ArrayMotion
import GBProofs.ArrayMotion2
import GBProofs.EriArrayDefiniteness
import GBProofs.BlockContraction
import GBProofs.ArrayContractionLayout
import GBProofs.ArrayContraction
import GBProofs.ArrayContraction14
import GBProofs.ArrayAsym
import GBProofs.FormsProofs
import GBProofs.SmoothInstance
import GBProofs.DensityMotion
import GBProofs.FormsBridge
import GBProofs.AxisCalculus
import GBProofs.ParserProofs
import GBProofs.PurityProofs
import GBProofs.DispatchProofs
import GBProofs.FormulaProofs
import GBProofs.Obl.Dispatch
import GBProofs.Obl.Effects
import GBProofs.Obl.Forms
import GBProofs.Obl.FormulasBoys
import GBProofs.Obl.FormulasDensity
import GBProofs.Obl.FormulasEri
import GBProofs.Obl.FormulasEsp
import GBProofs.Obl.FormulasHarmonicNorm
import GBProofs.Obl.FormulasNormPrim
import GBProofs.Obl.FormulasScreen
import GBProofs.Obl.Pipelines
import GBProofs.Obl.PipelinesSound
import GBProofs.Obl.Signatures
import GBProofs.Obl.Tables
import GBProofs.Props.C01
import GBProofs.Props.C01layout
import GBProofs.Props.C02
import GBProofs.Props.C02full
import GBProofs.Props.C03
import GBProofs.Props.C03full
import GBProofs.Props.C04
import GBProofs.Props.C04full
import GBProofs.Props.C04layout
import GBProofs.Props.C05
import GBProofs.Props.C05layout
import GBProofs.Props.C06
import GBProofs.Props.C06smooth
import GBProofs.Props.C07
import GBProofs.Props.C08
import GBProofs.Props.C08full
import GBProofs.Props.C09
import GBProofs.Props.C09layout
import GBProofs.Props.C10
import GBProofs.Props.C11
import GBProofs.Props.C11layout
import GBProofs.Props.C12
import GBProofs.Props.C12full
import GBProofs.Props.C13
import GBProofs.Props.C14
import GBProofs.Props.C14full
import GBProofs.Props.C14int
import GBProofs.Props.C15
import GBProofs.Props.C16
import GBProofs.Props.C16full
import GBProofs.Props.C17
import GBProofs.Props.C17full
import GBProofs.Props.C18
import GBProofs.Props.C18full
import GBProofs.Props.C19
import GBProofs.Props.C20
